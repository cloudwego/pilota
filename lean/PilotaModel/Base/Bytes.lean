/-
  Base definitions shared by every model: byte strings, the outcome type with
  explicit panic branches, two's-complement fixed-width integers.
  Import-free (core only) so that the `pmodel` driver links as a `lean_exe`.
-/
namespace Pilota

abbrev Bytes := List UInt8

/-- Coarse error classes. T1 compares only `ok / err / depth / panic`. -/
inductive ErrKind where
  | invalid | eof | depth | badVersion | other
  deriving DecidableEq, Repr, Inhabited

/-- Outcome of a modelled Rust call.  `panic` is a Rust precondition violation
(`unwrap` on `None`, `split_to` past the end, overflow in a debug build, …);
`fuel` is exhaustion of the model's own recursion budget and never corresponds to
a Rust behaviour (theorems show it is not reached). -/
inductive Out (α : Type) where
  | ok (a : α)
  | err (k : ErrKind)
  | panic (site : String)
  | fuel
  deriving Repr, Inhabited

deriving instance DecidableEq for Out

namespace Out
@[inline] def bind {α β} (x : Out α) (f : α → Out β) : Out β :=
  match x with
  | .ok a => f a
  | .err k => .err k
  | .panic s => .panic s
  | .fuel => .fuel

instance : Monad Out where
  pure := .ok
  bind := Out.bind

@[simp] theorem bind_ok {α β} (a : α) (f : α → Out β) : (Out.ok a >>= f) = f a := rfl
@[simp] theorem bind_err {α β} (k) (f : α → Out β) : ((Out.err k : Out α) >>= f) = .err k := rfl
@[simp] theorem bind_panic {α β} (s) (f : α → Out β) : ((Out.panic s : Out α) >>= f) = .panic s := rfl
@[simp] theorem bind_fuel {α β} (f : α → Out β) : ((Out.fuel : Out α) >>= f) = .fuel := rfl
@[simp] theorem pure_eq {α} (a : α) : (pure a : Out α) = .ok a := rfl

def isPanic {α} : Out α → Bool
  | .panic _ => true
  | _ => false

def isOk {α} : Out α → Bool
  | .ok _ => true
  | _ => false

def cls {α} : Out α → String
  | .ok _ => "ok"
  | .err .depth => "depth"
  | .err _ => "err"
  | .panic _ => "panic"
  | .fuel => "fuel"
end Out

/-! ### Fixed-width integers -/

/-- `w` little-endian bytes of `n mod 256^w`. -/
def natToLE : Nat → Nat → Bytes
  | 0, _ => []
  | w+1, n => UInt8.ofNat (n % 256) :: natToLE w (n / 256)

def leToNat : Bytes → Nat
  | [] => 0
  | b :: bs => b.toNat + 256 * leToNat bs

def natToBE (w n : Nat) : Bytes := (natToLE w n).reverse
def beToNat (bs : Bytes) : Nat := leToNat bs.reverse

/-- unsigned representative of a two's-complement integer on `w` bytes (Rust `as uN`). -/
def toU (w : Nat) (i : Int) : Nat := (i % ((256 ^ w : Nat) : Int)).toNat

/-- signed reading of an unsigned `w`-byte number (Rust `as iN`). -/
def toS (w : Nat) (n : Nat) : Int :=
  if n % 256 ^ w < 256 ^ w / 2 then ((n % 256 ^ w : Nat) : Int)
  else ((n % 256 ^ w : Nat) : Int) - ((256 ^ w : Nat) : Int)

/-- `i` fits a signed `w`-byte integer. -/
def inS (w : Nat) (i : Int) : Prop := -((256 ^ w / 2 : Nat) : Int) ≤ i ∧ i < ((256 ^ w / 2 : Nat) : Int)

instance (w i) : Decidable (inS w i) := by unfold inS; exact inferInstance

inductive Endian where | be | le
  deriving DecidableEq, Repr

def encFixed (e : Endian) (w : Nat) (n : Nat) : Bytes :=
  match e with
  | .be => natToBE w n
  | .le => natToLE w n

def decFixed (e : Endian) (bs : Bytes) : Nat :=
  match e with
  | .be => beToNat bs
  | .le => leToNat bs

/-! ### hex -/

def hexDigit (n : Nat) : Char :=
  if n < 10 then Char.ofNat (48 + n) else Char.ofNat (87 + n)

def toHex (bs : Bytes) : String :=
  String.ofList (bs.flatMap fun b => [hexDigit (b.toNat / 16), hexDigit (b.toNat % 16)])

def hexVal (c : Char) : Option Nat :=
  if '0' ≤ c ∧ c ≤ '9' then some (c.toNat - 48)
  else if 'a' ≤ c ∧ c ≤ 'f' then some (c.toNat - 87)
  else if 'A' ≤ c ∧ c ≤ 'F' then some (c.toNat - 55)
  else none

def ofHexChars : List Char → Option Bytes
  | [] => some []
  | [_] => none
  | a :: b :: rest => do
    let x ← hexVal a
    let y ← hexVal b
    let r ← ofHexChars rest
    pure (UInt8.ofNat (x * 16 + y) :: r)

/-- `-` denotes the empty byte string in harness requests. -/
def ofHex (s : String) : Option Bytes :=
  if s == "-" then some [] else ofHexChars s.toList

def hexOrDash (bs : Bytes) : String := if bs.isEmpty then "-" else toHex bs

end Pilota
