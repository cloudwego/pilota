import PilotaModel.Lemmas.PbGroupLadder
import PilotaModel.Lemmas.PbNestLimit
import PilotaModel.Lemmas.PbGroup
/-
  C10 — protobuf decoders are total and bounded on arbitrary bytes.
  `.panic` is a violated Rust precondition (assert, get_unchecked, advance, copy_to_bytes,
  get_u8, `unreachable!`); `.fuel` is exhaustion of a model loop budget (each loop is given
  `remaining + 1` iterations).
-/
namespace Pilota.Props.C10
open Pilota Pilota.Proto

def total {α} (o : Out α) : Prop := (∀ e, o ≠ .panic e) ∧ o ≠ .fuel

theorem total_of_good {α} {P : α → Prop} (o : Out α) (h : Out.good P o) : total o := by
  cases o <;> simp_all [Out.good, total]

/-- **the three paths of `decode_varint` agree**: the slow path on every input, the slice path
wherever its guard (`!is_empty && (len > 10 || last < 0x80)`) holds, and the function itself, all
compute the reference reading `decVarSpec` (value, bytes consumed, or error). -/
theorem varint_paths (bs : Bytes) :
    varintSlow bs = decVarSpec bs ∧
    (slicePre bs = true → varintViaSlice bs = decVarSpec bs) ∧
    decodeVarint bs = decVarSpec bs :=
  ⟨varintSlow_spec bs, varintViaSlice_spec bs, decodeVarint_eq_spec bs⟩

/-- wherever the guard allows both, slice path = slow path. -/
theorem varint_slice_eq_slow (bs : Bytes) (h : slicePre bs = true) : varintViaSlice bs = varintSlow bs := by
  rw [varintViaSlice_spec bs h, varintSlow_spec]

/-- runtime level: no wire function panics on any input. -/
theorem wire_total (bs : Bytes) (ctx : Nat) (wt : WireType) (tag : Nat) :
    total (decodeVarint bs) ∧ total (decodeKey bs) ∧ total (skipField ctx wt tag bs) :=
  ⟨total_of_good _ (decodeVarint_reader [] bs).safe, total_of_good _ (decodeKey_reader [] bs).safe,
   total_of_good _ (skipField_skipper [] ctx wt tag bs).safe⟩

/-- runtime level: every codec module's `merge` and `merge_repeated` (packed and unpacked arm,
any wire type) and the field loop over them. -/
theorem scalar_total (c : Codec) (wt : WireType) (acc : List SVal) (bs : Bytes) :
    total (c.merge wt bs) ∧ total (c.mergeRepeated wt acc bs) ∧ total (c.mergeAll (bs.length + 1) acc bs) :=
  ⟨total_of_good _ (Codec.merge_reader c wt [] bs).safe, total_of_good _ (Codec.mergeRepeated_reader c wt acc [] bs).safe,
   total_of_good _ (Codec.mergeAll_good c _ acc bs (by omega))⟩

/-- **`Message::decode` of any generated message on any byte string never panics** (every schema,
including ill-formed ones; every message index). -/
theorem pb_total (s : Schema) (i : Nat) (bs : Bytes) : total (decode s i bs) :=
  total_of_good _ (decodeIntoCtx_good s recursionLimit i _ bs)

/-- `Message::merge` into any existing value, with any remaining recursion budget. -/
theorem merge_total (s : Schema) (ctx i : Nat) (m : Slots) (bs : Bytes) : total (decodeIntoCtx s ctx i m bs) :=
  total_of_good _ (decodeIntoCtx_good s ctx i m bs)

/-- `Message::decode_length_delimited`. -/
theorem length_delimited_total (s : Schema) (i : Nat) (bs : Bytes) : total (decodeLengthDelimited s i bs) :=
  total_of_good _ (decodeLengthDelimited_good s i bs)

/-- `group::merge` (runtime API) on any bytes, any tag, any wire type, any budget. -/
theorem group_total (s : Schema) (ctx tag : Nat) (wt : WireType) (i : Nat) (m : Slots) (bs : Bytes) :
    total (groupMerge s ctx tag wt i m bs) :=
  total_of_good _ (groupMerge_good s ctx tag wt i m bs)

/-- the emitted `merge_field` itself, for any tag and wire type; a success never leaves more
input than it was given (the loops around it make progress). -/
theorem merge_field_total (s : Schema) (ctx : Nat) (ds : List FieldDecl) (m : Slots) (tag : Nat) (wt : WireType) (bs : Bytes) :
    Out.good (fun p => p.2.length ≤ bs.length) (mergeField s ctx ds m tag wt bs) :=
  mergeField_ok s ctx ds m tag wt bs

/-- the oneof `unreachable!` arm: the arm of a oneof field is entered only for tags among its
variants' field numbers (`field_tags`), and for those `<Enum>::merge` has an arm. -/
theorem oneof_unreachable (vs : List (Nat × FTy)) (tag : Nat) (h : (FieldDecl.oneof vs).tags.contains tag = true) :
    ∃ ty, lookupVariant vs tag = some ty := lookupVariant_some vs tag h

/-- the recursion budget: `limit_reached` is checked before every `enter_recursion`, so the `u32`
never underflows; and with the budget exhausted a nested message, a map entry and a skipped
field are refused whatever the bytes are.  (The decoders of the model do not call `limitReached` / `enterRecursion`: their
budget is the `Option` continuation `recurOf`; the first two conjuncts are what ties the two functions to it.) -/
theorem recursion_limit (s : Schema) (i : Nat) (cur : EVal) (bs : Bytes) (ctx : Nat) :
    (limitReached ctx = .ok () → enterRecursion ctx = .ok (ctx - 1) ∧ recurOf s ctx = some (mergeField s (ctx - 1))) ∧
    (limitReached ctx = .err .depth ↔ recurOf s ctx = none) ∧
    mergeE s (recurOf s 0) (.msg i) cur .len bs = .err .depth ∧
    (∀ t kc vty kvs tag wt, mergeSlot s (recurOf s 0) (.map t kc vty) (.map kvs) tag wt bs = .err .depth) ∧
    (∀ wt tag, skipField 0 wt tag bs = .err .depth) := by
  refine ⟨?_, ?_, ?_, ?_, ?_⟩
  · intro h
    cases ctx with
    | zero => simp [limitReached] at h
    | succ c => exact ⟨rfl, rfl⟩
  · cases ctx <;> simp [limitReached, recurOf]
  · simp [mergeE, checkWireType, recurOf]
  · intro t kc vty kvs tag wt; simp [mergeSlot, recurOf]
  · intro wt tag; simp [skipField]

/-- groups: an unknown group field containing `n` further nested groups is skipped iff the budget
exceeds `n`; with the top-level budget of 100 that is nesting depth 100; depth 101 is refused with
the recursion-limit error. -/
theorem group_recursion_limit (tag : Nat) (h1 : minTag ≤ tag) (h2 : tag ≤ maxTag) (n ctx : Nat) (rest : Bytes) :
    skipField ctx .sgroup tag (groupBody tag n ++ rest) = if n < ctx then .ok rest else .err .depth :=
  skip_group_ladder tag h1 h2 n ctx rest

/-- messages: `message Rec { optional Rec inner = 1; }` (`selfRec`) nested `n` deep is decoded with
budget `ctx` exactly when `n ≤ ctx`; deeper nesting is refused with the recursion-limit error —
with the top-level budget 100, nesting 100 decodes and nesting 101 is an error.  (For every other
schema: `pb_roundtrip` needs `needSlots m ≤ 100`, and `recursion_limit` refuses at budget 0.) -/
theorem message_recursion_limit (flag : Bool) (n ctx : Nat) (hy : okSlots selfRec flag (decls selfRec 0) (nestV n) = true) :
    decodeIntoCtx selfRec ctx 0 (nestV 0) (encode selfRec flag 0 (nestV n)) = if n ≤ ctx then .ok (nestV n) else .err .depth :=
  nest_limit flag n ctx hy

/-- a length prefix larger than what remains is refused before the copy: `bytes::merge`,
`merge_loop` (messages, packed runs, map entries) and `skip_field` return the error without
reaching `copy_to_bytes` / `advance` (whose own precondition is therefore never violated, by
`pb_total`). -/
theorem len_prefix_checked (bs r : Bytes) (len : Nat) (h : decodeVarint bs = .ok (len, r)) (hl : len > r.length) :
    Codec.mergeBytes bs = .err .invalid ∧
    (∀ {σ : Type} (step : σ → Bytes → Out (σ × Bytes)) (st : σ), mergeLoop step st bs = .err .invalid) ∧
    (∀ ctx tag, skipField (ctx + 1) .len tag bs = .err .invalid) := by
  refine ⟨?_, ?_, ?_⟩
  · simp [Codec.mergeBytes, h, hl]
  · intro σ step st; simp [mergeLoop, h, hl]
  · intro ctx tag; simp [skipField, h, hl]

/-- fixed-width values: fewer bytes than the width is an error, not a `get_*_le` panic. -/
theorem fixed_width_checked (c : Codec) (w : Nat) (hs : c.shape = .fixed w) (bs : Bytes) (h : bs.length < w) :
    c.merge c.wt bs = .err .invalid := by
  simp [Codec.merge, checkWireType, Codec.mergePayload, hs, h]

/-- steps: every loop of the decoder (field loop, `merge_loop`, group loop) is given
`remaining + 1` iterations and never exhausts them (`.fuel` is excluded by `pb_total`), because
every iteration consumes at least one byte. -/
theorem pb_steps_partial (s : Schema) (ctx : Nat) (ds : List FieldDecl) :
    StepOK (fieldStep (mergeField s ctx) ds) := mergeFieldStep_ok s ctx ds
/- Full statement (not proved): a global step counter bounded by `c * bs.length + c0` over the
whole nested decode, and an allocation counter bounded linearly.  Nesting is bounded by 100 and
each level's loops by its own remaining bytes, which gives `100 * bs.length` informally; the model
carries no step or allocation counter.  Allocation is measured by T1 only (harness). -/

/-! ### strings: what the two string modules do (facts about the modules, NOT part of C10)

C10 asks for "a message or a decode error", no panic, bounded work; it does not ask that string fields be
validated, and pilota does not validate on any of its decode paths by design (`from_bytes_unchecked` /
`from_utf8_unchecked` in every Thrift reader and in `faststr::merge`).
The two theorems below record the behaviour of the modules as modelled and tied by T1. -/

/-- the `string` module validates. -/
theorem string_module_validates_utf8 (wt : WireType) (bs : Bytes) (v : SVal) (r : Bytes)
    (h : Codec.string.merge wt bs = .ok (v, r)) : ∃ b, v = .bs b ∧ validUtf8 b = true := by
  simp only [Codec.merge, Codec.mergePayload, Codec.shape] at h
  split at h
  · split at h
    · split at h
      · cases h
      · rename_i hu
        cases h
        exact ⟨_, rfl, by simpa using hu⟩
    all_goals cases h
  all_goals cases h

/-- `faststr::merge` does not validate (same bytes in, same bytes out): a one-byte string `ff`. -/
theorem faststr_module_does_not_validate :
    Codec.faststr.merge .len [0x01, 0xff] = .ok (.bs [0xff], []) ∧ validUtf8 [0xff] = false := by
  constructor
  · rfl
  · decide

/-! non-vacuity: an input that takes the slice path, a ten-byte varint that overflows, a oneof tag, a tag in range, a nested value. -/
example : slicePre [0x80, 0x01] = true := by decide
example : decodeVarint [0xff, 0xff, 0xff, 0xff, 0xff, 0xff, 0xff, 0xff, 0xff, 0x02] = .err .invalid := by rfl
example : (FieldDecl.oneof [(2, .scalar .faststr), (4, .scalar .int32)]).tags.contains 4 = true := by decide
example : minTag ≤ 7 ∧ 7 ≤ maxTag := by decide
example : okSlots selfRec false (decls selfRec 0) (nestV 3) = true := by decide

end Pilota.Props.C10
