import PilotaModel.Lemmas.Strip
import PilotaModel.Lemmas.Tolerant
import PilotaModel.Lemmas.TolerantC
/-
  C08, schema evolution by REMOVED fields, stated over typed values with an explicit result.  `Props/C08.tolerant_*` say that
  the emitted decoder computes the value-level projection `projTy` of whatever well-typed wire value arrives; here the writer
  has the full document `dw`, the reader a document `restrict dw keep` that lacks any set of struct fields (its union variants
  kept), the plain non-retaining decoder is used, and the result is given in closed form: `strip` (Lemmas/Strip.lean) - the typed
  value without the removed fields at every level (sets and maps rebuilt by insertion).  So: unknown fields are ignored wherever
  they sit, known fields decode to what they would decode to on their own, nothing else changes, no error arises, and the
  result is a typed value of the READER's document (`reader_result_typed`).
-/
namespace Pilota.Props.C08b
open Pilota Pilota.Thrift Pilota.TGen

/-- value level: for every sufficiently large recursion budget of the model -/
theorem reader_lacking_fields_value (dw : Doc) (keep : String → Field → Bool) (dpr : Option Nat) (hd : dw.fieldsOk)
    (hv : ∀ n vs, dw.find n = some (.union vs) → ∀ x ∈ vs, keepVariant keep n x = true)
    (f : Nat) (ty : STy) (w : TVal) (ht : hasTy dw f ty w = true) (ha : admits dpr w.need) :
    ∃ G, ∀ g, G ≤ g → projTy (restrict dw keep) dpr g ty w = some (.ok (strip dw keep f ty w)) := by
  obtain ⟨G, hG⟩ := tolerant_strip_all dw keep dpr hd hv f ty w ht ((admitsB_iff dpr _).mpr ha)
  exact ⟨G, fun g hg => projTy_mono _ dpr G g hg ty w _ hG⟩

/-- **binary, little-endian, unchecked binary**: the reader's emitted decoder on the writer's bytes -/
theorem reader_lacking_fields_binary (e : Endian) (dp : Option Nat) (hed : EndianOk e dp) (dw : Doc) (keep : String → Field → Bool)
    (hd : dw.fieldsOk) (hv : ∀ n vs, dw.find n = some (.union vs) → ∀ x ∈ vs, keepVariant keep n x = true)
    (f : Nat) (ty : STy) (w : TVal) (ht : hasTy dw f ty w = true) (hw : w.wt = true) (ha : admits dp w.need) (rest : Bytes) :
    ∃ G, ∀ g, G ≤ g → decTy (binRd e dp) (restrict dw keep) g ty (Binary.enc e w ++ rest) = .ok (strip dw keep f ty w, rest) := by
  obtain ⟨G, hG⟩ := reader_lacking_fields_value dw keep dp hd hv f ty w ht ha
  refine ⟨G, fun g hg => ?_⟩
  have := (corr_all e dp (restrict dw keep) hed g).1 ty w rest (.ok (strip dw keep f ty w)) hw (hG g hg)
  simpa [withRest, mapOut] using this

/-- **compact**, from every reader state without a deferred bool; the reader state is restored -/
theorem reader_lacking_fields_compact (dw : Doc) (keep : String → Field → Bool)
    (hd : dw.fieldsOk) (hv : ∀ n vs, dw.find n = some (.union vs) → ∀ x ∈ vs, keepVariant keep n x = true)
    (f : Nat) (ty : STy) (w : TVal) (ht : hasTy dw f ty w = true) (hw : w.wt = true) (ha : admits dpC w.need)
    (cr : Compact.CR) (hcr : cr.pendingBool = none) (rest : Bytes) :
    ∃ G, ∀ g, G ≤ g → decTy cmpRd (restrict dw keep) g ty (cr, Compact.enc w ++ rest) = .ok (strip dw keep f ty w, (cr, rest)) := by
  obtain ⟨G, hG⟩ := reader_lacking_fields_value dw keep dpC hd hv f ty w ht ha
  refine ⟨G, fun g hg => ?_⟩
  have := corrC (restrict dw keep) g ty w cr rest (.ok (strip dw keep f ty w)) hw hcr (hG g hg)
  simpa [withRestC, mapOut] using this

/-- what the reader returns is a typed value of the reader's own document -/
theorem reader_result_typed (dw : Doc) (keep : String → Field → Bool) (hd : dw.fieldsOk)
    (hv : ∀ n vs, dw.find n = some (.union vs) → ∀ x ∈ vs, keepVariant keep n x = true)
    (f : Nat) (ty : STy) (w : TVal) (ht : hasTy dw f ty w = true) :
    hasTy (restrict dw keep) f ty (strip dw keep f ty w) = true := strip_typed_all dw keep hd hv f ty w ht

/-! non-vacuity: the writer's document of Props/C13 (`wDoc`) and a value like its `wOrig` (the struct under the map has field 1 only); the reader lacks fields 2 and 4 of `S` and field 1
of `T`; the plain reader returns the value without them -/
def rDoc : Doc := [("S", .struct [{ id := 1, ty := .i32, required := true }, { id := 2, ty := .list (.ref "S"), required := false },
    { id := 3, ty := .string, required := false, dflt := some (.bin [104]) }, { id := 4, ty := .map .i32 (.ref "T"), required := false }]),
  ("T", .struct [{ id := 1, ty := .bool, required := false }, { id := 7, ty := .set .i16, required := false }])]
def rKeep : String → Field → Bool := fun n fl => !((n == "S" && (fl.id == 2 || fl.id == 4)) || (n == "T" && fl.id == 1))
def rVal : TVal := .struct (.cons 1 (.i32 5) (.cons 2 (.list .struct (.cons (.struct (.cons 1 (.i32 6) (.cons 3 (.bin [105]) .nil))) .nil))
  (.cons 3 (.bin [104]) (.cons 4 (.map .i32 .struct (.cons (.i32 9) (.struct (.cons 1 (.bool true) .nil)) .nil)) .nil))))
example : hasTy rDoc 8 (.ref "S") rVal = true ∧
    strip rDoc rKeep 8 (.ref "S") rVal = .struct (.cons 1 (.i32 5) (.cons 3 (.bin [104]) .nil)) ∧
    projTy (restrict rDoc rKeep) (some 64) 12 (.ref "S") rVal = some (.ok (.struct (.cons 1 (.i32 5) (.cons 3 (.bin [104]) .nil)))) := by
  decide +kernel

end Pilota.Props.C08b
