import PilotaModel.Props.C02
import PilotaModel.Lemmas.KeepRT
/-
  C02, restated over typed values.  `Props/C02.gen_roundtrip_*` quantify over `Canon` values (fixpoints of the decoder's
  projection at some budget); here the hypothesis is the structural, decidable predicate `hasTy` (TGen/Typed.lean: "a value of
  the declared type as the emitted encoder writes it") and the budget is quantified away: for every document with distinct field
  ids per struct, every declared type, every typed Rust value and all trailing input, the emitted decoder maps the emitted
  encoder's bytes back to exactly that value and leaves the trailing input - for every sufficiently large recursion budget of the
  model (the emitted code has none).
-/
namespace Pilota.Props.C02b
open Pilota Pilota.Thrift Pilota.TGen

/-- binary, little-endian binary, unchecked binary -/
theorem gen_roundtrip_typed_binary (e : Endian) (dp : Option Nat) (hed : EndianOk e dp) (d : Doc) (hd : d.fieldsOk)
    (f : Nat) (ty : STy) (v : TVal) (ht : hasTy d f ty v = true) (hw : v.wt = true) (rest : Bytes) :
    ∃ G, ∀ g, G ≤ g → decTy (binRd e dp) d g ty (Binary.enc e v ++ rest) = .ok (v, rest) := by
  obtain ⟨G, hG⟩ := canon_of_hasTy d dp hd f ty v ht
  refine ⟨G, fun g hg => ?_⟩
  have := (corr_all e dp d hed g).1 ty v rest (.ok v) hw (projTy_mono d dp G g hg ty v v hG)
  simpa [withRest, mapOut] using this

/-- compact, from every reader state without a deferred bool; the reader state is restored -/
theorem gen_roundtrip_typed_compact (d : Doc) (hd : d.fieldsOk) (f : Nat) (ty : STy) (v : TVal) (ht : hasTy d f ty v = true)
    (hw : v.wt = true) (cr : Compact.CR) (hcr : cr.pendingBool = none) (rest : Bytes) :
    ∃ G, ∀ g, G ≤ g → decTy cmpRd d g ty (cr, Compact.enc v ++ rest) = .ok (v, (cr, rest)) := by
  obtain ⟨G, hG⟩ := canon_of_hasTy d dpC hd f ty v ht
  refine ⟨G, fun g hg => ?_⟩
  have := corrC d g ty v cr rest (.ok v) hw hcr (projTy_mono d dpC G g hg ty v v hG)
  simpa [withRestC, mapOut] using this

/-! non-vacuity: the demo value of Props/C02 is typed -/
example : hasTy Pilota.Props.C02.demoDoc 6 (.ref "S") Pilota.Props.C02.demoVal = true ∧ Pilota.Props.C02.demoVal.wt = true := by decide +kernel

end Pilota.Props.C02b
