import PilotaModel.Props.C12
/-
  C09 — the emitted `decode_async` (models TGen/Async.lean, TGen/AsyncC.lean) on arbitrary bytes and delivery schedules.
  A resumable program has no panic constructor: the only partial operation it performs is "pull exactly n bytes", which answers
  end-of-stream with an error.  So, for every document, declared name, byte string and schedule, the emitted async decoders never
  reach a panic branch (`emitted_async_never_panics`, `emitted_async_compact_never_panics`); on the binary family their successes
  are exactly the successes of the in-memory decoder (`Props/C12.emitted_async_eq_sync`), whose totality is `Props/C09Gen`.
  What the compiled code does beyond this model is known finding D34 (containers pre-allocated from the wire count: capacity
  overflow panics, allocation aborts).
-/
namespace Pilota.Props.C09Async
open Pilota Pilota.Thrift Pilota.Thrift.Async Pilota.TGen

theorem pulled_ne_panic {α : Type} (p : Prog α) (s : Stream) (m : String) : pulled s (runS p s) ≠ .panic m := by
  rw [pulled_flat]
  have := runF_not_panic p (flat s)
  cases hx : runF p (flat s) with
  | panic m' => rw [hx] at this; cases this
  | _ => exact nofun

theorem emitted_async_never_panics (e : Endian) (d : Doc) (n : String) (s : Stream) (m : String) : adecode e d n s ≠ .panic m :=
  pulled_ne_panic _ s m

theorem emitted_async_compact_never_panics (d : Doc) (n : String) (s : Stream) (m : String) : adecodeC d n s ≠ .panic m :=
  pulled_ne_panic _ s m

end Pilota.Props.C09Async
