import PilotaModel.Gen.Templates
import PilotaModel.Thrift.Len
/-
  T2 for the Thrift code-generation templates (C02, C04, C08): the per-type arms of `codegen_encode_ty`,
  `codegen_encode_field`, `codegen_ty_size`, `codegen_field_size`, `codegen_decode_ty` and `ttype`
  (pilota-build/src/codegen/thrift/ty.rs) and the instantiations of the runtime's field helpers
  (`write_field!` / `field_len!` in pilota/src/thrift/mod.rs) are re-extracted from the source on every run into
  `Gen/Templates.lean`; the theorems below are checked against that extraction.

  The model of emitted code takes "the emitted encoder writes the value's op sequence, the emitted size walks the same
  sequence with the `*_len` twins, the emitted decoder reads it back with the `read_*` twins" as its starting point
  (`TVal.ops` in Thrift/Types.lean, `Len` in Thrift/Len.lean, TGen/Decode.lean).  `templates_aligned` is that premise for every leaf kind: the five templates call the
  twins of ONE primitive, and the wire type the generator declares for the kind is the wire type the runtime's field
  helper of that primitive puts in the header.
-/
namespace Pilota.Props.Templates
open Pilota.Thrift Pilota.Gen.Templates

/-- the primitive each leaf kind is written with (the stem of the protocol method names) -/
def stem : LeafKind → String
  | .string => "string" | .faststr => "faststr" | .u8 => "byte" | .bool => "bool" | .bytesVec => "bytes_vec" | .bytes => "bytes"
  | .i8 => "i8" | .i16 => "i16" | .i32 => "i32" | .i64 => "i64" | .f64 => "double" | .orderedF64 => "double" | .uuid => "uuid"
  | .vec => "list"

/-- the wire type of each leaf kind (Apache Thrift: strings and binaries share `Binary`; `byte` is `i8`) -/
def wire : LeafKind → TType
  | .string | .faststr | .bytesVec | .bytes => .binary
  | .u8 | .i8 => .i8 | .bool => .bool | .i16 => .i16 | .i32 => .i32 | .i64 => .i64 | .f64 | .orderedF64 => .double | .uuid => .uuid
  | .vec => .list

def lookup {β} (t : List (LeafKind × β)) (k : LeafKind) : Option β := (t.find? (·.1 == k)).map (·.2)
def lookupS {β} (t : List (String × β)) (k : String) : Option β := (t.find? (·.1 == k)).map (·.2)

/-- every template has exactly one arm per leaf kind (the extractor also fails closed on a missing or duplicate arm) -/
theorem tables_total : ∀ k ∈ leafKinds,
    (lookup encodeTy k).isSome ∧ (lookup encodeField k).isSome ∧ (lookup tySize k).isSome ∧ (lookup fieldSize k).isSome ∧
    (lookup decodeTy k).isSome ∧ (lookup ttypeArm k).isSome := by decide +kernel

/-- **the five templates call the twins of one primitive**, and `ttype` declares that primitive's wire type -/
theorem templates_aligned : ∀ k ∈ leafKinds,
    lookup encodeTy k = some ("write_" ++ stem k) ∧
    lookup encodeField k = some ("write_" ++ stem k ++ "_field") ∧
    lookup tySize k = some (stem k ++ "_len") ∧
    lookup fieldSize k = some (stem k ++ "_field_len") ∧
    lookup decodeTy k = some (if k = .vec then "read_list_begin" else "read_" ++ stem k) ∧
    lookup ttypeArm k = some (wire k) := by decide +kernel

/-- the runtime's `write_<p>_field` and `<p>_field_len` put the same wire type in the field header, for every primitive -/
theorem field_helpers_agree : ∀ p ∈ writeFieldHeader, lookupS fieldLenHeader p.1 = some p.2 := by decide +kernel

/-- for every leaf kind the field helpers' header type is the one the generator declares (`ttype`): what the emitted encoder announces in a
field header is what the emitted decoder of the same schema matches on (`.vec` is left out: the runtime has no
`write_field!` / `field_len!` instantiation for lists) -/
theorem header_type_is_declared_type : ∀ k ∈ leafKinds, k ≠ .vec →
    lookupS writeFieldHeader (stem k) = some (wire k) ∧ lookupS fieldLenHeader (stem k) = some (wire k) := by decide +kernel

def lookupK (t : List (PathKind × TType)) (k : PathKind) : Option TType := (t.find? (·.1 == k)).map (·.2)

/-- **what the emitted encoder announces in the header of an enum / struct / typedef field is what the emitted decoder of the
same schema matches on** (`ttype`), for a typedef of every wire type: `ttype` follows a typedef to its target, and
`write_struct_field` is given that very type (fails when the typedef arm of `ttype` stops following the chain) -/
theorem path_header_is_declared_type : ∀ k ∈ pathKinds,
    (lookupK ttypePath k).isSome ∧ lookupK encodeFieldPathHeader k = lookupK ttypePath k := by decide +kernel

/-- **the size template sizes a bool header exactly when the encode template writes one** (a typedef of bool sized with
a struct header would be one byte too many under the compact protocol: D39) -/
theorem path_size_header_class : ∀ k ∈ pathKinds,
    (lookupK fieldSizePathHeader k).isSome ∧
    (lookupK fieldSizePathHeader k).map (· == .bool) = (lookupK encodeFieldPathHeader k).map (· == .bool) := by decide +kernel

/-- whether the header is a bool header is the only property of its type any length machine looks at: two field headers
of non-bool types have the same length, in the same state, under the binary family and under compact -/
theorem header_len_depends_on_bool_only (s : Compact.CW) (t t' : TType) (id : Int) (ht : t ≠ .bool) (ht' : t' ≠ .bool)
    (hc : (Compact.compactOf t).isSome = true) (hc' : (Compact.compactOf t').isSome = true) :
    Len.cmpStep s (.fieldBegin t id) = Len.cmpStep s (.fieldBegin t' id) ∧ Len.binOp (.fieldBegin t id) = Len.binOp (.fieldBegin t' id) := by
  refine ⟨?_, rfl⟩
  simp only [Len.cmpStep, ht, ht', if_false]
  cases h1 : Compact.compactOf t with
  | none => simp [h1] at hc
  | some a =>
    cases h2 : Compact.compactOf t' with
    | none => simp [h2] at hc'
    | some b => rfl

end Pilota.Props.Templates
