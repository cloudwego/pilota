import PilotaModel.Lemmas.EmitAux
/-
  C17 — code generation is deterministic.
  The output assembly of pilota-build as a function of its input and of every source of unspecified
  order (hash-map iteration at each grouping, DashMap key iteration, rayon schedule): the result does
  not depend on any of them.  T1 checks the canonical order (`emit`) and the split file names
  (`splitNames`) against real output, and byte-identity of all emitted files across fresh processes
  (fresh hash seeds) and thread counts.
-/
namespace Pilota.Props.C17
open Pilota.Build

theorem children_sorted (B : Nat) (keys : List Path) (base : Path) :
    (children B keys base).Pairwise (fun a b => natLe a b = true) := by
  unfold children
  apply List.Pairwise.filter
  have : (List.range B).Pairwise (· < ·) := List.pairwise_lt_range
  exact this.imp (fun h => by simp [natLe]; omega)

theorem children_nodup (B : Nat) (keys : List Path) (base : Path) : (children B keys base).Nodup := by
  unfold children
  exact List.Pairwise.sublist List.filter_sublist List.nodup_range

/-- sorting ANY arrangement of the children gives the canonical list. -/
theorem sort_any_order (B : Nat) (keys : List Path) (base : Path) (l : List Nat) (hp : List.Perm l (children B keys base)) :
    l.mergeSort natLe = children B keys base := by
  apply List.Perm.eq_of_pairwise (le := fun a b => natLe a b = true)
  · intro a b _ _ h1 h2; simp [natLe] at h1 h2; omega
  · exact List.pairwise_mergeSort natLe_trans natLe_total l
  · exact children_sorted B keys base
  · exact (List.mergeSort_perm l natLe).trans hp

/-- Whatever order each hash grouping yields its groups in, the emitted module tree is the canonical one. -/
theorem emit_order_free (B : Nat) (keys : List Path) (ord : Path → List Nat → List Nat)
    (hord : ∀ base l, List.Perm (ord base l) l) (f : Nat) (base : Path) :
    emitCode B keys ord f base = emit B keys f base := by
  induction f generalizing base with
  | zero => rfl
  | succ f ih =>
    simp only [emitCode, emit, sort_any_order B keys base _ (hord base _), ih]

/-- The emitted module tree does not depend on the order in which the keys of `pkgs` are enumerated. -/
theorem emit_keys_order_free (B : Nat) (keys keys' : List Path) (hp : List.Perm keys keys') (f : Nat) (base : Path) :
    emit B keys f base = emit B keys' f base := by
  induction f generalizing base with
  | zero => rfl
  | succ f ih =>
    have hc (b : Path) : children B keys b = children B keys' b := List.filter_congr fun _ _ => hp.any_eq
    simp only [emit, hc, hp.contains_eq, ih]

/-- Task isolation: each rayon task writes only its own entry, so after all tasks ran — in any order —
entry `p` holds exactly the rendering of group `p`. -/
theorem tasks_schedule_free (render : Path → List Nat) (sched : List Path) (p : Path) :
    Build.lookup (runTasks render sched) p = if p ∈ sched then some (render p) else none := by
  suffices h : ∀ acc, Build.lookup (sched.foldl (fun pkgs q => (pkgs.filter (·.1 != q)) ++ [(q, render q)]) acc) p =
      if p ∈ sched then some (render p) else Build.lookup acc p from h []
  induction sched with
  | nil => simp
  | cons q qs ih =>
    intro acc
    rw [List.foldl_cons, ih, lookup_write]
    by_cases hq : p ∈ qs <;> by_cases hpq : p = q <;> simp [hq, hpq]

theorem tasks_any_two_schedules (render : Path → List Nat) (s1 s2 : List Path) (hp : List.Perm s1 s2) (p : Path) :
    Build.lookup (runTasks render s1) p = Build.lookup (runTasks render s2) p := by
  rw [tasks_schedule_free, tasks_schedule_free]
  simp [hp.mem_iff]

/-- Split mode: the name chosen for an item depends on the set of names taken so far only through
membership, so the iteration order of that (hash) set is irrelevant. -/
theorem unique_name_order_free (ex ex' : List (List Nat)) (hp : List.Perm ex ex') (s : List Nat) (f c : Nat) :
    uniqueName ex s f c = uniqueName ex' s f c := by
  induction f generalizing c with
  | zero => rfl
  | succ f ih =>
    simp only [uniqueName, hp.contains_eq, ih]

/-! non-vacuity: reversal is an admissible `ord`; the canonical output for three modules a, a.b, c -/
example : ∀ (base : Path) (l : List Nat), List.Perm ((fun (_ : Path) (l : List Nat) => l.reverse) base l) l :=
  fun _ l => List.reverse_perm l
example : emit 3 [[0], [0, 1], [2]] 3 [] =
    [.openMod 0, .text [0], .openMod 1, .text [0, 1], .closeMod, .closeMod, .openMod 2, .text [2], .closeMod] := by decide

end Pilota.Props.C17
