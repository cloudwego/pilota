import PilotaModel.Props.C20
import PilotaModel.Lemmas.KeepRT
/-
  `decode_empty_ok_iff`: decoding an empty struct succeeds exactly when every required field has an IDL default —
  the "whenever that decode succeeds" of the property, made explicit.

  `default_encodes_validly`: encoding the emitted `Default` yields a message that the decoder of the same type maps
  back to that very value (it is a value of the emitted type in the sense of `Props/C02.Canon`, so C02's round trip
  applies: valid message, conforming to the schema) — provided every entry of the default is itself a value of its
  field's declared type (what pilota-build's lowering of the IDL literal has to deliver, compared by T1 with the Python
  lowering on every run) and the field ids are distinct 16-bit numbers.
-/
namespace Pilota.Props.C20b
open Pilota Pilota.Thrift Pilota.TGen Pilota.Props.C20

theorem finish_empty_ok (fs : List Field) :
    (∃ out, finish fs [] = .ok out) ↔ ∀ fl ∈ fs, fl.required = true → fl.dflt.isSome = true := finish_empty_ok_iff fs

theorem decode_empty_ok_iff (e : Endian) (dp : Option Nat) (d : Doc) (n : String) (fs : List Field)
    (hn : d.find n = some (.struct fs)) (rest : Bytes) :
    (∃ v r, decode (binRd e dp) d n ((0 : UInt8) :: rest) = .ok (v, r)) ↔ ∀ fl ∈ fs, fl.required = true → fl.dflt.isSome = true := by
  rw [← finish_empty_ok_iff]
  unfold decode
  have hrem : (binRd e dp).remaining ((0 : UInt8) :: rest) = rest.length + 1 := by simp [binRd]
  rw [hrem]
  obtain ⟨f, hf⟩ : ∃ f, 3 * (rest.length + 1) + 8 = f + 1 + 1 := ⟨3 * rest.length + 9, by omega⟩
  rw [hf]
  have hse : (binRd e dp).structEnd rest = .ok rest := rfl
  have hfb : (binRd e dp).fieldBegin ((binRd e dp).structBegin ((0 : UInt8) :: rest)) = .ok ((.stop, 0), rest) :=
    Binary.readFieldBegin_stop e rest
  rw [decTy]
  simp only [hn]
  rw [decFields, hfb]
  simp only [if_true, hse]
  cases hfin : finish fs [] with
  | ok out => simp
  | err k => simp
  | panic m => simp
  | fuel => simp

variable (d : Doc) (dp : Option Nat)

/-- **The emitted `Default` is a value of its own type**: the decoder's projection maps `defaultOf d n` to itself (`Props/C02.Canon`
at some budget), so C02's round trip applies to its encoding. -/
theorem default_encodes_validly (n : String) (fs : List Field) (hn : d.find n = some (.struct fs)) (F : Nat)
    (hids : fs.Pairwise (fun a b => a.id ≠ b.id)) (hrange : ∀ fl ∈ fs, inS 2 fl.id)
    (hent : ∀ fl ∈ fs, ∀ p, dfltEntry (zeroOf d (d.length + 1)) fl = some p →
      d.ttype fl.ty = p.2.ttype ∧ projTy d dp F fl.ty p.2 = some (.ok p.2)) :
    ∃ G, projTy d dp G (.ref n) (defaultOf d n) = some (.ok (defaultOf d n)) := by
  have hdef : defaultOf d n = .struct (TFields.ofList (fs.filterMap (dfltEntry (zeroOf d (d.length + 1))))) := by
    simp only [defaultOf, zeroOf, hn]
  rw [hdef]
  -- the default is a struct that walks the declared fields, and each of its entries is read back as itself
  refine struct_back d dp (fun _ _ => true) n fs hn hids _
    (hasFields_filterMap d _ (fun _ _ => dfltEntry_id) fs hids fun fl hfl => by
      cases hp : dfltEntry (zeroOf d (d.length + 1)) fl with
      | none => exact dfltEntry_eq_none hp
      | some p => exact ⟨hrange fl hfl, (hent fl hfl p hp).1, rfl⟩) _ (fun p hp => ?_)
    (fun q hq => ⟨q, by rwa [TFields.toList_ofList] at hq, rfl⟩)
  rw [TFields.toList_ofList]
  obtain ⟨fl, hfl, hfp⟩ := List.mem_filterMap.mp hp
  refine ⟨p.2, hp, rfl, F, fun fl' hfl' hid => ?_⟩
  rw [same_key (·.id) fs hids fl' fl hfl' hfl (by rw [hid, dfltEntry_id hfp])]
  exact (hent fl hfl p hfp).2

/-! non-vacuity: the demo struct of Props/C20 (ids 1 2 3, two declared defaults of the right wire types) -/
example : ∃ G, projTy demo (some 64) G (.ref "S") (defaultOf demo "S") = some (.ok (defaultOf demo "S")) := ⟨4, by decide⟩

end Pilota.Props.C20b
