import PilotaModel.Gen.Tables
import PilotaModel.Proto.Wire
import PilotaModel.Proto.Lowering
/-
  T2 tie, protobuf side: the model's constants agree with the tables extracted from /repo's
  source: pilota/src/prost/{encoding,mod}.rs for the runtime constants, and for the type lowering
  pilota-build's parser/protobuf/mod.rs (`lower_ty`), resolve.rs (`lower_type`) and
  codegen/protobuf/mod.rs (`ty_module`).
-/
namespace Pilota.Props.PbTables
open Pilota Pilota.Proto Pilota.Gen.Tables

/-- `MIN_TAG`, `MAX_TAG`, `RECURSION_LIMIT`. -/
theorem pb_constants : pbMinTag = minTag ∧ pbMaxTag = maxTag ∧ pbRecursionLimit = recursionLimit := by decide

/-- `WireType` discriminants, in declaration order. -/
theorem wire_type_codes : wireTypeCodes = WireType.all.map WireType.code := by decide

/-- `WireType::try_from(u64)` inverts the discriminant on all of `0..8` (the three key bits). -/
theorem wire_type_of_code : ∀ n : Fin 8, WireType.ofCode n.val = WireType.all.find? (fun w => w.code == n.val) := by decide

/-- the generator's type lowering, composed from the three extracted tables (`lower_ty`, resolve's
`lower_type`, the ordered arms of `ty_module`), selects for every scalar field type the codec
module the model uses (`PType.codec`). -/
theorem codec_table : ∀ t ∈ PType.all, moduleOfTables pbLowerTy pbResolve pbTyModule t = some (.codec t.codec) := by decide

/-- enum fields go through `int32`, message fields through `message`. -/
theorem path_arms : firstArm .pathEnum none pbTyModule = some (.codec .int32) ∧
    firstArm .pathAny none pbTyModule = some .message := by decide

end Pilota.Props.PbTables
