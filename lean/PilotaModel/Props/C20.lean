import PilotaModel.Lemmas.GenOut
import PilotaModel.Lemmas.Finish
import PilotaModel.Lemmas.BinaryRT
/-
  C20 — the emitted `Default` is the IDL defaults, and it is what a decoder produces from an
  empty struct whenever that decode succeeds.
  `defaultOf` models `ImplDefaultPlugin` (plugin/mod.rs), `decode` models `codegen_decode`
  (codegen/thrift/mod.rs): two separate definitions, as in the Rust.  T1 compares both with the
  emitted code (`gf` / `gd … (struct)` requests) and the generator's own lowering of the IDL literals.
-/
namespace Pilota.Props.C20
open Pilota Pilota.Thrift Pilota.TGen

/-- the defaults-only part of `finish`: when the required check passes on an empty slot table the
result is exactly the list of declared defaults, which is what `ImplDefaultPlugin` builds. -/
theorem finish_empty (d : Doc) (f : Nat) (fs : List Field) (out : List (Int × TVal))
    (h : finish fs [] = .ok out) :
    out = fs.filterMap (dfltEntry (zeroOf d f)) := by
  obtain ⟨hreq, rfl⟩ := (finish_ok_iff fs [] out).mp h
  refine filterMap_congr fun fl hfl => ?_
  have := hreq fl hfl
  cases hd : fl.dflt <;> cases hq : fl.required <;> simp [slotOrDflt, dfltEntry, slotGet, hd, hq] at this ⊢

/-- any reader: a struct whose field loop meets STOP at once decodes, if at all, to the emitted `Default` -/
theorem default_of_stop {σ : Type} (R : Rd σ) (d : Doc) (n : String) (fs : List Field) (hn : d.find n = some (.struct fs))
    (f : Nat) (s s1 : σ) (id : Int) (hfb : R.fieldBegin (R.structBegin s) = .ok ((.stop, id), s1)) (v : TVal) (r : σ)
    (h : decTy R d (f + 1 + 1) (.ref n) s = .ok (v, r)) : v = defaultOf d n ∧ R.structEnd s1 = .ok r := by
  rw [decTy_struct R d _ _ hn, decFields_succ, hfb] at h
  dsimp only [Out.bind] at h
  rw [if_pos rfl] at h
  dsimp only at h
  split at h <;> try (cases h; done)
  rename_i hse
  split at h <;> cases h
  rename_i out hfin
  refine ⟨?_, hse⟩
  cases finish_empty d (d.length + 1) fs out hfin
  simp only [defaultOf, zeroOf, hn]

/-- Binary / little-endian / unchecked binary: whenever decoding the empty struct (a lone STOP byte)
as the struct `n` succeeds, the value is the emitted `Default` and exactly the STOP byte is consumed. -/
theorem default_eq_decode_binary (e : Endian) (dp : Option Nat) (d : Doc) (n : String) (fs : List Field)
    (hn : d.find n = some (.struct fs)) (rest : Bytes) (v : TVal) (r : Bytes)
    (h : decode (binRd e dp) d n ((0 : UInt8) :: rest) = .ok (v, r)) :
    v = defaultOf d n ∧ r = rest := by
  -- `decode`'s budget 3 · (rest.length + 1) + 8, less the two steps `default_of_stop` peels
  obtain ⟨hv, hr⟩ := default_of_stop _ d n fs hn (3 * rest.length + 9) _ _ _ (Binary.readFieldBegin_stop e rest) v r h
  exact ⟨hv, by cases hr; rfl⟩

/-- Compact, from any reader state: whenever decoding the empty struct as `n` succeeds, the value is the emitted
`Default`, exactly the STOP byte is consumed and the reader state is restored. -/
theorem default_eq_decode_compact (d : Doc) (n : String) (fs : List Field)
    (hn : d.find n = some (.struct fs)) (cr : Compact.CR) (rest : Bytes) (v : TVal) (s' : Compact.CR × Bytes)
    (h : decode cmpRd d n (cr, (0 : UInt8) :: rest) = .ok (v, s')) :
    v = defaultOf d n ∧ s' = (cr, rest) := by
  have hfb : cmpRd.fieldBegin (cmpRd.structBegin (cr, (0 : UInt8) :: rest)) = .ok ((.stop, 0), (Compact.readStructBegin cr, rest)) := by
    simp [cmpRd, Compact.readFieldBegin, Compact.readByte, Binary.readByte, Compact.ttypeOfCompact, mapOut]
  obtain ⟨hv, hr⟩ := default_of_stop _ d n fs hn (3 * rest.length + 9) _ _ _ hfb v s' h
  refine ⟨hv, ?_⟩
  cases cr
  cases hr
  rfl

/-- each field with an IDL default holds exactly that default in the emitted `Default`
(wrapped as present: it is encoded), in declaration order; other optional fields are absent. -/
theorem default_is_idl (d : Doc) (n : String) (fs : List Field) (hn : d.find n = some (.struct fs))
    (hopt : ∀ fl ∈ fs, fl.dflt = none → fl.required = false) :
    defaultOf d n = .struct (TFields.ofList (fs.filterMap fun fl => fl.dflt.map fun dv => (fl.id, dv))) := by
  simp only [defaultOf, zeroOf, hn]
  congr 2
  refine filterMap_congr fun fl hfl => ?_
  cases hd : fl.dflt with
  | some dv => simp [dfltEntry, hd]
  | none => simp [dfltEntry, hd, hopt fl hfl hd]

/-! non-vacuity: a struct with two optional fields that have an IDL default and a plain optional field -/
def demo : Doc := [("S", .struct [
  { id := 1, ty := .string, required := false, dflt := some (.bin [104, 105]) },
  { id := 2, ty := .bool, required := false, dflt := some (.bool true) },
  { id := 3, ty := .i32, required := false }])]

example : (decode (binRd .be (some 64)) demo "S" [0]).isOk = true := by decide

end Pilota.Props.C20
