import PilotaModel.Lemmas.AsyncGen
import PilotaModel.Lemmas.AsyncGenConv
import PilotaModel.Lemmas.AsyncGenC
import PilotaModel.Lemmas.AsyncBinRV
import PilotaModel.Lemmas.AsyncCmpSkip
import PilotaModel.Lemmas.MsgSim
import PilotaModel.Lemmas.AsyncTotal
import PilotaModel.Props.C01
/-
  C12 — asynchronous decoding equals in-memory decoding for every delivery schedule.

  `Thrift/Async.lean`: a stream is a list of poll outcomes (pending / a non-empty ready chunk); the
  async protocols are resumable programs whose only contact with the reader is "gather n bytes".
  Runtime level (the dynamic reading interpreter over `TAsyncInputProtocol` and the async skipper),
  then the emitted `decode_async` of generated types (section `Emitted`).
  Hypothesis `bs.length < 2 ^ 63`: a Rust slice holds at most `isize::MAX` bytes (needed because a
  negative length / count is a huge `usize` for one reader and an error for the other).
-/
namespace Pilota.Props.C12
open Pilota Pilota.Thrift Pilota.Thrift.Async

/-- tokio's `read_exact` / `read_u8` / `read_iNN[_le]` see only the flattened bytes: the result is the
first `n` bytes (or `UnexpectedEof` when fewer exist) and what is left flattens to the rest —
chunk boundaries and `Pending` polls are unobservable. -/
theorem readExact_flat (n : Nat) (s : Stream) : flatOut (readExact n s) = Binary.takeN n (flat s) :=
  Async.readExact_flat n s

/-- pilota's `read_exact_to_vec` (`take(len).read_to_end` + length test) is `read_exact(len)`. -/
theorem readExactToVec_eq (n : Nat) (s : Stream) : readExactToVec n s = readExact n s :=
  Async.readExactToVec_eq n s

/-- every async program (any `async fn` of the protocols, the interpreter, the skipper): running it on
a stream is running it on the flattened bytes. -/
theorem run_flat {α} (p : Prog α) (s : Stream) : flatOut (runS p s) = runF p (flat s) := runS_flat p s

/-- decoding and skipping from a stream depend only on the bytes the stream carries. -/
theorem asyncRead_flat (p : AProto) (t : TType) (s : Stream) : asyncRead p t s = asyncReadF p t (flat s) := by
  cases p <;> exact pulled_flat _ s

theorem asyncSkip_flat (p : AProto) (d : Nat) (t : TType) (s : Stream) : asyncSkip p d t s = asyncSkipF p d t (flat s) := by
  cases p <;> exact pulled_flat _ s

/-- Two delivery schedules of the same bytes (any chunk boundaries, any number of
spurious `Pending`s) give the same outcome — value, error kind, and number of bytes pulled. -/
theorem chunk_independent (p : AProto) (t : TType) (s s' : Stream) (h : flat s = flat s') :
    asyncRead p t s = asyncRead p t s' := by rw [asyncRead_flat, asyncRead_flat, h]

theorem chunk_independent_skip (p : AProto) (d : Nat) (t : TType) (s s' : Stream) (h : flat s = flat s') :
    asyncSkip p d t s = asyncSkip p d t s' := by rw [asyncSkip_flat, asyncSkip_flat, h]

/-- If the in-memory decoder returns `v` leaving `rest`,
the async decoder returns `v` for every schedule of those bytes (with anything after them) and pulls
exactly the bytes the in-memory decoder consumed. -/
theorem async_eq_sync_ok (p : AProto) (t : TType) (bs : Bytes) (hb : bs.length < 2 ^ 63) (v : TVal) (rest : Bytes)
    (h : syncRead p t bs = .ok (v, rest)) (s : Stream) (hs : flat s = bs) :
    asyncRead p t s = .ok (v, bs.length - rest.length) := by
  rw [asyncRead_flat, hs]
  cases p with
  | bin e => exact pulledF_ok.mpr ⟨rest, ABin.readVal_of_sync e _ t bs hb v rest h, rfl⟩
  | cmp =>
    dsimp only [syncRead, Compact.read] at h
    ok_step h; rename_i hx; cases h
    exact pulledF_ok.mpr ⟨rest, runF_bind_ok.mpr ⟨_, _, ACmp.readVal_of_sync _ t {} bs _ _ _ hx, rfl⟩, rfl⟩

/-- an async decoder that returns a value has pulled no more bytes than the stream carries. -/
theorem async_no_overread (p : AProto) (t : TType) (s : Stream) (v : TVal) (n : Nat)
    (h : asyncRead p t s = .ok (v, n)) : n ≤ (flat s).length := by
  rw [asyncRead_flat] at h
  cases p <;> (obtain ⟨r, _, rfl⟩ := pulledF_ok.mp h; exact Nat.sub_le _ _)

/-- converse of `async_eq_sync_ok`: whatever the async decoder accepts, the in-memory decoder accepts
with the same value, and the bytes pulled are the bytes it consumed. -/
theorem sync_ok_if_async_ok (p : AProto) (t : TType) (s : Stream) (hb : (flat s).length < 2 ^ 63) (v : TVal) (n : Nat)
    (h : asyncRead p t s = .ok (v, n)) :
    ∃ rest, syncRead p t (flat s) = .ok (v, rest) ∧ n = (flat s).length - rest.length := by
  rw [asyncRead_flat] at h
  cases p with
  | bin e =>
    obtain ⟨r, hx, hn⟩ := pulledF_ok.mp h
    exact ⟨r, ABin.sync_of_readVal e _ t _ hb v r hx, hn⟩
  | cmp =>
    obtain ⟨r, hx, hn⟩ := pulledF_ok.mp h
    obtain ⟨⟨a, s'⟩, _, h1, ⟨⟩⟩ := runF_bind_ok.mp hx
    refine ⟨r, ?_, hn⟩
    dsimp only [syncRead, Compact.read]
    rw [ACmp.sync_of_readVal _ t {} _ hb (.inl rfl) _ s' r h1]

/-- the async decoder's recursion budget (the same `3·len + 3` as the in-memory readers') is never the
reason it stops: every value takes at least one byte. -/
theorem async_total (p : AProto) (t : TType) (s : Stream) :
    asyncRead p t s ≠ .fuel ∧ (asyncRead p t s).isPanic = false := by
  rw [asyncRead_flat]
  have lift : ∀ {α} {bs : Bytes} {x : Out (α × Bytes)}, x ≠ .fuel → x.isPanic = false →
      pulledF bs x ≠ .fuel ∧ (pulledF bs x).isPanic = false := by
    intro α bs x h1 h2
    cases x with
    | fuel => exact absurd rfl h1
    | panic m => cases h2
    | _ => exact ⟨nofun, rfl⟩
  cases p with
  | bin e => exact lift (ABin.readVal_total e _ t _ (Nat.le_refl _)) (runF_not_panic _ _)
  | cmp =>
    exact lift (runF_bind_ne_fuel (ACmp.readVal_total _ t {} _ (Nat.le_refl _)) fun _ _ => nofun) (runF_not_panic _ _)

/-- If the in-memory decoder reports an error on `bs`, the async decoder
reports an error for every schedule of `bs` — it neither accepts, nor panics, nor runs out of budget —
although only the in-memory reader rejects a container count above the remaining bytes at the header
(`check_container_size`) while the async reader fails at end of stream. -/
theorem async_err_if_sync_err (p : AProto) (t : TType) (bs : Bytes) (hb : bs.length < 2 ^ 63) (k : ErrKind)
    (h : syncRead p t bs = .err k) (s : Stream) (hs : flat s = bs) : ∃ k', asyncRead p t s = .err k' := by
  obtain ⟨hnf, hnp⟩ := async_total p t s
  cases hx : asyncRead p t s with
  | ok q =>
    obtain ⟨v, n⟩ := q
    obtain ⟨rest, h1, _⟩ := sync_ok_if_async_ok p t s (by rw [hs]; exact hb) v n hx
    rw [hs, h] at h1; cases h1
  | err k' => exact ⟨k', rfl⟩
  | panic m => rw [hx] at hnp; cases hnp
  | fuel => exact absurd hx hnf

/-- The async skipper (thrift/mod.rs, uuid arm included): on any input the in-memory reading interpreter
accepts (value `v`, rest `rest`) and for any depth budget ≥ the value's nesting, skipping from any
schedule of those bytes succeeds and pulls exactly the value's bytes.  The budget is a `Nat`: the async skipper counts one
down, where the in-memory skippers of C07 keep the `i8` as an `Int` (Lemmas/AsyncBin). -/
theorem async_skip_exact (p : AProto) (t : TType) (bs : Bytes) (hb : bs.length < 2 ^ 63) (v : TVal) (rest : Bytes)
    (h : syncRead p t bs = .ok (v, rest)) (d : Nat) (hd : v.need ≤ d) (s : Stream) (hs : flat s = bs) :
    asyncSkip p d t s = .ok ((), bs.length - rest.length) := by
  rw [asyncSkip_flat, hs]
  cases p with
  | bin e => exact pulledF_ok.mpr ⟨rest, ABin.skip_of_sync e _ t bs hb v rest h d hd, rfl⟩
  | cmp =>
    dsimp only [syncRead, Compact.read] at h
    ok_step h; rename_i hx; cases h
    exact pulledF_ok.mpr ⟨rest, runF_bind_ok.mpr ⟨_, _, ACmp.skip_of_sync _ t {} bs _ _ _ hx d hd, rfl⟩, rfl⟩

/-- message envelopes: the async `read_message_begin` of each protocol accepts exactly the inputs the
in-memory one accepts, with the same (name, type, seqid) and the same bytes left — for every schedule. -/
theorem async_msg_eq_sync (bs : Bytes) (hb : bs.length < 2 ^ 63) (s : Stream) (hs : flat s = bs) (q : (Bytes × Nat × Int) × Bytes) :
    (∀ e, flatOut (runS (ABin.readMessageBegin e) s) = .ok q ↔ Msg.readBeginBin e bs = .ok q) ∧
    (flatOut (runS ACmp.readMessageBegin s) = .ok q ↔ Msg.readBeginCmp bs = .ok q) := by
  constructor
  · intro e; rw [runS_flat, hs]; exact ABin.readMessageBegin_iff e bs hb q
  · rw [runS_flat, hs]; exact ACmp.readMessageBegin_iff bs q

/-- a well-typed value written by pilota is decoded asynchronously, from any schedule, to the same
value, pulling exactly its encoding. -/
theorem async_roundtrip_binary (e : Endian) (v : TVal) (hw : v.wt = true) (more : Bytes)
    (hb : (Binary.run e v.ops ++ more).length < 2 ^ 63) (s : Stream) (hs : flat s = Binary.run e v.ops ++ more) :
    asyncRead (.bin e) v.ttype s = .ok (v, (Binary.run e v.ops).length) := by
  have := async_eq_sync_ok (.bin e) v.ttype _ hb v more (C01.binary_roundtrip e v hw more) s hs
  rwa [List.length_append, Nat.add_sub_cancel] at this

/-- `01 00 02` delivered as `[pending, 01, pending, pending, 00 02]` and as one chunk. -/
def sA : Stream := [.pending, .data 1 [], .pending, .pending, .data 0 [2]]
def sB : Stream := [.data 1 [0, 2]]
example : flat sA = flat sB := by decide
example : (flat sA).length < 2 ^ 63 := by decide
-- a struct {1: i8 5} read from `03 00 01 05 00 ff` in three chunks pulls 5 of the 6 bytes
example : (match asyncRead (.bin .be) .struct [.data 3 [0], .pending, .data 1 [5], .data 0 [0xff]] with
    | .ok (v, n) => v.wt && n == 5
    | _ => false) = true := by decide
-- a truncated stream is an error for both decoders
example : (match syncRead (.bin .be) .i32 [0, 0, 1], asyncRead (.bin .be) .i32 [.data 0 [0], .pending, .data 1 []] with
    | .err _, .err _ => true
    | _, _ => false) = true := by decide

section Emitted
open Pilota.TGen

/-- the emitted async decoder depends only on the bytes the stream carries: any two delivery schedules of the same
bytes (chunk boundaries anywhere, any number of `Pending` polls) give the same value or error and pull the same number
of bytes — for every document and every declared type. -/
theorem emitted_async_chunk_independent (e : Endian) (d : Doc) (n : String) (s s' : Stream) (h : flat s = flat s') :
    adecode e d n s = adecode e d n s' := by
  unfold adecode; rw [pulled_flat, pulled_flat, h]

/-- If the emitted `decode` of item `n` returns `v` from
`bs` leaving `rest`, the emitted `decode_async` returns `v` for every delivery schedule of `bs` and pulls exactly the
bytes the in-memory decoder consumed.  (`hb`: a Rust slice.  The converse is `emitted_async_ok_only_if_sync_ok`.) -/
theorem emitted_async_eq_sync_ok (e : Endian) (d : Doc) (n : String) (bs : Bytes) (hb : bs.length < 2 ^ 63) (v : TVal) (rest : Bytes)
    (h : decode (binRd e (some skipDepth)) d n bs = .ok (v, rest)) (s : Stream) (hs : flat s = bs) :
    adecode e d n s = .ok (v, bs.length - rest.length) := by
  unfold adecode
  rw [pulled_flat, hs]
  exact pulledF_ok.mpr ⟨rest, (adec_sim e d (3 * bs.length + 3) (3 * bs.length + 8)).1 (.ref n) bs v rest hb (Nat.le_refl _) h, rfl⟩

/-- Whatever the emitted `decode_async` returns from a
stream, the emitted `decode` returns from the stream's bytes, with exactly the pulled bytes consumed.  (Every decoded value
occupies at least one byte, so a container count the async decoder got through passes the in-memory readers' size check;
`askip_conv` is the same fact for the skippers.) -/
theorem emitted_async_ok_only_if_sync_ok (e : Endian) (d : Doc) (n : String) (s : Stream) (hb : (flat s).length < 2 ^ 63)
    (v : TVal) (k : Nat) (h : adecode e d n s = .ok (v, k)) :
    ∃ rest, decode (binRd e (some skipDepth)) d n (flat s) = .ok (v, rest) ∧ k = (flat s).length - rest.length := by
  unfold adecode at h
  rw [pulled_flat] at h
  obtain ⟨r, hr, hk⟩ := pulledF_ok.mp h
  exact ⟨r, ((adec_conv e d _ _).1 (.ref n) (flat s) v r hb hr).2, hk⟩

/-- Generated types, binary / LE: if the emitted `decode`
fails on the bytes, the emitted `decode_async` returns no value for any delivery schedule of them. -/
theorem emitted_async_err_if_sync_err (e : Endian) (d : Doc) (n : String) (s : Stream) (hb : (flat s).length < 2 ^ 63)
    (x : ErrKind) (h : decode (binRd e (some skipDepth)) d n (flat s) = .err x) :
    ∀ v k, adecode e d n s ≠ .ok (v, k) := by
  intro v k hk
  obtain ⟨rest, h1, _⟩ := emitted_async_ok_only_if_sync_ok e d n s hb v k hk
  rw [h] at h1; cases h1

/-- the two directions together: the emitted async decoder returns `v` having pulled `k` bytes exactly when the emitted
in-memory decoder returns `v` having consumed `k` bytes. -/
theorem emitted_async_eq_sync (e : Endian) (d : Doc) (n : String) (s : Stream) (hb : (flat s).length < 2 ^ 63) (v : TVal) (k : Nat) :
    adecode e d n s = .ok (v, k) ↔
      ∃ rest, decode (binRd e (some skipDepth)) d n (flat s) = .ok (v, rest) ∧ k = (flat s).length - rest.length := by
  constructor
  · exact emitted_async_ok_only_if_sync_ok e d n s hb v k
  · rintro ⟨rest, h1, rfl⟩
    exact emitted_async_eq_sync_ok e d n (flat s) hb v rest h1 s rfl

theorem emitted_async_compact_chunk_independent (d : Doc) (n : String) (s s' : Stream) (h : flat s = flat s') :
    adecodeC d n s = adecodeC d n s' := by
  unfold adecodeC; rw [pulled_flat, pulled_flat, h]

/-- compact: if the emitted in-memory `decode` (fresh reader state) returns `v` leaving `rest`, the emitted `decode_async`
returns `v` for every delivery schedule and pulls exactly the bytes consumed.  Partial: the converse direction is proved for
the binary family only (`emitted_async_ok_only_if_sync_ok`); for compact it is checked by T1. -/
theorem emitted_async_compact_eq_sync_ok_partial (d : Doc) (n : String) (bs : Bytes) (v : TVal) (cr' : Compact.CR) (rest : Bytes)
    (h : decode cmpRd d n (({} : Compact.CR), bs) = .ok (v, (cr', rest))) (s : Stream) (hs : flat s = bs) :
    adecodeC d n s = .ok (v, bs.length - rest.length) := by
  unfold adecodeC
  rw [pulled_flat, hs]
  exact pulledF_ok.mpr ⟨rest, runF_bind_ok.mpr ⟨_, _,
    (adecC_sim d (3 * bs.length + 3) (3 * bs.length + 8)).1 (.ref n) {} bs v cr' rest (Nat.le_refl _) h, rfl⟩, rfl⟩

end Emitted
end Pilota.Props.C12
