import PilotaModel.Lemmas.GraphBox
import PilotaModel.Build.Derive
/-
  C14 — the two decisions pilota-build takes from the type graph, each compared with the emitted Rust on every
  run (T1, type-graph zoo of bin/compilesuite.py): which struct fields are boxed (`BoxedPlugin` over
  `TypeGraph::is_nested`, Build/Graph.lean) and which items get the automatic derives (`AutoDerivePlugin`:
  PartialOrd, and Hash / Eq / Ord; Build/Derive.lean).
-/
namespace Pilota.Props.C14Graph
open Pilota.Build

/-- The executable decision is the plugin's rule (a direct-path field of a struct is boxed iff its target reaches the
struct back in the type graph), for every document on which the fixpoint search finished (`saturated g`: the driver
evaluates it for each document and answers `unsaturated` otherwise; that the budget `g.length + 1` always suffices is
not proved). -/
theorem boxing_decision_exact (g : GDoc) (hs : saturated g = true) (s i p : Nat) (it : GItem)
    (hg : g[s]? = some it) (hk : it.kind = .message) (hf : it.fields[i]? = some (GTy.path p)) :
    decision g s i = true ↔ Reach (succ g) p s :=
  decision_iff g hs s i p it hg hk hf

/-- No struct is reachable by value from the target of one of its own by-value fields. -/
theorem boxed_breaks_cycles (g : GDoc) (hs : saturated g = true) (s p : Nat) (it : GItem)
    (hg : g[s]? = some it) (hk : it.kind = .message) (hp : p ∈ inlineSucc g (decision g) s) :
    ¬ Reach (inlineSucc g (decision g)) p s :=
  Pilota.Build.boxed_breaks_cycles g (decision g) (decision_covers g hs) s p it hg hk hp

/-- If no cycle runs through unions / typedefs only, there is no by-value cycle at all after boxing (rustc's E0072 cannot
arise); the excluded shape is known finding D32 (`union_cycle_is_not_boxed` is its witness). -/
theorem emitted_types_have_finite_size (g : GDoc) (hs : saturated g = true)
    (hu : ∀ a b, b ∈ unionSucc g a → ¬ Reach (unionSucc g) b a) (a b : Nat) (hab : b ∈ inlineSucc g (decision g) a) :
    ¬ Reach (inlineSucc g (decision g)) b a :=
  inline_acyclic g (decision g) (decision_covers g hs) hu a b hab

theorem only_struct_paths_boxed (g : GDoc) (s i : Nat) (h : decision g s i = true) :
    ∃ it p, g[s]? = some it ∧ it.kind = .message ∧ it.fields[i]? = some (GTy.path p) := by
  unfold decision boxedB at h
  split at h
  · split at h
    · split at h
      · exact ⟨_, _, ‹_›, ‹_›, ‹_›⟩
      · cases h
    · cases h
  · cases h

/-- `struct T { 1: optional A a, 2: optional U u, 3: list<T> l }  struct A { 1: B b }  struct B { 1: optional A a }
struct U { 1: T t }`: the fields A.b, B.a, T.u, U.t are boxed; T.a (A does not reach T) and the list are not. -/
def zoo : GDoc := [⟨.message, [.path 1, .path 3, .other]⟩, ⟨.message, [.path 2]⟩, ⟨.message, [.path 1]⟩, ⟨.message, [.path 0]⟩]
example : saturated zoo = true ∧ boxedFields zoo = [(0, 1), (1, 0), (2, 0), (3, 0)] := by decide
example : ∀ a b, b ∈ unionSucc zoo a → ¬ Reach (unionSucc zoo) b a := by
  intro a b h
  -- every item of `zoo` is a struct: `unionSucc zoo a` evaluates to `[]` at each index
  match a, h with
  | 0, h | 1, h | 2, h | 3, h | _+4, h => cases h

/-- known finding D32 at the level of the model: `union U { 1: i32 a, 2: U u }` is a by-value cycle that boxing does not
touch (only struct fields are boxed). -/
def d32 : GDoc := [⟨.union, [.other, .path 0]⟩]
theorem union_cycle_is_not_boxed : saturated d32 = true ∧ boxedFields d32 = [] ∧ 0 ∈ inlineSucc d32 (decision d32) 0 := by decide

/-- the executable decision is the specification: the derive is given iff nothing reachable through field types is rejected -/
theorem derive_decision_exact (g : DDoc) (hash : Bool) (n : Nat) (b : Bool) (h : canDeriveB g hash n = some b) :
    b = true ↔ CanDerive g hash n := canDeriveB_iff g hash n b h

/-- what rustc needs of a `#[derive]`: no rejected field type in the item, every item its field types mention derives too -/
theorem derive_closed (g : DDoc) (hash : Bool) (n : Nat) (h : CanDerive g hash n) :
    badAt g hash n = false ∧ ∀ p ∈ dsucc g n, CanDerive g hash p := canDerive_closed g hash n h

/-- an item left without the derive could not have had it -/
theorem derive_maximal (g : DDoc) (hash : Bool) (n : Nat) (h : canDeriveB g hash n = some false) :
    ∃ m, Reach (dsucc g) n m ∧ badAt g hash m = true := not_canDerive_has_witness g hash n false h rfl

theorem derive_hash_implies_partialOrd (g : DDoc) (n : Nat) (h : CanDerive g true n) : CanDerive g false n :=
  hash_implies_partialOrd g n h

/-- non-vacuity: `struct T { A a, U u, set<double> n }  struct A { list<B> b }  struct B { A a }  struct U { T t }
struct K { i32 k, double d }  struct L { i32 x }`: A and B (a closed cycle of clean types) and L derive both; K only PartialOrd;
T and U (a cycle through T's set) neither. -/
def dzoo : DDoc := [⟨[.path 1, .path 3, .mapset]⟩, ⟨[.path 2]⟩, ⟨[.path 1]⟩, ⟨[.path 0]⟩, ⟨[.leaf, .float]⟩, ⟨[.leaf]⟩]
example : dsaturated dzoo = true ∧ derivingItems dzoo false = [1, 2, 4, 5] ∧ derivingItems dzoo true = [1, 2, 5] := by decide

end Pilota.Props.C14Graph
