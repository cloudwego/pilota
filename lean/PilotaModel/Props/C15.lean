import PilotaModel.Lemmas.IdlFile
/-
  C15 — the IDL parser inverts printing, independent of layout.

  `File.parse` (Idl/Parser.lean) is what T1 compares with `File::parse` of pilota-thrift-parser;
  `render` (Idl/Printer.lean) is what T1 compares with the harness printer that produces every
  C15 request (`render=1` in the answers); `File.wf` (Idl/WF.lean) is evaluated on every C15 request
  (`wf=1`).  A `Layout` is an arbitrary list of choices: whitespace runs and `//` `#` `/* */`
  comments at every blank, `,` `;` or nothing at every optional separator, single or double quotes
  at every literal, `required` printed or left out on function arguments.

  Covered: the whole grammar — includes, cpp_includes, namespaces, typedefs, consts (bool, names,
  literals, ints, doubles, nested list / map literals), enums, structs / unions / exceptions (ids,
  requiredness, defaults, annotations), services (extends, oneway, arguments, throws) — and the
  statement `file_rt` for whole documents, with no hypothesis besides `File.wf`.

  The statements speak of the text that follows through predicates defined where they are proved: `hdP`, `Sep`, `NB`, `BT`
  (Lemmas/IdlLex.lean), `PathStop` (IdlType), `TyFollow` / `TypeFollow` (IdlTypeRT), `ConstFollow` (IdlConstFollow),
  `FieldFollow`, `attrOpt`, `fieldRead` (IdlFieldRT), `FnFollow` (IdlService), `ItemStart` (IdlItem); each `depth` is defined in
  the file of its syntactic category (`Ty.depth` in IdlTypeRT .. `File.depth` in IdlFile).
-/
namespace Pilota.Props.C15
open Pilota.Idl

/-- `blank` consumes every non-empty rendered blank — any sequence of whitespace pieces and of the
three comment styles — when the text that follows does not start a blank itself. -/
theorem blank_any (ps : List Piece) (r : List Char) (hne : blankText ps ≠ []) (hr : NB r) :
    blank (blankText ps ++ r) = .ok () r :=
  blank_rt (BT.of_blankText ps) hne hr

theorem ident_rt (i r : List Char) (hi : identOk i = true) (hr : hdP (fun c => !isIdentChar c) r = true) :
    Ident.parse (i ++ r) = .ok i r := Pilota.Idl.ident_rt hi hr

/-- both quote styles: the layout's preference is honoured whenever the text permits it -/
theorem literal_rt (preferDouble : Bool) (t r : List Char) (h : literalOk t = true) :
    Literal.parse (quoteFor preferDouble t :: (t ++ quoteFor preferDouble t :: r)) = .ok t r :=
  Pilota.Idl.literal_rt preferDouble h

theorem int_rt (n : Int) (r : List Char) (hn : intOk n = true) (hr : Sep r) :
    IntConstant.parse (intText n ++ r) = .ok n r := intConstant_rt hn hr

/-- a double keeps its source text: every text `DoubleConstant::parse` recognises is read back -/
theorem double_rt (t r : List Char) (h : doubleOk t = true) (hr : Sep r) :
    DoubleConstant.parse (t ++ r) = .ok t r := Pilota.Idl.double_rt h hr

theorem path_rt (p : Path) (hp : p.wf = true) (l : Layout) (r : List Char)
    (hr : hdP (fun c => !isIdentChar c) r = true) (hstop : PathStop r) :
    Path.parse ((rPath p l).1 ++ r) = .ok p r := Pilota.Idl.path_rt hp l hr hstop

theorem annotations_rt (as : Annotations) (hw : Annotations.wf as = true) (hne : as ≠ []) (l : Layout) (r : List Char) :
    Annotations.parse ((rAnns as l).1 ++ r) = .ok as r := Pilota.Idl.annotations_rt hw hne l r

/-- every type — base types, `list` / `set` / `map` with `cpp_type`, names, annotations, nested
to any depth — under every layout -/
theorem type_rt (t : TypeA) (hw : t.wf = true) (d : Nat) (hd : t.depth < d) (l : Layout) (r : List Char)
    (hf : TypeFollow t r) : Type.parse d ((rType t l).1 ++ r) = .ok t r :=
  Pilota.Idl.type_rt t hw d hd l r hf

/-- constant values: booleans, names, literals, integers, doubles, list and map literals nested to
any depth -/
theorem const_rt (c : ConstValue) (hw : c.wf = true) (d : Nat) (hd : c.depth < d)
    (l : Layout) (r : List Char) (hf : ConstFollow c r) : ConstValue.parse d ((rConst c l).1 ++ r) = .ok c r :=
  Pilota.Idl.const_rt c hw (cv_supported c) d hd l r hf

/-- a field under every layout: id, requiredness (in an argument list an omitted `required` is read
as no requiredness, `fieldRead`), type, name, default, annotations, separator; `bl` is a blank left
over by the previous element, `R` the next field or the closing bracket -/
theorem field_rt (d : Nat) (f : Field) (hw : f.wf = true) (hd : f.depth < d)
    (argMode last : Bool) (l : Layout)
    (hhead : attrOpt argMode f.attr ((rB0 (rB0 l).2).2) = none →
      f.ty.headIs cs!"required" = false ∧ f.ty.headIs cs!"optional" = false)
    (bl R : List Char) (hbl : BT bl) (hR : FieldFollow R) (hlast : last = true → Sep R) :
    skip (opt blank) (Field.parse d) (bl ++ ((rField argMode f last l).1 ++ R)) = .ok (fieldRead argMode f l) R :=
  field_step hw hd argMode last l hhead hbl hR hlast

theorem structlike_rt (s : StructLike) (hw : s.wf = true) (d : Nat) (hd : s.depth < d)
    (last : Bool) (l : Layout) (R : List Char) (hR : ItemStart R) :
    ∃ g, BT g ∧ StructLike.parse d ((rStructLike s last l).1 ++ R) = .ok s (g ++ R) :=
  (structLike_reads hw hd last).upToBlank l hR

theorem enum_rt (e : Enum) (hw : e.wf = true) (l : Layout) (b R : List Char) (hb : BT b)
    (hR : ItemStart R) : ∃ g, BT g ∧ Enum.parse ((rEnum e l).1 ++ (b ++ R)) = .ok e (g ++ R) :=
  Pilota.Idl.enum_rt hw l hb hR

/-- a function: `oneway`, result type, name, arguments (an argument printed without `required` is
read back as `required`), `throws`, annotations, separator; `g` is the part of the following blank
that is left to the enclosing loop -/
theorem function_rt (d : Nat) (f : Function) (hw : f.wf = true) (hd : f.depth < d) (last : Bool) (l : Layout)
    (bl R : List Char) (hbl : BT bl) (hR : FnFollow d R) :
    ∃ g, BT g ∧ g.length < (bl ++ (rFunction f last l).1).length ∧
      skip (opt blank) (Function.parse d) (bl ++ ((rFunction f last l).1 ++ R)) = .ok f (g ++ R) :=
  Pilota.Idl.function_rt ⟨hw, hd⟩ last l hbl hR

theorem service_rt (s : Service) (hw : s.wf = true) (d : Nat) (hd : s.depth < d) (last : Bool) (l : Layout)
    (R : List Char) (hR : ItemStart R) : ∃ g, BT g ∧ Service.parse d ((rService s last l).1 ++ R) = .ok s (g ++ R) :=
  Pilota.Idl.service_rt hw (item_supported (.service s)) hd last l hR

theorem item_rt (it : Item) (hw : it.wf = true) (d : Nat) (hd : it.depth < d)
    (last : Bool) (l : Layout) (R : List Char) (hlast : last = true → R = []) (hR : ItemStart R) :
    ∃ g, BT g ∧ Item.parse d ((rItem it last l).1 ++ R) = .ok it (g ++ R) :=
  Pilota.Idl.item_rt hw (item_supported it) hd last l hlast hR

/-- An identifier that merely begins with a keyword (`trueValue`, `falsey`, `optionalFoo`,
`required_x`, `onewayTicket`, `i32x`, `stringify`, …) is never read as that keyword: wherever the
parser tests `tuple((tag(kw), peek(not(alphanumeric_or_underscore))))` the test fails on a longer
word and the word is read as an identifier. -/
theorem keyword_prefix_ident {α} (kw : List Char) (v : α) (i r : List Char)
    (hk : ∀ c ∈ kw, isIdentChar c = true) (hi : identOk i = true) (hne : i ≠ kw)
    (hr : hdP (fun c => !isIdentChar c) r = true) :
    keyword kw v (i ++ r) = .err ∧ Ident.parse (i ++ r) = .ok i r :=
  ⟨keyword_word_err hk (identOk_all hi) hr hne, Pilota.Idl.ident_rt hi hr⟩

/-- as a type, every word that is not exactly a base type name or `list` / `set` / `map` is read
as a name. -/
theorem keyword_prefix_type (i : Ident) (hi : identOk i = true) (hne : typeWords.contains i = false)
    (d : Nat) (l : Layout) (r : List Char) (hf : TypeFollow (.mk (.path ⟨[i]⟩) []) r) :
    Type.parse (d + 1) (i ++ r) = .ok (.mk (.path ⟨[i]⟩) []) r := by
  have hw : (TypeA.mk (.path ⟨[i]⟩) []).wf = true := by
    simp only [TypeA.wf, Ty.wf, Path.wf, Path.head, List.headD, hne, Annotations.wf]
    simp [hi]
  have := Pilota.Idl.type_rt _ hw (d + 1) (by simp [TypeA.depth, Ty.depth]) l r hf
  simpa [Type.parse, rType, rTy, rPath, rOptAnns, rSlots] using this

/-- as a constant value, every word other than `true` / `false` is read as a name. -/
theorem keyword_prefix_const (i : Ident) (hi : identOk i = true) (h1 : i ≠ cs!"true") (h2 : i ≠ cs!"false")
    (d : Nat) (l : Layout) (r : List Char) (hf : ConstFollow (.path ⟨[i]⟩) r) :
    ConstValue.parse (d + 1) (i ++ r) = .ok (.path ⟨[i]⟩) r := by
  have hw : (ConstValue.path ⟨[i]⟩).wf = true := by
    simp only [ConstValue.wf, Path.wf, Path.head, List.headD, Bool.and_eq_true, bne_iff_ne, ne_eq]
    simp [hi, h1, h2]
  have := Pilota.Idl.const_rt _ hw rfl (d + 1) (by simp [ConstValue.depth]) l r hf
  simpa [rConst, rPath, rSlots] using this

/-- parsing the rendering of a well-formed document returns exactly its declarations in
order and its recomputed package, and leaves nothing unparsed — for EVERY layout. -/
theorem file_rt (f : File) (hf : f.wf = true) (l : Layout) : File.parse (render l f) = .ok f [] :=
  file_parse_of_fileD (fun _ hd => fileD_rt hf hd l)

/-- a document that consists of blanks and comments only — the
empty declaration list under any layout — parses to the empty document. -/
theorem blank_only_document_parses (l : Layout) : File.parse (render l (File.mk none [])) = .ok (File.mk none []) [] :=
  file_rt _ rfl l

-- the hypotheses of the theorems above can be met:
example : File.wf (File.mk (some (Path.mk [cs!"a", cs!"b"])) [
    Item.«namespace» (Namespace.mk cs!"rs" (Path.mk [cs!"a", cs!"b"]) none),
    Item.«include» cs!"base.thrift",
    Item.typedef (Typedef.mk
      (TypeA.mk (Ty.map (TypeA.mk Ty.string []) (TypeA.mk (Ty.list (TypeA.mk (Ty.path (Path.mk [cs!"i32x"])) [])
        (some cs!"std::vector")) []) none) [Annotation.mk cs!"a.b" cs!"say \"hi\""])
      cs!"trueValue" []),
    Item.constant (Constant.mk cs!"c" (TypeA.mk Ty.double []) (ConstValue.list [ConstValue.double cs!"-1.5e-3",
      ConstValue.int (-9223372036854775807), ConstValue.map [(ConstValue.string cs!"k", ConstValue.path (Path.mk [cs!"falsey"]))]]) []),
    Item.struct (StructLike.mk cs!"S" [Field.mk 1 cs!"optionalFoo" Attribute.optional (TypeA.mk Ty.i32 [])
      (some (ConstValue.int 5)) [Annotation.mk cs!"k" cs!"v"]] []),
    Item.service (Service.mk cs!"Svc" (some (Path.mk [cs!"base", cs!"Base"])) [Function.mk cs!"onewayTicket" true
      (TypeA.mk Ty.void []) [Field.mk 1 cs!"a" Attribute.required (TypeA.mk Ty.string []) none []]
      [Field.mk 1 cs!"e" Attribute.default (TypeA.mk (Ty.path (Path.mk [cs!"E"])) []) none []] []] [])]) = true := by decide
example : NB cs!"struct" ∧ blankText [.ws cs!" \n", .line cs!" c /* x", .block cs!"a */ b", .hash []] ≠ [] := by decide
example : identOk cs!"trueValue" = true ∧ cs!"trueValue" ≠ cs!"true" := by decide
example : intOk (-9223372036854775807) = true ∧ doubleOk cs!"-+1.5E-3" = true ∧ literalOk cs!"say \"hi\"" = true := by decide
example : TypeFollow (.mk .i32 []) cs!" x" :=
  typeFollow_name (.mk .i32 []) (BT.ws ' ' [] (by decide) BT.nil) (Or.inl (by simp)) (name := cs!"x") (X := [])
    (by decide) (by decide) (by decide)
example : FieldFollow cs!"2: i32 b }" ∧ Sep cs!"}" := ⟨fieldFollow_of_digit (by decide), by decide⟩
example : ItemStart cs!"struct S {}" ∧ ItemStart [] := ⟨by unfold ItemStart; decide, by unfold ItemStart; decide⟩
example : ConstFollow (.int 5) cs!" , 6]" ∧ ConstFollow (.path ⟨[cs!"a"]⟩) cs!"]" :=
  ⟨by show Sep _; decide, ⟨by decide, pathStop_of (b := []) BT.nil (by decide) (by decide)⟩⟩
example : ∀ d, FnFollow d cs!"}" := fun d => fnFollow_close d []
example : PathStop cs!" = 1" := pathStop_of (b := cs!" ") (BT.ws ' ' [] (by decide) BT.nil) (by decide) (by decide)
example : Annotations.wf [⟨cs!"go.tag", cs!"json:\\\"id\\\""⟩] = true := by decide
example : (File.parse cs!" // only a comment\n/* and a block */ # hash").isOk = true := by decide

end Pilota.Props.C15
