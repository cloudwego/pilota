import PilotaModel.Lemmas.Names
/-
  C14 — every IDL in the supported grammar generates Rust that compiles.
  Level: `other`.  The decisive predicate (rustc accepts the file) has no feasible model; rustc is
  the implementation side of the check (`cargo check` on everything the real generator emits for the
  run's documents × configurations).  What is logic in pilota-build's naming is modelled and proved.
  Trusted: `display`, `relatedPath` and `resolve` (Build/Names.lean) are hand transcriptions that no run compares with
  pilota-build; only the keyword tables they consult are re-extracted and tied by T2.
-/
namespace Pilota.Props.C14
open Pilota.Build Pilota.Gen.Tables

/-- Rust 2024 strict and reserved keywords (reference: "Keywords"), excluding the four path-segment ones. -/
def rustKeywords : List String :=
  ["as", "break", "const", "continue", "else", "enum", "extern", "false", "fn", "for", "if", "impl", "in", "let", "loop",
   "match", "mod", "move", "mut", "pub", "ref", "return", "static", "struct", "trait", "true", "type", "unsafe", "use", "where",
   "while", "async", "await", "dyn", "abstract", "become", "box", "do", "final", "macro", "override", "priv", "typeof", "unsized",
   "virtual", "yield", "try", "gen"]

/-- T2: the generator's keyword table (extracted from symbol.rs on this run) covers every Rust keyword,
and the path-segment keywords are exactly the four that cannot be raw identifiers. -/
theorem keyword_table_complete : (∀ k ∈ rustKeywords, keywords.contains k = true) ∧
    pathSegmentKeywords = ["super", "self", "Self", "crate"] := by decide +kernel

/-- `display` by cases: a path-segment keyword is printed with a trailing underscore, any other keyword as a
raw identifier, anything else as it is.  That the result is in neither table is `display_fresh`. -/
theorem display_not_keyword (s : String) :
    (pathSegmentKeywords.contains s = true → display s = s ++ "_") ∧
    (pathSegmentKeywords.contains s = false → keywords.contains s = true → display s = "r#" ++ s) ∧
    (pathSegmentKeywords.contains s = false → keywords.contains s = false → display s = s) := by
  unfold display
  refine ⟨?_, ?_, ?_⟩ <;> intros <;> simp_all

/-- the escaped forms: a path-segment keyword with `_` appended is in neither table, a keyword with `r#` in front is
not in the keyword table (no entry of either table begins with `r#`: `no_keyword_is_raw`). -/
theorem escapes_are_fresh :
    (∀ k ∈ pathSegmentKeywords, keywords.contains (k ++ "_") = false ∧ pathSegmentKeywords.contains (k ++ "_") = false) ∧
    (∀ k ∈ keywords, keywords.contains ("r#" ++ k) = false) :=
  ⟨underscore_fresh, fun k _ => (raw_fresh k).1⟩

theorem display_of_keyword_is_fresh :
    ∀ k ∈ keywords ++ pathSegmentKeywords,
      keywords.contains (display k) = false ∧ pathSegmentKeywords.contains (display k) = false :=
  fun k _ => display_fresh k

/-- The relative path the generator prints from module `p1` to the item at `p2` resolves, by Rust's
`super::` rules, to exactly `p2` — for every pair of distinct paths (for `p1 = p2` the generator prints the
bare last segment, which resolves to `p1 ++ [last]`). -/
theorem related_path_resolves (p1 p2 : List String) (h : p1 ≠ p2) :
    resolve p1 (relatedPath p1 p2) = some p2 := by
  have hs := resolve_supers (p1.take (commonPrefix p1 p2)) (p1.drop (commonPrefix p1 p2)).reverse
    ((p2.drop (commonPrefix p1 p2)).map Seg.ident)
  rw [List.reverse_reverse, List.take_append_drop, List.length_reverse, List.length_drop] at hs
  rw [relatedPath, if_neg h, hs, resolve_idents, take_commonPrefix, List.take_append_drop]

/-! non-vacuity: the three forms of `display`; a relative path with one `super` -/
example : display "type" = "r#type" ∧ display "self" = "self_" ∧ display "Foo" = "Foo" := by decide +kernel
example : relatedPath ["a", "b"] ["a", "c", "X"] = [.super, .ident "c", .ident "X"] := by decide

end Pilota.Props.C14
