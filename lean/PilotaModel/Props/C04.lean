import PilotaModel.Lemmas.OpsRun
import PilotaModel.Lemmas.LenSim
/-
  C04 — the byte count computed before encoding equals the bytes encoding writes.
-/
namespace Pilota.Props.C04
open Pilota Pilota.Thrift

/-- Lock-step simulation, compact protocol: whenever the writer accepts a call, the matching
`*_len` call on the same state succeeds, moves to the same state (field-id delta stack,
deferred bool header) and returns exactly the number of bytes the writer appended. -/
theorem len_sim (s : Compact.CW) (o : Op) (hwf : o.wf = true) (s' : Compact.CW) (b : Bytes)
    (h : Compact.wStep s o = .ok (s', b)) : Len.cmpStep s o = .ok (s', b.length) :=
  Len.len_sim s o hwf s' b h

/-- `len_sim` lifted to every sequence of calls the writer accepts. -/
theorem compact_len_eq_write (ops : List Op) (hwf : ∀ o ∈ ops, o.wf = true) (s s' : Compact.CW) (bs : Bytes)
    (h : Compact.run s ops = .ok (s', bs)) :
    ∃ ns, Len.cmpRun s ops = .ok (s', ns) ∧ ns.sum = bs.length := by
  induction ops generalizing s bs with
  | nil => simp [Compact.run] at h; obtain ⟨rfl, rfl⟩ := h; exact ⟨[], rfl, rfl⟩
  | cons o os ih =>
    unfold Compact.run at h
    split at h <;> try cases h
    rename_i s1 b1 h1
    split at h <;> cases h
    rename_i b2 h2
    obtain ⟨ns, hn1, hn2⟩ := ih (fun o ho => hwf o (List.mem_cons_of_mem _ ho)) _ _ h2
    exact ⟨b1.length :: ns, by simp [Len.cmpRun, len_sim s o (hwf o List.mem_cons_self) s1 b1 h1, hn1],
      by rw [List.sum_cons, hn2, List.length_append]⟩

/-- Binary, little-endian binary and the unchecked binary codec share one length calculation;
it equals the bytes written for every op sequence. -/
theorem binary_len_eq_write (e : Endian) (ops : List Op) (hwf : ∀ o ∈ ops, o.wf = true) :
    Len.binLen ops = (Binary.run e ops).length := Len.binLen_eq_run_length e ops hwf

theorem binary_value_len (e : Endian) (v : TVal) (hw : v.wt = true) :
    Len.binLen v.ops = (Binary.run e v.ops).length :=
  binary_len_eq_write e v.ops (TVal.ops_wf v hw)

/-- Value level, compact: from any state without a deferred bool both machines accept the
value's op sequence, return to that state, and agree on the size. -/
theorem compact_value_len (v : TVal) (hw : v.wt = true) (s : Compact.CW) (hp : s.pending = none) :
    ∃ ns bs, Compact.run s v.ops = .ok (s, bs) ∧ Len.cmpRun s v.ops = .ok (s, ns) ∧ ns.sum = bs.length := by
  have h := Compact.run_ops v hw s hp
  obtain ⟨ns, h1, h2⟩ := compact_len_eq_write v.ops (TVal.ops_wf v hw) s s _ h
  exact ⟨ns, _, h, h1, h2⟩

/-- Message envelope: `message_begin_len` = bytes of `write_message_begin`, all protocols. -/
theorem msg_len_eq (name : Bytes) (mt : Nat) (seq : Int) (s : Compact.CW) (hp : s.pending = none) (e : Endian) :
    (∃ ns bs, Compact.run s [.msgBegin name mt seq, .msgEnd] = .ok (s, bs) ∧
        Len.cmpRun s [.msgBegin name mt seq, .msgEnd] = .ok (s, ns) ∧ ns.sum = bs.length) ∧
    Len.binLen [.msgBegin name mt seq, .msgEnd] = (Binary.run e [.msgBegin name mt seq, .msgEnd]).length := by
  constructor
  · obtain ⟨bs, h⟩ : ∃ bs, Compact.run s [.msgBegin name mt seq, .msgEnd] = .ok (s, bs) := by
      simp [Compact.run, Compact.wStep, hp]
    obtain ⟨ns, h1, h2⟩ := compact_len_eq_write _ (by intro o ho; simp at ho; rcases ho with rfl | rfl <;> rfl) s s _ h
    exact ⟨ns, _, h, h1, h2⟩
  · exact binary_len_eq_write e _ (by intro o ho; simp at ho; rcases ho with rfl | rfl <;> rfl)

/-! non-vacuity: a well-typed struct with a bool field and ids that need the long header form; the writer accepts a field
header from the fresh state -/
example : (TVal.struct (.cons (-20000) (.bool true) (.cons 20000 (.i16 3) .nil))).wt = true := by decide
example : ∃ s' b, Compact.wStep {} (.fieldBegin .i32 5) = .ok (s', b) := ⟨_, _, rfl⟩

end Pilota.Props.C04
