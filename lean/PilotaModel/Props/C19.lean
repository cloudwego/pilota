import PilotaModel.Lemmas.Mem
/-
  C19 — a failed decode releases everything it allocated.

  The model cannot express Rust's drop elaboration; it expresses its consequence for the emitted
  templates as an ownership ledger (TGen/Mem.lean): everything owned by live locals is released on
  an early return; elements written through a raw pointer before `set_len` are not.
  Level: `other` (partial): the theorems are about the ledger; the counting allocator in the harness
  observes the real process (live heap bytes before / after every truncation of valid encodings).
-/
namespace Pilota.Props.C19
open Pilota Pilota.Thrift Pilota.TGen

/-- The asynchronous decoders (push-based list arm) never leave anything unreachable: a failing decode leaks nothing. -/
theorem async_never_leaks {σ : Type} (R : Rd σ) (d : Doc) (f : Nat) (ty : STy) (s : σ) (l : Nat)
    (h : decTyL R d false f ty s = .err l) : l = 0 :=
  (no_leak_all R d false .async f).1 ty s l trivial h

theorem async_decode_never_leaks {σ : Type} (R : Rd σ) (d : Doc) (n : String) (s : σ) (l : Nat)
    (h : decodeL R d false n s = .err l) : l = 0 :=
  async_never_leaks R d _ _ s l h

/-- Full statement (false of the code as it is, see `list_arm_leaks`): the synchronous decoders never leak.
Proved (`_partial`): they never leak for documents in which every list has elements that own nothing
(scalars, uuids — `ownsNothing_scalar`) and cannot end in an empty `binary` (`TailFree`), for every type, input,
protocol reader and budget: the list arm is the ONLY place where a failing decode can leave something unreachable. -/
theorem sync_no_leak_partial {σ : Type} (R : Rd σ) (d : Doc) (hd : DocSafe d) (f : Nat) (ty : STy) (hs : ListSafe d ty)
    (s : σ) (l : Nat) (h : decTyL R d true f ty s = .err l) : l = 0 :=
  (no_leak_all R d true hd.hereditary f).1 ty s l hs h

/-! non-vacuity: a document with list<i64>, set<string>, map<string, list<double>> is list-safe -/
def safeDoc : Doc := [("S", .struct [{ id := 1, ty := .list .i64, required := false }, { id := 2, ty := .set .string, required := false },
  { id := 3, ty := .map .string (.list .double), required := true }])]
example : DocSafe safeDoc := by
  refine ⟨?_, ?_, ?_⟩
  · intro n fs h fl hfl
    simp only [safeDoc, Doc.find, List.find?] at h
    split at h <;> simp at h
    subst h
    simp at hfl
    rcases hfl with rfl | rfl | rfl
    · exact ⟨ownsNothing_scalar _ _ (by simp), trivial, trivial⟩
    · trivial
    · exact ⟨trivial, ownsNothing_scalar _ _ (by simp), trivial, trivial⟩
  · intro n vs h; simp only [safeDoc, Doc.find, List.find?] at h; split at h <;> simp at h
  · intro n t h; simp only [safeDoc, Doc.find, List.find?] at h; split at h <;> simp at h

def leakOf {α} : OutL α → Option Nat
  | .err l => some l
  | _ => none

def leakDoc : Doc := [("S", .struct [{ id := 1, ty := .list .binary, required := false }])]
def leakInput : Bytes :=
  [15, 0, 1,  11, 0, 0, 0, 2,   0, 0, 0, 1, 97,   0, 0, 0, 9, 98]     -- list<binary>["a", <9 bytes announced, 1 present>]

/-- The synchronous list arm does leak (known finding D13): a struct with a `list<binary>` whose
second element is truncated fails to decode and leaves the first element's reference to the input
buffer unreachable.  The witness is replayed on the real emitted code by the C19 stream. -/
theorem list_arm_leaks :
    leakOf (decodeL (binRd .be (some skipDepth)) leakDoc true "S" leakInput) = some 1 := by decide

/-- An element that owns no byte can still pin the input: an EMPTY binary read when nothing is left in the buffer is
handed the buffer's own handle by `Bytes::split_to`. -/
def emptyTailInput : Bytes := [15, 0, 1,  11, 0, 0, 0, 2,   0, 0, 0, 0]     -- list<binary>["", <missing>]
theorem empty_binary_at_end_pins_buffer :
    leakOf (decodeL (binRd .be (some skipDepth)) leakDoc true "S" emptyTailInput) = some 1 ∧
    leakOf (decodeL (binRd .be (some skipDepth)) leakDoc true "S" (emptyTailInput ++ [0])) = some 0 := by decide

/-- the input of `list_arm_leaks` through the asynchronous template leaks nothing. -/
theorem list_arm_async_clean :
    leakOf (decodeL (binRd .be (some skipDepth)) leakDoc false "S" leakInput) = some 0 := by decide

end Pilota.Props.C19
