import PilotaModel.Lemmas.UnsafeW
import PilotaModel.Lemmas.UnsafeR
import PilotaModel.Props.C01
/-
  C11 — the unchecked binary codec equals the checked one within its contract.

  The model (`Thrift/Unsafe.lean`) turns every unchecked access of binary_unsafe.rs into a guarded
  one that answers `.panic "oob"` outside the buffer.  "`= .ok …`" below therefore says two things:
  no access left the window / the input, and the result is the checked codec's.
  Runtime level only; the emitted `decode`/`encode` over the unchecked protocol is in `Props/C02`, the
  unchecked reader's iterative skipper in `Props/C07`.
-/
namespace Pilota.Props.C11
open Pilota Pilota.Thrift Pilota.Thrift.Unsafe

/-- BytesMut-backed unchecked writer, any call sequence, any starting window: if the window has room
for the reported size the run succeeds (no write outside the window), `index` advances by exactly that
size, the bytes below `index` are the old ones followed by the checked writer's bytes, the window keeps
its length and nothing at or above the final `index` was touched (the guard bytes of the harness). -/
theorem uw_ops_safe_eq (ops : List Op) (hwf : ∀ o ∈ ops, o.wf = true) (w : Win) (h : w.idx + Len.binLen ops ≤ w.cap) :
    ∃ w', uwRun w ops = .ok w' ∧ w'.idx = w.idx + Len.binLen ops ∧
      w'.written = w.written ++ Binary.run .be ops ∧ w'.mem.drop w'.idx = w.mem.drop w'.idx ∧ w'.cap = w.cap := by
  obtain ⟨w', h1, e⟩ := uwRun_ok ops hwf w h
  exact ⟨w', h1, by rw [e.idx, Len.binLen_eq_run_length .be ops hwf], e.wr, e.tail, e.len⟩

/-- `uw_ops_safe_eq` for a well-typed value in a fresh window of at least `size` bytes: same bytes as the checked
writer, final index = their length. -/
theorem uw_safe_eq (v : TVal) (hw : v.wt = true) (cap : Nat) (h : Len.binLen v.ops ≤ cap) :
    ∃ w', uwRun (fresh cap) v.ops = .ok w' ∧ w'.written = Binary.run .be v.ops ∧
      w'.idx = (Binary.run .be v.ops).length ∧ w'.mem.drop w'.idx = List.replicate (cap - w'.idx) 0xAA := by
  obtain ⟨w', h1, hi, hwr, ht, _⟩ := uw_ops_safe_eq v.ops (TVal.ops_wf v hw) (fresh cap) (by simpa [fresh, Win.cap] using h)
  refine ⟨w', h1, by simpa [fresh, Win.written] using hwr, ?_, by simpa [fresh] using ht⟩
  rw [hi, Len.binLen_eq_run_length .be v.ops (TVal.ops_wf v hw)]; simp [fresh]

/-- the contract is needed: with a window too short the model's guard fires (the real code would write
past the window). -/
theorem uw_short_window_counterexample :
    (uwRun (fresh 6) (TVal.struct (.cons 1 (.i32 7) .nil)).ops).isPanic = true ∧
    Len.binLen (TVal.struct (.cons 1 (.i32 7) .nil)).ops = 8 := by decide

open Linked in
/-- LinkedBytes-backed unchecked writer (zero-copy on or off, any threshold, any string API), any
call sequence, any state whose window lies inside the transport's spare capacity: if the window has
room for the bytes that are *copied* (zero-copied payloads need none) the run succeeds — no write
outside the window, no `advance_mut` beyond the capacity — the transport ends up holding what it held
followed by the checked writer's bytes, `zero_copy_len` grew by the zero-copied payload lengths, and
the window is again inside the spare capacity. -/
theorem ulw_ops_safe_eq (zc : Bool) (thr : Nat) (api : StrApi) (ops : List Op) (hwf : ∀ o ∈ ops, o.wf = true)
    (s : LW) (hi : s.win.cap ≤ s.spare) (hx : s.win.idx ≤ s.win.cap)
    (h : s.win.idx + copyLenAll zc thr api ops ≤ s.win.cap) :
    ∃ s', ulwRun zc thr api s ops = .ok s' ∧ s'.out = s.out ++ Binary.run .be ops ∧
      s'.zlen = s.zlen + (ops.map (zcLen zc thr api)).sum ∧ s'.win.idx ≤ s'.win.cap ∧ s'.win.cap ≤ s'.spare := by
  obtain ⟨s', h1, st⟩ := ulwRun_ok zc thr api ops hwf s hi hx (Nat.le_sub_of_add_le' h)
  exact ⟨s', h1, st.out, st.zlen, st.ok, st.inv⟩

open Linked in
/-- the copied bytes never exceed the reported size, so a window of `size` bytes always suffices. -/
theorem copyLen_le_size (zc : Bool) (thr : Nat) (api : StrApi) (ops : List Op) :
    copyLenAll zc thr api ops ≤ Len.binLen ops := by
  induction ops with
  | nil => exact Nat.le_refl 0
  | cons o os ih =>
    simp only [copyLenAll, Len.binLen, List.map_cons, List.sum_cons] at ih ⊢
    refine Nat.add_le_add ?_ ih
    cases o with
    | bytes bs => simp only [copyLen, Len.binOp]; split <;> omega
    | msgBegin name mt seq => simp only [copyLen, Len.binOp]; split <;> omega
    | _ => exact Nat.le_refl _

open Linked in
/-- for a well-typed value and `freshL pre cap`, a LinkedBytes holding `pre` with `cap ≥ size` spare bytes. -/
theorem ulw_safe_eq (zc : Bool) (thr : Nat) (api : StrApi) (v : TVal) (hw : v.wt = true) (pre : Bytes) (cap : Nat)
    (h : Len.binLen v.ops ≤ cap) :
    ∃ s', ulwRun zc thr api (freshL pre cap) v.ops = .ok s' ∧ s'.out = pre ++ Binary.run .be v.ops ∧
      s'.zlen = (v.ops.map (zcLen zc thr api)).sum := by
  have hc := copyLen_le_size zc thr api v.ops
  obtain ⟨s', h1, ho, hz, _, _⟩ := ulw_ops_safe_eq zc thr api v.ops (TVal.ops_wf v hw) (freshL pre cap)
    (by simp [freshL, fresh, Win.cap]) (by simp [freshL, fresh]) (by simp [freshL, fresh, Win.cap]; omega)
  exact ⟨s', h1, by simpa [freshL, LW.out, fresh, Win.written] using ho, by simpa [freshL] using hz⟩

/-- Reader, against the checked reader on ARBITRARY input: whenever the checked big-endian reader
accepts (value `v`, rest `r`), the unchecked reader started anywhere inside a buffer whose unread part
is that input returns the same value without leaving the buffer, its unread part is `r`, its index is
still inside the buffer and `advanced + index` grew by exactly the bytes the checked reader consumed. -/
theorem ur_eq_checked (t : TType) (s : UR) (hv : s.idx ≤ s.bs.length) (v : TVal) (r : Bytes)
    (h : Binary.read .be t s.rest = .ok (v, r)) :
    ∃ s', Unsafe.read t s = .ok (v, s') ∧ s'.rest = r ∧ s'.idx ≤ s'.bs.length ∧
      s'.pos + r.length = s.pos + s.rest.length := by
  obtain ⟨s', h1, g⟩ := readVal_sim _ t s hv v r h
  exact ⟨s', h1, g.rest, g.valid, g.pos⟩

/-- Unchecked reader on the encoding of a well-typed value followed by anything: the value, exactly its length
consumed, the index never beyond the buffer. -/
theorem ur_safe_eq (v : TVal) (hw : v.wt = true) (r : Bytes) :
    ∃ s', Unsafe.read v.ttype { bs := Binary.run .be v.ops ++ r } = .ok (v, s') ∧ s'.rest = r ∧
      s'.pos = (Binary.run .be v.ops).length ∧ s'.idx ≤ s'.bs.length := by
  obtain ⟨s', h1, hr, hv, hp⟩ := ur_eq_checked v.ttype { bs := Binary.run .be v.ops ++ r } (by simp) v r
    (by simpa [UR.rest] using C01.binary_roundtrip .be v hw r)
  refine ⟨s', h1, hr, ?_, hv⟩
  have e : ({ bs := Binary.run .be v.ops ++ r } : UR).rest = Binary.run .be v.ops ++ r := by simp [UR.rest]
  have e2 : ({ bs := Binary.run .be v.ops ++ r } : UR).pos = 0 := by simp [UR.pos]
  rw [e, e2, List.length_append] at hp; omega

/-- `advanced + index` = bytes consumed by the checked reader at EVERY API boundary: each reader
primitive, whenever its checked twin accepts, succeeds with the same result and the same accounting. -/
theorem ur_consumed (s : UR) (hv : s.idx ≤ s.bs.length) :
    (∀ w n r, Binary.readI .be w s.rest = .ok (n, r) → ∃ s', readI w s = .ok (n, s') ∧ Good s r s') ∧
    (∀ n r, Binary.readU .be 8 s.rest = .ok (n, r) → ∃ s', readU 8 s = .ok (n, s') ∧ Good s r s') ∧
    (∀ b r, Binary.takeN 16 s.rest = .ok (b, r) → ∃ s', peek s 16 = .ok (b, s') ∧ Good s r s') ∧
    (∀ b r, Binary.readBytes .be s.rest = .ok (b, r) → ∃ s', readBytes s = .ok (b, s') ∧ Good s r s') ∧
    (∀ x r, Binary.readFieldBegin .be s.rest = .ok (x, r) → ∃ s', readFieldBegin s = .ok (x, s') ∧ Good s r s') ∧
    (∀ x r, Binary.readListBegin .be s.rest = .ok (x, r) → ∃ s', readListBegin s = .ok (x, s') ∧ Good s r s') ∧
    (∀ x r, Binary.readMapBegin .be s.rest = .ok (x, r) → ∃ s', readMapBegin s = .ok (x, s') ∧ Good s r s') :=
  ⟨fun w _ _ => (readI_sim s hv w) _ _, fun _ _ => (readU_sim s hv 8) _ _, fun _ _ => (peek_sim s hv 16) _ _,
   fun _ _ => (readBytes_sim s hv) _ _, fun _ _ => (readFieldBegin_sim s hv) _ _,
   fun _ _ => (readListBegin_sim s hv) _ _, fun _ _ => (readMapBegin_sim s hv) _ _⟩

/-- message envelope: whenever the checked `read_message_begin` accepts, the unchecked one returns the same
(name, type, seqid) without leaving the buffer, accounts for the same bytes, and re-anchors (`index = 0`). -/
theorem ur_msg_eq_checked (s : UR) (hv : s.idx ≤ s.bs.length) (x : Bytes × Nat × Int) (r : Bytes)
    (h : Msg.readBeginBin .be s.rest = .ok (x, r)) :
    ∃ s', Unsafe.readMessageBegin s = .ok (x, s') ∧ s'.rest = r ∧ s'.idx = 0 ∧ s'.pos + r.length = s.pos + s.rest.length := by
  obtain ⟨s', h1, g, h0⟩ := readMessageBegin_sim s hv x r h
  exact ⟨s', h1, g.rest, h0, g.pos⟩

/-- a script of reads on ONE reader instance (what a decoder of several values does). -/
def readAll : List TType → UR → Out (List TVal × UR)
  | [], s => .ok ([], s)
  | t :: ts, s => match Unsafe.read t s with
    | .ok (v, s) => match readAll ts s with
      | .ok (vs, s) => .ok (v :: vs, s)
      | .err k => .err k | .panic m => .panic m | .fuel => .fuel
    | .err k => .err k | .panic m => .panic m | .fuel => .fuel

/-- sequences: values written back to back are read back by one unchecked reader instance, and
`advanced + index` ends at the total length. -/
theorem ur_seq_safe_eq (vs : List TVal) (hw : ∀ v ∈ vs, v.wt = true) (r : Bytes) (s : UR) (hv : s.idx ≤ s.bs.length)
    (hs : s.rest = Binary.run .be (vs.flatMap TVal.ops) ++ r) :
    ∃ s', readAll (vs.map TVal.ttype) s = .ok (vs, s') ∧ s'.rest = r ∧ s'.idx ≤ s'.bs.length ∧
      s'.pos = s.pos + (Binary.run .be (vs.flatMap TVal.ops)).length := by
  induction vs generalizing s with
  | nil => exact ⟨s, rfl, by simpa [Binary.run] using hs, hv, by simp [Binary.run]⟩
  | cons v vs ih =>
    simp only [List.flatMap_cons, Binary.run_append, List.append_assoc] at hs
    obtain ⟨s1, h1, hr1, hv1, hp1⟩ := ur_eq_checked v.ttype s hv v _
      (by rw [hs]; exact C01.binary_roundtrip .be v (hw v (by simp)) _)
    obtain ⟨s2, h2, hr2, hv2, hp2⟩ := ih (fun x hx => hw x (by simp [hx])) s1 hv1 hr1
    refine ⟨s2, by simp [readAll, h1, h2], hr2, hv2, ?_⟩
    rw [hs] at hp1
    simp only [List.flatMap_cons, Binary.run_append, List.length_append] at hp1 hp2 ⊢
    omega

/-- a struct with a 5-byte payload (zero-copied at threshold 4 in the example below), a nested struct, a bool,
a list and a uuid: well-typed, so every hypothesis above is satisfiable. -/
def witness : TVal :=
  .struct (.cons 1 (.bin (List.replicate 5 0x61))
          (.cons 2 (.struct (.cons 5 (.i64 (-1)) .nil))
          (.cons 3 (.bool true)
          (.cons 4 (.list .i16 (.cons (.i16 7) (.cons (.i16 (-7)) .nil)))
          (.cons 9 (.uuid (List.replicate 16 0xEE)) .nil)))))

example : witness.wt = true := by decide
example : Len.binLen witness.ops ≤ 64 := by decide
-- the zero-copy branch is reachable in the model (threshold 4, payload of 5 bytes)
example : (match ulwRun true 4 .bytes (freshL [] 64) witness.ops with
    | .ok s' => s'.zlen == 5 && s'.nodes.length == 2 && s'.out == Binary.run .be witness.ops
    | _ => false) = true := by decide +kernel
example : (⟨[1, 2, 3], 1, 0⟩ : UR).idx ≤ (⟨[1, 2, 3], 1, 0⟩ : UR).bs.length := by decide

end Pilota.Props.C11
