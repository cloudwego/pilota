import PilotaModel.Lemmas.IdlTotal
/-
  C16 — the IDL parser is total.

  `File.parse` (Idl/Parser.lean) is the function T1 compares with `File::parse` of
  pilota-thrift-parser on every request of streams C15 and C16; the sub-parsers named below are
  compared individually (verb `idl-parse <kind>`).

  Panic sites of the Rust (and of the nom combinators it calls) that the model carries as explicit
  `.panic` branches: `IntConstant(-d.0)` (debug-build overflow, constant.rs),
  `escaped`'s `iter_elements().next().unwrap()`, `tag_no_case`'s byte-offset `take_split`.
  `map_res` conversions (`i64::from_str`, `from_str_radix`, `parse::<i32>`) are error branches.
-/
namespace Pilota.Props.C16
open Pilota.Idl

/-- No input makes `File::parse` panic: it returns a document, an error or a failure. -/
theorem parse_total (s : List Char) : (File.parse s).isPanic = false := by
  have h := file_parse_inv s
  cases e : File.parse s <;> simp [e, PR.isPanic] at h ⊢

/-- The model's recursion budget `input.length + 2` is never exhausted: the model's answer is
never an artefact of the budget (and the parser's loops terminate on every input). -/
theorem parse_no_fuel (s : List Char) : File.parse s ≠ .fuel :=
  file_parse_no_fuel s

/-- A successful `File::parse` has consumed the whole text (`many_till(…, eof)`). -/
theorem parse_ok_consumes_all (s : List Char) (f : File) (r : List Char) (h : File.parse s = .ok f r) : r = [] :=
  file_parse_rest s f r h

/-- Every sub-parser the harness exercises on its own: no panic, the rest is a suffix
of the input, and the budget `d` is exhausted only by inputs with at least `d` nesting characters. -/
theorem subparsers_total (d : Nat) :
    Good d (Item.parse d) ∧ Good d (Type.parse d) ∧ Good d (ConstValue.parse d) ∧ Good d (Field.parse d) ∧
    Good d (Function.parse d) ∧ Good d Ident.parse ∧ Good d Path.parse ∧ Good d Literal.parse ∧
    Good d Annotations.parse ∧ Good d IntConstant.parse ∧ Good d DoubleConstant.parse :=
  ⟨(reg_item d).good, (reg_type d).good, (reg_constValue d).good, (reg_field d).good, (reg_function d).good,
   reg_ident.good, reg_path.good, reg_literal.good, reg_annotations.good, reg_intConstant.good, reg_doubleConstant.good⟩

/-- Call depth.  `File.parseD d` is the parser with at most `d` nested recursive frames of
`Ty::parse` / `ConstValue::parse` (the only recursive parsers).  `d` frames suffice
for every text with fewer than `d` opening brackets (`<`, `[`, `{`), and then the answer is
`File::parse`'s.

PARTIAL with respect to the property's wording in two respects: the bound is in the NUMBER of
opening brackets, which dominates the bracket nesting depth (for the nesting ladders the two
coincide; a bound in the true nesting depth would need a lexer-level notion of nesting that skips
strings and comments); and the 2 MiB clause is frames × frame size, which only the harness can
measure (C16 stream: ladders 1..64 / 128 on a 2 MiB thread; stack probe: 40 000 / 100 000 minus signs). -/
theorem parse_depth_partial (s : List Char) (d : Nat) (h : nest s < d) :
    File.parseD d s ≠ .fuel ∧ File.parseD d s = File.parse s := by
  have h1 : File.parseD d s ≠ .fuel := (reg_fileD d).good.no_fuel h
  refine ⟨h1, ?_⟩
  unfold File.parse
  rcases Nat.le_total d (s.length + 2) with hle | hle
  · exact (ext_fileD hle s h1).symm
  · exact ext_fileD hle s (parse_no_fuel s)

/-- The budget never changes an answer: a larger budget returns the same result. -/
theorem budget_irrelevant (s : List Char) (d d' : Nat) (hle : d ≤ d') (h : File.parseD d s ≠ .fuel) :
    File.parseD d' s = File.parseD d s := ext_fileD hle s h

/-- `IntConstant::parse` accepts at most one sign and does not call
itself: a run of two or more `-` is rejected after looking at two characters, whatever follows. -/
theorem minus_run_rejected (n : Nat) (r : List Char) :
    IntConstant.parse (List.replicate (n + 2) '-' ++ r) = .err := by
  have hu : ∀ x, IntConstant.unsigned ('-' :: x) = .err := by
    intro x
    simp [IntConstant.unsigned, alt, skip, andThen, tag, stripPrefix, PR.bind, mapRes, digit1, takeWhile1, isDecDigit]
  simp [IntConstant.parse, List.replicate_succ, alt, skip, andThen, tag, stripPrefix, pmapChecked, hu, PR.bind]

/-- A document with a run of `n` minus signs needs one frame of recursion budget however long the run
(minus signs are not nesting characters). -/
theorem minus_run_needs_no_depth (n : Nat) :
    File.parseD 1 (cs!"const i64 c = " ++ (List.replicate n '-' ++ ['7'])) ≠ .fuel := by
  refine (parse_depth_partial _ 1 ?_).1
  have : nest (List.replicate n '-') = 0 := by
    unfold nest; rw [List.countP_replicate]; simp [isNestChar]
  rw [nest_append, nest_append, this]
  decide

theorem minus_run_document :
    (File.parse cs!"const i64 c = ------7").isErr = true ∧ (File.parse cs!"const i64 c = -7").isOk = true := by
  constructor <;> decide

example : nest cs!"typedef list<map<i32,set<i8>>> T" < 4 := by decide
example : (File.parse cs!"struct S { 1: i32 a }").isOk = true := by decide

end Pilota.Props.C16
