import PilotaModel.Props.C01
import PilotaModel.Props.Tables
import PilotaModel.Lemmas.SkipRead
import PilotaModel.Lemmas.IterSkip
/-
  C07 — Skipping a Thrift value consumes exactly that value.

  Skippers (model in `Thrift/Skip.lean`):
    `Skip.skip e`        default recursive `skip_till_depth` of thrift/mod.rs on the binary (e = be) / LE reader
    `Skip.cskip`         the compact reader's own `skip_till_depth` (count = bytes before − after)
    `Skip.askipBinary`   the async skipper of mod.rs over the async binary reader, fully delivered stream
    `Skip.askipCompact`  the async skipper over the async compact reader
    `Skip.iterSkip`      the unchecked reader's iterative skipper (explicit stack machine); no depth argument
  Depth budgets are `Int`s holding the `i8` argument; theorems take `0 ≤ d` (`skip` passes 64).
-/
namespace Pilota.Props.C07
open Pilota Pilota.Thrift

/-- Binary / LE, every byte string `bs` (not only canonical encodings): wherever the reading
interpreter returns a value `v` and rest `r`, skipping with a budget that covers the nesting of `v`
returns `r` as well and reports exactly the number of bytes in between; with a smaller budget it
is refused with the depth-limit error. -/
theorem skip_consumes_what_read_consumes (e : Endian) (t : TType) (bs : Bytes) (v : TVal) (r : Bytes) (d : Int) (hd : 0 ≤ d)
    (h : Binary.read e t bs = .ok (v, r)) :
    Skip.skip e d t bs = if (v.need : Int) ≤ d then .ok (bs.length - r.length, r) else .err .depth :=
  Skip.skip_of_read hd h

/-- `skip_consumes_what_read_consumes` for the compact reader's skipper, from every reader state; the state afterwards is
the state the reader would be in. -/
theorem compact_skip_consumes_what_read_consumes (t : TType) (s : Compact.CR) (bs : Bytes) (v : TVal) (s' : Compact.CR) (r : Bytes)
    (d : Int) (hd : 0 ≤ d) (h : Compact.read t s bs = .ok (v, s', r)) :
    Skip.cskip d t s bs = if (v.need : Int) ≤ d then .ok (bs.length - r.length, s', r) else .err .depth := by
  unfold Compact.read at h
  unfold Skip.cskip Skip.cskipVal
  rw [Skip.rdSkip_of_read Skip.compact_skips hd h]
  by_cases hn : (v.need : Int) ≤ d
  · rw [if_pos hn, if_pos hn]
  · rw [if_neg hn, if_neg hn]

/-- the count a successful skip reports is the number of bytes it consumed, on every input. -/
theorem skip_count_exact (e : Endian) (d : Int) (t : TType) (bs : Bytes) (k : Nat) (r : Bytes)
    (h : Skip.skip e d t bs = .ok (k, r)) : k + r.length = bs.length ∧ 1 ≤ k := by
  have := ((Skip.skipVal_safe e _).1 d t bs).ok h
  dsimp only at this; omega

/-- Binary / LE: skipping what the op sequence of a well-typed value wrote, followed by any bytes,
with any budget covering the value's nesting, reports the encoded length and leaves exactly the
trailing bytes. -/
theorem skip_exact (e : Endian) (v : TVal) (hw : v.wt = true) (d : Int) (hd : (v.need : Int) ≤ d) (r : Bytes) :
    Skip.skip e d v.ttype (Binary.run e v.ops ++ r) = .ok ((Binary.run e v.ops).length, r) := by
  have h0 : 0 ≤ d := by have := TVal.need_pos v; omega
  have := skip_consumes_what_read_consumes e v.ttype _ v r d h0 (C01.binary_roundtrip e v hw r)
  rw [this]; simp [hd]

/-- Nesting deeper than the budget is refused with the depth-limit error (binary / LE). -/
theorem skip_depth (e : Endian) (v : TVal) (hw : v.wt = true) (d : Int) (h0 : 0 ≤ d) (hd : d < (v.need : Int)) (r : Bytes) :
    Skip.skip e d v.ttype (Binary.run e v.ops ++ r) = .err .depth := by
  have := skip_consumes_what_read_consumes e v.ttype _ v r d h0 (C01.binary_roundtrip e v hw r)
  rw [this]; simp; omega

/-- `skip()`, which passes `MAXIMUM_SKIP_DEPTH` (T2: 64), refuses nesting 65. -/
theorem skip_default_limit (e : Endian) (v : TVal) (hw : v.wt = true) (hd : Gen.Tables.maximumSkipDepth < v.need) (r : Bytes) :
    Skip.skip e Gen.Tables.maximumSkipDepth v.ttype (Binary.run e v.ops ++ r) = .err .depth :=
  skip_depth e v hw _ (by simp) (by omega) r

/-- What follows a skipped value decodes as if the skipped value had never been there. -/
theorem skip_then_read (e : Endian) (v w : TVal) (hv : v.wt = true) (hw : w.wt = true) (d : Int) (hd : (v.need : Int) ≤ d) (r : Bytes) :
    ∃ rest, Skip.skip e d v.ttype (Binary.run e v.ops ++ (Binary.run e w.ops ++ r)) = .ok ((Binary.run e v.ops).length, rest) ∧
      Binary.read e w.ttype rest = .ok (w, r) :=
  ⟨_, skip_exact e v hv d hd _, C01.binary_roundtrip e w hw r⟩

/-- Compact: from any writer state without a deferred bool and any reader state without a pending
bool, skipping the written value reports its length, leaves the trailing bytes, and leaves the
reader state (last field id, field-id stack) as it was. -/
theorem compact_skip_exact (v : TVal) (hw : v.wt = true) (ws : Compact.CW) (hp : ws.pending = none) (d : Int) (hd : (v.need : Int) ≤ d) :
    ∃ bs, Compact.run ws v.ops = .ok (ws, bs) ∧
      ∀ (rs : Compact.CR), rs.pendingBool = none → ∀ r : Bytes,
        Skip.cskip d v.ttype rs (bs ++ r) = .ok (bs.length, rs, r) := by
  obtain ⟨bs, h1, h2⟩ := C01.compact_roundtrip v hw ws hp
  refine ⟨bs, h1, fun rs hr r => ?_⟩
  have h0 : 0 ≤ d := by have := TVal.need_pos v; omega
  have := compact_skip_consumes_what_read_consumes v.ttype rs _ _ rs r d h0 (h2 rs hr r)
  rw [this, Skip.need_norm]; simp [hd]

theorem compact_skip_depth (v : TVal) (hw : v.wt = true) (ws : Compact.CW) (hp : ws.pending = none) (d : Int) (h0 : 0 ≤ d) (hd : d < (v.need : Int)) :
    ∃ bs, Compact.run ws v.ops = .ok (ws, bs) ∧
      ∀ (rs : Compact.CR), rs.pendingBool = none → ∀ r : Bytes, Skip.cskip d v.ttype rs (bs ++ r) = .err .depth := by
  obtain ⟨bs, h1, h2⟩ := C01.compact_roundtrip v hw ws hp
  refine ⟨bs, h1, fun rs hr r => ?_⟩
  have := compact_skip_consumes_what_read_consumes v.ttype rs _ _ rs r d h0 (h2 rs hr r)
  rw [this, Skip.need_norm]; simp; omega

theorem compact_skip_then_read (v w : TVal) (hv : v.wt = true) (hw : w.wt = true) (ws : Compact.CW) (hp : ws.pending = none)
    (d : Int) (hd : (v.need : Int) ≤ d) :
    ∃ b1 b2, Compact.run ws v.ops = .ok (ws, b1) ∧ Compact.run ws w.ops = .ok (ws, b2) ∧
      ∀ (rs : Compact.CR), rs.pendingBool = none → ∀ r : Bytes,
        Skip.cskip d v.ttype rs (b1 ++ (b2 ++ r)) = .ok (b1.length, rs, b2 ++ r) ∧
        Compact.read w.ttype rs (b2 ++ r) = .ok (Compact.norm w, rs, r) := by
  obtain ⟨b1, h1, h2⟩ := compact_skip_exact v hv ws hp d hd
  obtain ⟨b2, h3, h4⟩ := C01.compact_roundtrip w hw ws hp
  exact ⟨b1, b2, h1, h3, fun rs hr r => ⟨h2 rs hr _, h4 rs hr r⟩⟩

/-- async binary: the stream position after the skip is exactly past the value.  `hlen`: the
delivered bytes number fewer than 2^63 (true of every buffer a Rust program can hold). -/
theorem async_binary_skip_exact (v : TVal) (hw : v.wt = true) (d : Int) (hd : (v.need : Int) ≤ d) (r : Bytes)
    (hlen : (Binary.run .be v.ops ++ r).length < 2 ^ 63) :
    Skip.askipBinary d v.ttype (Binary.run .be v.ops ++ r) = .ok ((), r) := by
  have h0 : 0 ≤ d := by have := TVal.need_pos v; omega
  have hr := C01.binary_roundtrip .be v hw r
  unfold Binary.read at hr
  unfold Skip.askipBinary
  have := (Skip.askip_of_read (3 * (Binary.run .be v.ops ++ r).length + 3)).1 d v.ttype _ h0 hlen
  rw [hr] at this
  rw [this]; simp [Skip.specU, hd]

theorem async_binary_skip_depth (v : TVal) (hw : v.wt = true) (d : Int) (h0 : 0 ≤ d) (hd : d < (v.need : Int)) (r : Bytes)
    (hlen : (Binary.run .be v.ops ++ r).length < 2 ^ 63) :
    Skip.askipBinary d v.ttype (Binary.run .be v.ops ++ r) = .err .depth := by
  have hr := C01.binary_roundtrip .be v hw r
  unfold Binary.read at hr
  unfold Skip.askipBinary
  have := (Skip.askip_of_read (3 * (Binary.run .be v.ops ++ r).length + 3)).1 d v.ttype _ h0 hlen
  rw [hr] at this
  rw [this]; simp [Skip.specU]; omega

/-- async compact: position past the value, reader state restored. -/
theorem async_compact_skip_exact (v : TVal) (hw : v.wt = true) (ws : Compact.CW) (hp : ws.pending = none) (d : Int) (hd : (v.need : Int) ≤ d) :
    ∃ bs, Compact.run ws v.ops = .ok (ws, bs) ∧
      ∀ (rs : Compact.CR), rs.pendingBool = none → ∀ r : Bytes,
        Skip.askipCompact d v.ttype rs (bs ++ r) = .ok (rs, r) := by
  obtain ⟨bs, h1, h2⟩ := C01.compact_roundtrip v hw ws hp
  refine ⟨bs, h1, fun rs hr r => ?_⟩
  have h0 : 0 ≤ d := by have := TVal.need_pos v; omega
  have hrd := h2 rs hr r
  unfold Compact.read at hrd
  unfold Skip.askipCompact
  rw [Skip.rdSkip_of_read Skip.asyncCompact_skips h0 hrd, Skip.need_norm, if_pos hd]

theorem async_compact_skip_depth (v : TVal) (hw : v.wt = true) (ws : Compact.CW) (hp : ws.pending = none) (d : Int) (h0 : 0 ≤ d) (hd : d < (v.need : Int)) :
    ∃ bs, Compact.run ws v.ops = .ok (ws, bs) ∧
      ∀ (rs : Compact.CR), rs.pendingBool = none → ∀ r : Bytes, Skip.askipCompact d v.ttype rs (bs ++ r) = .err .depth := by
  obtain ⟨bs, h1, h2⟩ := C01.compact_roundtrip v hw ws hp
  refine ⟨bs, h1, fun rs hr r => ?_⟩
  have hrd := h2 rs hr r
  unfold Compact.read at hrd
  unfold Skip.askipCompact
  rw [Skip.rdSkip_of_read Skip.asyncCompact_skips h0 hrd, Skip.need_norm, if_neg (by omega)]

/-- T2: the fast-path table of the iterative skipper holds, for every type, the width of the
binary encoding of the fixed-size types and 0 for the others. -/
theorem fixed_size_table_used (t : TType) : Skip.fixedSize t = .ok (Tables.fixedWidth t) := Skip.fixedSize_eq t

/-- a non-zero width in that table is the length of what the binary writer writes for a value of that type. -/
theorem fixed_width_is_written_width (v : TVal) (hw : v.wt = true) (hf : 0 < Tables.fixedWidth v.ttype) :
    (Binary.run .be v.ops).length = Tables.fixedWidth v.ttype := by
  rw [Binary.run_ops]; exact Skip.enc_fixed_len v hw (Skip.isFixed_iff.mpr hf)

/-- Refinement of the stack machine to the value structure: for every well-typed value, at EVERY
nesting depth (the machine keeps its pending containers on a heap stack and ignores the depth
argument; DESIGN.md D19), the iterative skipper reports the encoded length and leaves exactly the
trailing bytes. -/
theorem iter_skip_exact (v : TVal) (hw : v.wt = true) (r : Bytes) :
    Skip.iterSkip v.ttype (Binary.run .be v.ops ++ r) = .ok ((Binary.run .be v.ops).length, r) := by
  rw [Binary.run_ops]; exact Skip.iterSkip_enc v hw r

theorem iter_skip_then_read (v w : TVal) (hv : v.wt = true) (hw : w.wt = true) (r : Bytes) :
    ∃ rest, Skip.iterSkip v.ttype (Binary.run .be v.ops ++ (Binary.run .be w.ops ++ r)) = .ok ((Binary.run .be v.ops).length, rest) ∧
      Binary.read .be w.ttype rest = .ok (w, r) :=
  ⟨_, iter_skip_exact v hv _, C01.binary_roundtrip .be w hw r⟩

/-- a struct holding a nested struct, a bool field, a `list<struct>`, a map with struct keys and
list values, a uuid: nesting need 4. -/
def witness : TVal :=
  .struct (.cons 1 (.struct (.cons 5 (.i32 1) .nil))
          (.cons 2 (.bool true)
          (.cons 3 (.list .struct (.cons (.struct (.cons 1 (.bin [1, 2]) .nil)) (.cons (.struct .nil) .nil)))
          (.cons 4 (.map .struct .list (.cons (.struct .nil) (.list .uuid (.cons (.uuid (List.replicate 16 7)) .nil)) .nil))
          (.cons 20 (.uuid (List.replicate 16 0)) .nil)))))

example : witness.wt = true := by decide
example : witness.need = 4 := by decide
example : ((witness.need : Int) ≤ 64) ∧ ((3 : Int) < witness.need) ∧ (0 : Int) ≤ 3 := by decide
example : (Binary.run .be witness.ops ++ [0xaa]).length < 2 ^ 63 := by decide
example : ({} : Compact.CW).pending = none ∧ ({} : Compact.CR).pendingBool = none := ⟨rfl, rfl⟩
example : Binary.read .be .bool [0x07, 0xaa] = .ok (.bool true, [0xaa]) := by rfl   -- a non-canonical bool the reader accepts
/-- a well-typed value nested deeper than the default budget. -/
def deep : Nat → TVal
  | 0 => .i8 1
  | n+1 => .list (deep n).ttype (.cons (deep n) .nil)
example : (deep 70).wt = true ∧ Gen.Tables.maximumSkipDepth < (deep 70).need := by decide +kernel
example : 0 < Tables.fixedWidth (TVal.i64 5).ttype := by decide

end Pilota.Props.C07
