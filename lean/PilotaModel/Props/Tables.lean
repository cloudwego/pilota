import PilotaModel.Gen.Tables
import PilotaModel.Thrift.Compact
/-
  T2 tie: the tables extracted from /repo's source on this run against the hand-written model.  Every theorem is a total
  `decide` over a finite domain.  `ttype_codes`, `ttype_lookup`, `compact_of_ttype`, `ttype_of_compact` compare the
  extraction with the model's own functions, `fixed_size_table` with `fixedWidth` (which `C07.fixed_size_table_used` ties
  to `Skip.fixedSize`).  `constants` and `compact_msg_header` compare it with numerals written out here: that the model's
  definitions (`TGen.skipDepth`, the version words of Thrift/Binary.lean and Thrift/Msg.lean, the header byte in
  `Compact.wStep`) carry the same numerals is by inspection; of the constants only `maximumSkipDepth` is used by a theorem
  (`C07.skip_default_limit`).
-/
namespace Pilota.Props.Tables
open Pilota Pilota.Thrift Pilota.Gen.Tables

def assoc {α β} [DecidableEq α] (a : α) : List (α × β) → Option β
  | [] => none
  | (k, v) :: r => if k = a then some v else assoc a r

/-- `TType as u8` in the model is the enum discriminant in thrift/mod.rs. -/
theorem ttype_codes : ∀ t ∈ TType.all, assoc t ttypeCodes = some t.toByte := by decide

/-- `TType::try_from(u8)` in the model is `TTYPE_LOOKUP`, for all 256 bytes. -/
theorem ttype_lookup : ∀ b : Fin 256, TType.ofByte b.val = (ttypeLookup[b.val]?).join := by decide +kernel

/-- `TCompactType::try_from(TType)`. -/
theorem compact_of_ttype : ∀ t ∈ TType.all, Compact.compactOf t = assoc t compactOfTType := by decide

/-- `TCompactType::try_from(u8)` then `TType::try_from(TCompactType)`, for all 256 bytes. -/
theorem ttype_of_compact : ∀ b : Fin 256,
    Compact.ttypeOfCompact b.val = (assoc b.val compactOfU8).bind (fun c => assoc c ttypeOfCompact) := by decide +kernel

/-- fixed-size table used by the unchecked skipper: width of the fixed-size types, 0 otherwise. -/
def fixedWidth : TType → Nat
  | .bool => 1 | .i8 => 1 | .double => 8 | .i16 => 2 | .i32 => 4 | .i64 => 8 | .uuid => 16
  | _ => 0

theorem fixed_size_table : ∀ t ∈ TType.all, binaryFixedSize[t.toByte]? = some (fixedWidth t) := by decide

theorem constants :
    maximumSkipDepth = 64 ∧ zeroCopyThreshold = 4096 ∧
    binVersion1 = 0x80010000 ∧ unsafeVersion1 = 0x80010000 ∧ leVersion = 0x88880000 ∧ binVersionMask = 0xffff0000 ∧
    cCompactProtocolId = 0x82 ∧ cCompactVersion = 1 ∧ cCompactVersionMask = 0x1f ∧ cCompactTypeMask = 0xE0 ∧
    cCompactTypeShiftAmount = 5 ∧ compactBooleanTrue = 1 ∧ compactBooleanFalse = 2 ∧
    messageTypeCodes = [1, 2, 3, 4] ∧ messageTypeOfU8 = [(1, 1), (2, 2), (3, 3), (4, 4)] := by decide

/-- the compact message header byte `(VERSION & MASK) | ((mtype << SHIFT) & TYPE_MASK)` is what the model writes. -/
theorem compact_msg_header : ∀ mt ∈ messageTypeCodes,
    ((cCompactVersion &&& cCompactVersionMask) ||| ((mt <<< cCompactTypeShiftAmount) % 256 &&& cCompactTypeMask)) = 1 + (mt * 32) % 256 := by decide

end Pilota.Props.Tables
