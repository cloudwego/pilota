import PilotaModel.Lemmas.PbGroup
import PilotaModel.Lemmas.PbTop
import PilotaModel.Lemmas.PbEval
/-
  C05 — protobuf encode/decode round trip and encoded_len agreement.
-/
namespace Pilota.Props.C05
open Pilota Pilota.Proto

/-- `decode_varint (encode_varint n ++ rest) = (n, rest)` for every `u64`. -/
theorem varint_rt (n : Nat) (h : n < 2 ^ 64) (rest : Bytes) :
    decodeVarint (encodeVarint n ++ rest) = .ok (n, rest) := decodeVarint_encode n h rest

/-- `encoded_len_varint n` is the number of bytes `encode_varint n` writes, for every `u64`. -/
theorem varint_len (n : Nat) (h : n < 2 ^ 64) : encodedLenVarint n = (encodeVarint n).length := by
  rw [encodedLenVarint_eq n h, encodeVarint, encVar_length]

/-- keys: every tag in `MIN_TAG..=MAX_TAG`, every wire type. -/
theorem key_rt (tag : Nat) (h1 : minTag ≤ tag) (h2 : tag ≤ maxTag) (wt : WireType) (rest : Bytes) :
    encodeKey tag wt = .ok (keyBytes tag wt) ∧
    decodeKey (keyBytes tag wt ++ rest) = .ok ((tag, wt), rest) ∧
    keyLen tag = (keyBytes tag wt).length :=
  ⟨encodeKey_ok tag wt h1 h2, decodeKey_keyBytes tag wt h1 h2 rest, keyLen_eq tag wt h2⟩

/-- every codec module, every tag in range, every value of the module's Rust type: the key reads
back as (tag, the module's wire type); `merge` returns the value and leaves exactly the trailing
bytes; `encoded_len` is the number of bytes `encode` wrote. -/
theorem scalar_rt (c : Codec) (tag : Nat) (h1 : minTag ≤ tag) (h2 : tag ≤ maxTag) (v : SVal)
    (hv : c.ok v = true) (hl : Codec.lenOk v) (rest : Bytes) :
    decodeKey (c.encode tag v ++ rest) = .ok ((tag, c.wt), c.encPayload v ++ rest) ∧
    c.merge c.wt (c.encPayload v ++ rest) = .ok (v, rest) ∧
    c.encodedLen tag v = (c.encode tag v).length :=
  ⟨(Codec.field_rt c tag h1 h2 v hv hl rest).1, (Codec.field_rt c tag h1 h2 v hv hl rest).2,
   Codec.encodedLen_eq c tag h2 v hl⟩

/-- `encode_repeated` read back by the `Message::merge` loop through `merge_repeated`, and
`encoded_len_repeated`. -/
theorem repeated_rt (c : Codec) (tag : Nat) (h1 : minTag ≤ tag) (h2 : tag ≤ maxTag) (vs : List SVal)
    (hv : Codec.allOk c vs) :
    c.mergeAll ((c.encodeRepeated tag vs).length + 1) [] (c.encodeRepeated tag vs) = .ok vs ∧
    c.encodedLenRepeated tag vs = (c.encodeRepeated tag vs).length := by
  refine ⟨?_, Codec.encodedLenRepeated_eq c tag h2 vs (fun v h => (hv v h).2)⟩
  simpa using Codec.mergeAll_repeated c tag h1 h2 vs hv [] _ (Nat.lt_succ_self _)

/-- `encode_packed` of a numeric module read back by `merge_repeated` (packed arm), and
`encoded_len_packed`.  `hlen`: the payload length is a `usize`.  Budget `+ 2`: one iteration of the `Message::merge`
loop for the record, one to see that the input is empty. -/
theorem packed_rt (c : Codec) (hn : c.isNumeric = true) (tag : Nat) (h1 : minTag ≤ tag) (h2 : tag ≤ maxTag)
    (vs : List SVal) (hv : Codec.allOk c vs) (hlen : c.payloadLenSum vs < 2 ^ 64) :
    c.mergeAll ((c.encodePacked tag vs).length + 2) [] (c.encodePacked tag vs) = .ok vs ∧
    c.encodedLenPacked tag vs = (c.encodePacked tag vs).length :=
  ⟨Codec.mergeAll_packed c hn tag h1 h2 vs hv hlen _ (by omega),
   Codec.encodedLenPacked_eq c tag h2 vs (fun v h => (hv v h).2) hlen⟩

/-- a packed run may also arrive inside a message that already holds elements (split runs, mixed
packed / unpacked): `merge_repeated` appends. -/
theorem packed_appends (c : Codec) (hn : c.isNumeric = true) (vs : List SVal) (hv : Codec.allOk c vs)
    (hlen : c.payloadLenSum vs < 2 ^ 64) (acc : List SVal) (rest : Bytes) :
    c.mergeRepeated .len acc (encodeVarint (c.payloadLenSum vs) ++ (vs.flatMap c.encPayload ++ rest)) = .ok (acc ++ vs, rest) :=
  Codec.mergeRepeated_packed c hn vs hv hlen acc rest

/-- **round trip and `encoded_len` for every generated message**: every well-formed schema
(field numbers in range and distinct per message, references resolve), every message of it, every
value of the generated struct (`HasType`: scalars in the range of their Rust type, map keys
distinct, nesting within the recursion limit of 100, lengths `usize`), both settings of
`pb-encode-default-value`: `Message::decode (encode m) = Ok m` and `encoded_len m` is the number
of bytes written.  With the feature off `HasType` also asks that a map value that is `==` its
default (IEEE `==`: either zero) is the default bit for bit — see `negzero_counterexample`. -/
theorem pb_roundtrip (s : Schema) (hs : WFSchema s = true) (flag : Bool) (i : Nat) (m : Slots) (hm : HasType s flag i m) :
    decode s i (encode s flag i m) = .ok m ∧ encodedLen s flag i m = (encode s flag i m).length :=
  ⟨decode_encode s flag hs i m hm, encodedLen_encode s flag hs i m hm.1⟩

/-- nested message field through `message::encode` / `message::merge`: key, length prefix,
exact consumption, and field-wise merge into whatever value `x` the field held; with a budget
that covers the nesting of `y`.  (`pb_roundtrip` rests on the same fold of `merge_field` over the records, at top level
and from the default.) -/
theorem message_rt (s : Schema) (hs : WFSchema s = true) (flag : Bool) (tag : Nat) (ht : tagOk tag = true) (i : Nat)
    (hi : i < s.length) (x y : EVal) (ctx : Nat) (hy : okE s flag (.msg i) y = true) (hn : needE y ≤ ctx)
    (hx : shapeE s (.msg i) x = true) (rest : Bytes) :
    encE s flag tag (.msg i) y = keyBytes tag .len ++ payE s flag (.msg i) y ∧
    mergeE s (recurOf s ctx) (.msg i) x .len (payE s flag (.msg i) y ++ rest) = .ok (mergeValE s (.msg i) x y, rest) ∧
    lenE s flag tag (.msg i) y = (encE s flag tag (.msg i) y).length :=
  ⟨encE_split s flag tag (.msg i) y hy,
   mergeE_pay s flag hs (.msg i) x y ctx hy hn hx rest,
   lenE_eq s flag hs tag ht (.msg i) y hy⟩

/-- map field (`hash_map::encode / merge`, key = 1 / value = 2 entries), both flag settings:
a struct whose only field is the map round-trips; compared as association lists with distinct
keys in the order the encoder iterated. -/
theorem map_rt (s : Schema) (hs : WFSchema s = true) (flag : Bool) (i t : Nat) (kc : Codec) (vty : FTy)
    (hd : decls s i = [.map t kc vty]) (kvs : Pairs) (hm : HasType s flag i (.cons (.map kvs) .nil)) :
    decode s i (encode s flag i (.cons (.map kvs) .nil)) = .ok (.cons (.map kvs) .nil) ∧
    lenPairs s flag t kc vty kvs = (encPairs s flag t kc vty kvs).length := by
  refine ⟨decode_encode s flag hs i _ hm, ?_⟩
  have h := encodedLen_encode s flag hs i _ hm.1
  simpa [encodedLen, encode, hd, lenSlots, lenSlot, encSlots, encSlot] using h

/-- oneof field: a struct whose only field is the oneof round-trips, whichever member is set. -/
theorem oneof_rt (s : Schema) (hs : WFSchema s = true) (flag : Bool) (i : Nat) (vs : List (Nat × FTy))
    (hd : decls s i = [.oneof vs]) (v : Slot) (hm : HasType s flag i (.cons v .nil)) :
    decode s i (encode s flag i (.cons v .nil)) = .ok (.cons v .nil) :=
  decode_encode s flag hs i _ hm

/-- the runtime's group codec (`group::encode / merge / encoded_len`; pilota-build emits no group
fields, the functions are runtime API): the start key reads back as (tag, StartGroup), `group::merge`
of the body into any value of the struct gives `mergeVal`, stops at the matching end-group key and
leaves exactly the trailing bytes; `encoded_len` is the number of bytes written.  A group costs one
level of the recursion budget. -/
theorem group_rt (s : Schema) (hs : WFSchema s = true) (flag : Bool) (tag : Nat) (h1 : minTag ≤ tag) (h2 : tag ≤ maxTag)
    (i : Nat) (x y : Slots) (ctx : Nat) (hy : okSlots s flag (decls s i) y = true) (hn : needSlots y + 1 ≤ ctx)
    (hx : shapeSlots s (decls s i) x = true) (rest : Bytes) :
    decodeKey (groupEncode s flag tag i y ++ rest)
      = .ok ((tag, .sgroup), encSlots s flag (decls s i) y ++ (keyBytes tag .egroup ++ rest)) ∧
    groupMerge s ctx tag .sgroup i x (encSlots s flag (decls s i) y ++ (keyBytes tag .egroup ++ rest)) = .ok (mergeVal s i x y, rest) ∧
    groupEncodedLen s flag tag i y = (groupEncode s flag tag i y).length := by
  refine ⟨?_, groupMerge_encode s flag hs tag h1 h2 i x y ctx hy hn hx rest, groupEncodedLen_eq s flag hs tag h2 i y hy⟩
  unfold groupEncode
  rw [List.append_assoc, decodeKey_keyBytes tag .sgroup h1 h2, List.append_assoc]

/-! ### known finding PB2: negative zero as a map value, feature off

Full statement (FALSE for the tree as it is): `pb_roundtrip` without the map-value clause of
`HasType`.  The map codec omits a value that is `==` its default; for floats that is IEEE
equality, so `-0.0` is omitted and decodes as `+0.0`. -/

/-- the witness replayed by the harness: `map<int32, float> {1: -0.0}` encodes (feature off) to
the entry `08 01` without a value and decodes to `{1: +0.0}`. -/
theorem negzero_counterexample :
    encode negzeroSchema false 0 negzeroMsg = [0x0a, 0x02, 0x08, 0x01] ∧
    decode negzeroSchema 0 [0x0a, 0x02, 0x08, 0x01] = .ok poszeroMsg ∧ poszeroMsg ≠ negzeroMsg :=
  ⟨negzero_encode, negzero_decode, by decide⟩

/-- with the feature on, `negzeroMsg` is inside `pb_roundtrip`. -/
theorem negzero_flag_on : WFSchema negzeroSchema = true ∧ HasType negzeroSchema true 0 negzeroMsg := by decide

/-! non-vacuity: a schema with a required nested message, a recursive optional field, a
repeated sint32, a map with message values and a oneof; a value using all of them. -/
def demoSchema : Schema :=
  [[.single 1 (.msg 1) false, .single 2 (.msg 0) true, .rep 3 (.scalar .sint32), .map 4 .faststr (.msg 1),
    .oneof [(5, .scalar .double), (536870911, .msg 0)]],
   [.single 1 (.scalar .int32) false]]
def demoInner : EVal := .msg (.cons (.req (.s (.int (-7)))) .nil)
def demoLeaf : Slots := .cons (.req demoInner) (.cons .none (.cons (.rep .nil) (.cons (.map .nil) (.cons .none .nil))))
def demoMsg : Slots :=
  .cons (.req demoInner) (.cons (.some (.msg demoLeaf))
    (.cons (.rep (.cons (.s (.int (-1))) (.cons (.s (.int 2147483647)) .nil)))
      (.cons (.map (.cons (.bs [0x61]) demoInner (.cons (.bs []) demoInner .nil)))
        (.cons (.one 536870911 (.msg demoLeaf)) .nil))))
example : WFSchema demoSchema = true := by decide
example : HasType demoSchema false 0 demoMsg ∧ HasType demoSchema true 0 demoMsg := by decide

/-! non-vacuity: tags at both ends of the range, a negative `int32` (ten bytes on the wire), both
float zeros, a string with a four-byte code point. -/
example : minTag ≤ 1 ∧ 1 ≤ maxTag ∧ minTag ≤ 536870911 ∧ 536870911 ≤ maxTag := by decide
example : Codec.int32.ok (.int (-1)) = true ∧ Codec.lenOk (.int (-1)) := by decide
example : Codec.string.ok (.bs [0xf0, 0x9d, 0x84, 0x9e]) = true := by decide
example : Codec.allOk .sint64 [.int (-9223372036854775808), .int 9223372036854775807] := by
  intro v hv; simp at hv; rcases hv with rfl | rfl <;> decide

end Pilota.Props.C05
