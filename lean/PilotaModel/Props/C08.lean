import PilotaModel.TGen.Decode
import PilotaModel.Lemmas.Tolerant
import PilotaModel.Lemmas.TolerantC
import PilotaModel.Lemmas.ProjMono
import PilotaModel.Lemmas.OpsRun
import PilotaModel.Lemmas.Finish
/-
  C08 — generated decoders are tolerant readers.
  The tolerance decisions of the emitted field loops (`codegen_decode_fields`, the union arm of
  `codegen_enum_impl`, the required check and default filling of `codegen_decode`), stated outright
  for EVERY protocol reader `R`, every document, every reader state.

  Main theorem (`tolerant_binary`, binary / little-endian / unchecked binary): for every document,
  every declared type, every well-typed wire value `w` — i.e. whatever schema the writer had —
  decoding the encoding of `w` returns exactly the value-level projection `projTy` of `w` (known
  fields by declared type, unknown and retyped fields dropped, defaults filled, required checked,
  union rules) and leaves exactly the trailing input.  Domain of the projection (`projTy … = some _`):
  containers whose element wire types are the declared ones and union variants whose wire type is
  the declared one — outside it the code misreads (known findings D26, D29;
  `union_known_id_decoded_whatever_the_wire_type` states what it does instead) — and unknown
  fields nested no deeper than the skipper's budget.  `tolerant_compact` / `decode_is_projection_compact`
  are the same statements for the compact protocol, from every reader state without a deferred bool,
  with that state restored (a bool field travels in its field header there).
-/
namespace Pilota.Props.C08
open Pilota Pilota.Thrift Pilota.TGen

/-- **Tolerant reader, binary family.**  Whatever the writer's schema was: if the wire value `w` is
well typed and lies in the projection's domain, decoding its encoding yields exactly the projection
and consumes exactly its bytes. -/
theorem tolerant_binary (e : Endian) (dp : Option Nat) (d : Doc) (n : String) (w v : TVal) (rest : Bytes) (f : Nat)
    (hed : EndianOk e dp) (hw : w.wt = true) (hp : projTy d dp f (.ref n) w = some (.ok v)) :
    ∃ g, decTy (binRd e dp) d g (.ref n) (Binary.run e w.ops ++ rest) = .ok (v, rest) ∧
      ∀ g', g ≤ g' → decTy (binRd e dp) d g' (.ref n) (Binary.run e w.ops ++ rest) = .ok (v, rest) := by
  rw [Binary.run_ops]
  refine ⟨f, ?_, ?_⟩
  · exact (corr_all e dp d hed f).1 (.ref n) w rest (.ok v) hw hp
  · intro g' hg
    exact (corr_all e dp d hed g').1 (.ref n) w rest (.ok v) hw (projTy_mono d dp f g' hg _ w v hp)

/-- **Tolerant reader, compact protocol.**  The same projection, from every reader state `cr` without a deferred
bool; the reader state is restored. -/
theorem tolerant_compact (d : Doc) (n : String) (w v : TVal) (cr : Compact.CR) (rest : Bytes) (f : Nat)
    (hcr : cr.pendingBool = none) (hw : w.wt = true) (hp : projTy d dpC f (.ref n) w = some (.ok v)) :
    ∃ g, decTy cmpRd d g (.ref n) (cr, Compact.enc w ++ rest) = .ok (v, (cr, rest)) ∧
      ∀ g', g ≤ g' → decTy cmpRd d g' (.ref n) (cr, Compact.enc w ++ rest) = .ok (v, (cr, rest)) := by
  refine ⟨f, ?_, ?_⟩
  · exact corrC d f (.ref n) w cr rest (.ok v) hw hcr hp
  · intro g' hg
    exact corrC d g' (.ref n) w cr rest (.ok v) hw hcr (projTy_mono d dpC f g' hg _ w v hp)

/-- what the compact writer produces for `w` IS `Compact.enc w` (from any writer state without a deferred bool field) -/
theorem compact_writer_is_enc (w : TVal) (hw : w.wt = true) (s : Compact.CW) (hs : s.pending = none) :
    Compact.run s w.ops = .ok (s, Compact.enc w) := Compact.run_ops w hw s hs

/-- the outcome of the emitted `decode` on compact input IS the projection's outcome, errors included. -/
theorem decode_is_projection_compact (d : Doc) (n : String) (w : TVal) (cr : Compact.CR) (rest : Bytes) (o : Out TVal)
    (hcr : cr.pendingBool = none) (hw : w.wt = true)
    (hp : projTy d dpC (3 * (Compact.enc w ++ rest).length + 8) (.ref n) w = some o) :
    decode cmpRd d n (cr, Compact.enc w ++ rest) = withRestC cr rest o := by
  unfold decode
  have : cmpRd.remaining (cr, Compact.enc w ++ rest) = (Compact.enc w ++ rest).length := rfl
  rw [this]
  exact corrC d _ (.ref n) w cr rest o hw hcr hp

/-- binary family, at the budget the emitted `decode` entry point really uses, for errors as well as values:
the outcome of `decode` IS the projection's outcome. -/
theorem decode_is_projection (e : Endian) (dp : Option Nat) (d : Doc) (n : String) (w : TVal) (rest : Bytes) (o : Out TVal)
    (hed : EndianOk e dp) (hw : w.wt = true)
    (hp : projTy d dp (3 * (Binary.run e w.ops ++ rest).length + 8) (.ref n) w = some o) :
    decode (binRd e dp) d n (Binary.run e w.ops ++ rest) = withRest rest o := by
  unfold decode
  have : (binRd e dp).remaining (Binary.run e w.ops ++ rest) = (Binary.run e w.ops ++ rest).length := rfl
  rw [this]
  have h := (corr_all e dp d hed _).1 (.ref n) w rest o hw hp
  rw [Binary.run_ops] at h ⊢
  exact h

/-- never a wrong value: in the domain, a successful decode can only return the projection. -/
theorem no_wrong_value (e : Endian) (dp : Option Nat) (d : Doc) (n : String) (w : TVal) (rest : Bytes) (o : Out TVal)
    (got : TVal) (r : Bytes) (hed : EndianOk e dp) (hw : w.wt = true)
    (hp : projTy d dp (3 * (Binary.run e w.ops ++ rest).length + 8) (.ref n) w = some o)
    (hd : decode (binRd e dp) d n (Binary.run e w.ops ++ rest) = .ok (got, r)) :
    o = .ok got ∧ r = rest := by
  rw [decode_is_projection e dp d n w rest o hed hw hp] at hd
  cases o <;> simp [withRest, mapOut] at hd
  exact ⟨by rw [hd.1], hd.2.symm⟩

/-! what the projection says, on a reader `S {1: required i32 a, 3: optional bool b = true}` fed by a writer that sent
an unknown nested field 2, field 1, and field 3 retyped to a string: -/
def demoDoc : Doc := [("S", .struct [{ id := 1, ty := .i32, required := true }, { id := 3, ty := .bool, required := false, dflt := some (.bool true) }])]
def demoWire : TVal := .struct (.cons 2 (.list .i16 (.cons (.i16 7) .nil)) (.cons 1 (.i32 5) (.cons 3 (.bin [120]) .nil)))
example : demoWire.wt = true := by decide
example : projTy demoDoc (some 64) 9 (.ref "S") demoWire = some (.ok (.struct (.cons 1 (.i32 5) (.cons 3 (.bool true) .nil)))) := by decide
/-- a missing required field is an error of the projection, hence (decode_is_projection) of the decoder -/
example : projTy demoDoc (some 64) 9 (.ref "S") (.struct (.cons 3 (.bool false) .nil)) = some (.err .invalid) := by decide

variable {σ : Type} (R : Rd σ) (d : Doc)

/-- A field whose id is declared but whose wire type differs from the declared type is skipped with the
protocol's own skipper (no field of the reader has that id with that wire type) and changes nothing
else: the slots decoded so far are untouched. -/
theorem retyped_field_skipped (f : Nat) (fs : List Field) (slots : List (Int × TVal)) (s s1 : σ) (t : TType) (id : Int)
    (hb : R.fieldBegin s = .ok ((t, id), s1)) (ht : t ≠ .stop)
    (hdiff : ∀ fl ∈ fs, fl.id = id → d.ttype fl.ty ≠ t) :
    decFields R d (f + 1) fs slots s =
      (match R.skip t s1 with
       | .ok s2 => decFields R d f fs slots s2
       | .err k => .err k | .panic m => .panic m | .fuel => .fuel) := by
  rw [decFields, hb]
  simp only [ht, if_false]
  have : fs.find? (fun fl => fl.id == id && d.ttype fl.ty == t) = none := by
    rw [List.find?_eq_none]
    intro fl hfl
    by_cases h : fl.id = id
    · have := hdiff fl hfl h
      simp [h, this]
    · simp [h]
  rw [this]
  rfl

/-- A field whose id the reader does not declare is skipped with the protocol's own skipper; the slots are untouched. -/
theorem unknown_field_skipped (f : Nat) (fs : List Field) (slots : List (Int × TVal)) (s s1 : σ) (t : TType) (id : Int)
    (hb : R.fieldBegin s = .ok ((t, id), s1)) (ht : t ≠ .stop) (hunk : ∀ fl ∈ fs, fl.id ≠ id) :
    decFields R d (f + 1) fs slots s =
      (match R.skip t s1 with
       | .ok s2 => decFields R d f fs slots s2
       | .err k => .err k | .panic m => .panic m | .fuel => .fuel) :=
  retyped_field_skipped R d f fs slots s s1 t id hb ht fun fl hfl h => absurd h (hunk fl hfl)

/-- The STOP field ends the loop with the slots decoded so far. -/
theorem stop_ends (f : Nat) (fs : List Field) (slots : List (Int × TVal)) (s s1 : σ) (id : Int)
    (hb : R.fieldBegin s = .ok ((.stop, id), s1)) :
    decFields R d (f + 1) fs slots s = .ok (slots, s1) := by
  rw [decFields, hb]; simp

/-- A missing required field without a default is an error, whatever else was received:
`finish` never succeeds in that case. -/
theorem missing_required_not_ok (fs : List Field) (slots : List (Int × TVal)) (fl : Field) (hfl : fl ∈ fs)
    (hreq : fl.required = true) (hnd : fl.dflt = none) (hmiss : slotGet slots fl.id = none) :
    ∀ out, finish fs slots ≠ .ok out := by
  intro out h
  have := ((finish_ok_iff fs slots out).mp h).1 fl hfl hreq
  simp [slotOrDflt, hmiss, hnd] at this

/-- An absent optional field comes back holding its IDL default when it has one, and is absent otherwise;
a received field comes back as received. -/
theorem finish_head (fl : Field) (fs : List Field) (slots : List (Int × TVal)) (rest : List (Int × TVal))
    (hr : finish fs slots = .ok rest) :
    finish (fl :: fs) slots =
      match slotGet slots fl.id, fl.dflt with
      | some v, _ => .ok ((fl.id, v) :: rest)
      | none, some dv => .ok ((fl.id, dv) :: rest)
      | none, none => if fl.required then .err .invalid else .ok rest := by
  simp [finish, hr]
  rfl

/-- Enum numbers the reader does not know are kept intact: an enum field is read as a plain i32. -/
theorem enum_number_kept (f : Nat) (n : String) (hn : d.find n = some .enum) (s : σ) :
    decTy R d (f + 1) (.ref n) s = mapOut (fun x => (.i32 x.1, x.2)) (R.readI32 s) := by
  rw [decTy]; simp [hn]

/-- Union: a second known variant is an error ("received multiple fields for union"). -/
theorem union_second_variant_is_error (f : Nat) (vs : List (Int × STy)) (ret : Int × TVal) (s s1 : σ) (t : TType) (id : Int) (ty : STy)
    (hb : R.fieldBegin s = .ok ((t, id), s1)) (ht : t ≠ .stop)
    (hk : vs.find? (fun v => v.1 == id && !(v.2 == .void)) = some (id, ty)) :
    decUnion R d (f + 1) vs (some ret) s = .err .invalid := by
  rw [decUnion, hb]; simp [ht, hk]

/-- Union: an unknown variant id is skipped and leaves the result untouched. -/
theorem union_unknown_skipped (f : Nat) (vs : List (Int × STy)) (ret : Option (Int × TVal)) (s s1 : σ) (t : TType) (id : Int)
    (hb : R.fieldBegin s = .ok ((t, id), s1)) (ht : t ≠ .stop)
    (hk : vs.find? (fun v => v.1 == id && !(v.2 == .void)) = none) :
    decUnion R d (f + 1) vs ret s =
      (match R.skip t s1 with
       | .ok s2 => decUnion R d f vs ret s2
       | .err k => .err k | .panic m => .panic m | .fuel => .fuel) := by
  rw [decUnion, hb]; simp [ht, hk]
  rfl

/-- What the code does with a known variant id (known finding D29): it decodes the DECLARED type
without looking at the wire type `t`. -/
theorem union_known_id_decoded_whatever_the_wire_type (f : Nat) (vs : List (Int × STy)) (s s1 : σ) (t : TType) (id : Int) (ty : STy)
    (hb : R.fieldBegin s = .ok ((t, id), s1)) (ht : t ≠ .stop)
    (hk : vs.find? (fun v => v.1 == id && !(v.2 == .void)) = some (id, ty)) :
    decUnion R d (f + 1) vs none s =
      (match decTy R d f ty s1 with
       | .ok (v, s2) => decUnion R d f vs (some (id, v)) s2
       | .err k => .err k | .panic m => .panic m | .fuel => .fuel) := by
  rw [decUnion, hb]; simp [ht, hk]
  rfl

/-! non-vacuity of `unknown_field_skipped`: a reader with fields 1 and 3 receiving field 2 -/
example : ∀ fl ∈ ([{ id := 1, ty := .i32, required := true }, { id := 3, ty := .bool, required := false }] : List Field), fl.id ≠ 2 := by decide

end Pilota.Props.C08
