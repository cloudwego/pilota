import PilotaModel.Lemmas.LowerTyped
import PilotaModel.Lemmas.KeepRT
/-
  C20 / C14 — the lowering of IDL default literals (Build/Lower.lean, model of pilota-build's `lit_into_ty`; compared on every
  run with the emitted `Default` of every struct of the run's documents: the driver lowers the literals itself and the `gf`
  answers are computed from ITS values).

  `lowered_default_is_typed`: for every document whose typedef chains resolve and whose struct field ids are distinct 16-bit
  numbers, every declared type and every literal the generator has an arm for - booleans, integers (also for bool and enum
  targets; `i as f64` for a double target is resolved before the literal gets here, Build/Lower.lean), doubles, strings, lists for list AND set targets, maps, enum members (also for integer targets, with
  Rust's `as` cast), constants, struct literals, through typedef chains and at any nesting - the lowered value is a value of the
  declared type (`hasTy`: TGen/Typed.lean), provided struct literals name every required field and every field with a default of
  its own (`fullLit`; otherwise `Default::default()` / `None` enter, see `missing_defaulted_field_is_none`).
  `lowered_default_is_canon` gives, for each lowered literal, what `Props/C20b.default_encodes_validly` asks of the entry that
  holds it (wire type and fixpoint of the projection).  No theorem composes the two: the hypothesis of `default_encodes_validly`
  wants one budget for all entries, also covers the `Default::default()` entries of required fields without a default, and that a
  field's `dflt` IS the lowered literal is established by the driver (Driver/Gen.lean), not in Lean.
-/
namespace Pilota.Props.C20c
open Pilota Pilota.Thrift Pilota.TGen Pilota.Build

theorem lowered_default_is_typed (d : Doc) (ht : typedefsOk d) (hi : idsOk d) (f : Nat) (ty : STy) (lit : Lit) (v : TVal)
    (h : lowerLit d f ty lit = some v) (hf : fullLit d f ty lit = true) : ∃ F, hasTy d F ty v = true :=
  (lower_typed_all d ht hi f).1 ty lit v h hf

/-- a lowered default literal has the wire type the field header announces -/
theorem lowered_default_has_wire_type (d : Doc) (ht : typedefsOk d) (f : Nat) (ty : STy) (lit : Lit) (v : TVal)
    (h : lowerLit d f ty lit = some v) : v.ttype = d.ttype ty := lower_ttype d ht f ty lit v h

/-- a lowered default literal is a fixpoint of the decoder's projection: what `default_encodes_validly` (C20b) asks of the entry that holds it -/
theorem lowered_default_is_canon (d : Doc) (dp : Option Nat) (ht : typedefsOk d) (hi : idsOk d) (f : Nat) (ty : STy) (lit : Lit) (v : TVal)
    (h : lowerLit d f ty lit = some v) (hf : fullLit d f ty lit = true) :
    d.ttype ty = v.ttype ∧ ∃ F, projTy d dp F ty v = some (.ok v) := by
  obtain ⟨F, hF⟩ := lowered_default_is_typed d ht hi f ty lit v h hf
  exact ⟨(lower_ttype d ht f ty lit v h).symm, canon_of_hasTy d dp (fun n fs hn => (hi n fs hn).1) F ty v hF⟩

/-- an integer literal for a bool field is `i != 0` -/
theorem int_for_bool (d : Doc) (f : Nat) (n : Int) : lowerLit d (f + 1) .bool (.int n) = some (.bool (n != 0)) := by simp [lowerLit]

/-- an integer literal out of range of its field's type has no value (rustc rejects the suffixed literal) -/
theorem int_out_of_range (d : Doc) (f : Nat) : lowerLit d (f + 1) .i8 (.int 128) = none := by simp only [lowerLit]; decide

/-- an enum member given for an integer field goes through Rust's `as` cast -/
theorem variant_for_i8_wraps (d : Doc) (f : Nat) : lowerLit d (f + 1) .i8 (.variant 300) = some (.i8 44) := by simp only [lowerLit]; decide

/-- a constant is accepted only at its declared type -/
theorem const_needs_same_type (d : Doc) (f : Nat) : lowerLit d (f + 1) .i64 (.const .i32 (.int 5)) = none := by simp [lowerLit]

def demo : Doc := [("Lvl", .enum), ("Id", .typedef .i64),
  ("Pt", .struct [{ id := 1, ty := .i32, required := false }, { id := 3, ty := .i32, required := false, dflt := some (.i32 4) },
                  { id := 4, ty := .ref "Id", required := true }, { id := 5, ty := .ref "Lvl", required := false }])]

/-- a list literal for a set field builds a hash set: duplicates collapse -/
theorem list_for_set_dedups :
    lowerLit demo 6 (.set .i32) (.list (.cons (.int 3) (.cons (.int 1) (.cons (.int 3) .nil)))) =
      some (.set .i32 (.cons (.i32 3) (.cons (.i32 1) .nil))) := by decide +kernel

/-- a struct literal that does not mention an optional field leaves it `None` even when the field has a default of its own:
the lowered struct is then NOT what `Pt::default()` holds for that field -/
theorem missing_defaulted_field_is_none :
    lowerLit demo 9 (.ref "Pt") (.strct (.cons 4 (.int 9) .nil)) = some (.struct (.cons 4 (.i64 9) .nil)) := by decide

/-! non-vacuity of `lowered_default_is_typed` (its hypotheses `fullLit` and `typedefsOk`): a struct literal through a typedef and an enum member, inside a map inside a list -/
def demoTy : STy := .list (.map .string (.ref "Pt"))
def demoLit : Lit := .list (.cons (.map (.cons (.str [107]) (.strct (.cons 3 (.int 7) (.cons 4 (.const (.ref "Id") (.int 9)) (.cons 5 (.variant 2) .nil)))) .nil)) .nil)
example : fullLit demo 20 demoTy demoLit = true ∧
    lowerLit demo 20 demoTy demoLit = some (.list .map (.cons (.map .binary .struct (.cons (.bin [107])
      (.struct (.cons 3 (.i32 7) (.cons 4 (.i64 9) (.cons 5 (.i32 2) .nil)))) .nil)) .nil)) := by decide +kernel
example : typedefsOk demo := by
  intro n t h
  have := Doc.mem_of_find h
  simp only [demo, List.mem_cons, Prod.mk.injEq, Def.typedef.injEq, List.not_mem_nil, or_false, reduceCtorEq, and_false, false_or] at this
  rcases this with ⟨rfl, rfl⟩
  decide

end Pilota.Props.C20c
