import PilotaModel.Lemmas.GenTotalInst
import PilotaModel.Lemmas.GenExt
import PilotaModel.Lemmas.Tolerant
import PilotaModel.Lemmas.ProjMono
/-
  C09 — the EMITTED decoders (model of the templates, TGen/Decode.lean) on arbitrary bytes, for every closed
  document, every declared type, every byte string, every reader state and every fuel: never the panic branch
  (`gen_total_*`), and a budget linear in the input is never exhausted (`gen_no_hang_*`: the real code has no
  budget, so "the model does not run out of fuel" is "the decoder terminates"); hence a value or an error
  (`gen_value_or_error_*`).

  What the real emitted code does beyond the model on arbitrary bytes is the list of known findings D10 (no
  depth bound: stack), D12 / D29 / D37 (panics of the `*_len` bookkeeping of the retention / union arms) and D34
  (async pre-allocation); the T1 stream C09gen compares model and compiled code on adversarial inputs.
-/
namespace Pilota.Props.C09Gen
open Pilota Pilota.Thrift Pilota.TGen

/-- checked binary / LE reader, any skip depth budget: no panic branch, for every type of a closed document. -/
theorem gen_total_binary (e : Endian) (dpt : Nat) (d : Doc) (hd : d.closed) (f : Nat) (ty : STy) (hc : ty.closed d = true)
    (bs : Bytes) (m : String) : decTy (binRd e (some dpt)) d f ty bs ≠ .panic m :=
  fun h => ((dec_safe _ _ _ (binRd_safe e dpt) d (fun _ => 0) 0 f).1 ty bs).panic h ⟨hd, hc⟩

/-- compact reader, from every reader state (a deferred bool included). -/
theorem gen_total_compact (d : Doc) (hd : d.closed) (f : Nat) (ty : STy) (hc : ty.closed d = true)
    (s : Compact.CR) (bs : Bytes) (m : String) : decTy cmpRd d f ty (s, bs) ≠ .panic m :=
  fun h => ((dec_safe _ _ _ cmpRd_safe d (fun _ => 0) 0 f).1 ty (s, bs)).panic h ⟨hd, hc⟩

/-- the entry point `decode` of a declared name. -/
theorem gen_decode_total_binary (e : Endian) (dpt : Nat) (d : Doc) (hd : d.closed) (n : String) (hn : (d.find n).isSome = true)
    (bs : Bytes) (m : String) : decode (binRd e (some dpt)) d n bs ≠ .panic m :=
  gen_total_binary e dpt d hd _ (.ref n) (by simpa [STy.closed] using hn) bs m

theorem gen_decode_total_compact (d : Doc) (hd : d.closed) (n : String) (hn : (d.find n).isSome = true)
    (s : Compact.CR) (bs : Bytes) (m : String) : decode cmpRd d n (s, bs) ≠ .panic m :=
  gen_total_compact d hd _ (.ref n) (by simpa [STy.closed] using hn) s bs m

/-- **no hang**, binary / LE: `rk` ranks typedef chains (`typedef A B; typedef B i32`: rk A = 2), `T` bounds it. -/
theorem gen_no_hang_binary (e : Endian) (dpt : Nat) (d : Doc) (rk : STy → Nat) (T : Nat) (hT : ∀ ty, rk ty ≤ T)
    (hrk : ∀ n t, d.find n = some (.typedef t) → rk t + 1 ≤ rk (.ref n))
    (ty : STy) (bs : Bytes) (f : Nat) (hf : rk ty + (T + 3) * bs.length + 2 ≤ f) :
    decTy (binRd e (some dpt)) d f ty bs ≠ .fuel :=
  fun h => ((dec_safe _ _ _ ((binRd_safe e dpt).scale (T + 3)) d rk T f).1 ty bs).fuel h ⟨⟨hT, Nat.le_refl _, hrk⟩, hf⟩

/-- **no hang**, compact. -/
theorem gen_no_hang_compact (d : Doc) (rk : STy → Nat) (T : Nat) (hT : ∀ ty, rk ty ≤ T)
    (hrk : ∀ n t, d.find n = some (.typedef t) → rk t + 1 ≤ rk (.ref n))
    (ty : STy) (s : Compact.CR) (bs : Bytes) (f : Nat) (hf : rk ty + (T + 3) * (3 * bs.length + 1) + 2 ≤ f) :
    decTy cmpRd d f ty (s, bs) ≠ .fuel := by
  refine fun h => ((dec_safe _ _ _ (cmpRd_safe.scale (T + 3)) d rk T f).1 ty (s, bs)).fuel h ⟨⟨hT, Nat.le_refl _, hrk⟩, ?_⟩
  have : cmpM (s, bs) ≤ 3 * bs.length + 1 := by have := Compact.mu_le s; simp only [cmpM]; omega
  have := Nat.mul_le_mul_left (T + 3) this
  omega

/-- a document without typedefs: the budget `3 · input length + 8` of the modelled `decode` entry point itself is
never exhausted (binary / LE). -/
theorem gen_decode_no_hang_binary (e : Endian) (dpt : Nat) (d : Doc) (hnt : ∀ n t, d.find n ≠ some (.typedef t))
    (n : String) (bs : Bytes) : decode (binRd e (some dpt)) d n bs ≠ .fuel := by
  unfold decode
  have := gen_no_hang_binary e dpt d (fun _ => 0) 0 (fun _ => Nat.le_refl _) (fun n t h => absurd h (hnt n t)) (.ref n) bs
    (3 * (binRd e (some dpt)).remaining bs + 8) (by simp [binRd])
  exact this

/-- value or error, nothing else (binary / LE). -/
theorem gen_value_or_error_binary (e : Endian) (dpt : Nat) (d : Doc) (hd : d.closed) (rk : STy → Nat) (T : Nat) (hT : ∀ ty, rk ty ≤ T)
    (hrk : ∀ n t, d.find n = some (.typedef t) → rk t + 1 ≤ rk (.ref n))
    (ty : STy) (hc : ty.closed d = true) (bs : Bytes) (f : Nat) (hf : rk ty + (T + 3) * bs.length + 2 ≤ f) :
    (∃ v r, decTy (binRd e (some dpt)) d f ty bs = .ok (v, r)) ∨ (∃ k, decTy (binRd e (some dpt)) d f ty bs = .err k) := by
  cases h : decTy (binRd e (some dpt)) d f ty bs with
  | ok p => exact .inl ⟨p.1, p.2, rfl⟩
  | err k => exact .inr ⟨k, rfl⟩
  | panic m => exact absurd h (gen_total_binary e dpt d hd f ty hc bs m)
  | fuel => exact absurd h (gen_no_hang_binary e dpt d rk T hT hrk ty bs f hf)

theorem gen_value_or_error_compact (d : Doc) (hd : d.closed) (rk : STy → Nat) (T : Nat) (hT : ∀ ty, rk ty ≤ T)
    (hrk : ∀ n t, d.find n = some (.typedef t) → rk t + 1 ≤ rk (.ref n))
    (ty : STy) (hc : ty.closed d = true) (s : Compact.CR) (bs : Bytes) (f : Nat) (hf : rk ty + (T + 3) * (3 * bs.length + 1) + 2 ≤ f) :
    (∃ v r, decTy cmpRd d f ty (s, bs) = .ok (v, r)) ∨ (∃ k, decTy cmpRd d f ty (s, bs) = .err k) := by
  cases h : decTy cmpRd d f ty (s, bs) with
  | ok p => exact .inl ⟨p.1, p.2, rfl⟩
  | err k => exact .inr ⟨k, rfl⟩
  | panic m => exact absurd h (gen_total_compact d hd f ty hc s bs m)
  | fuel => exact absurd h (gen_no_hang_compact d rk T hT hrk ty s bs f hf)

/-- whatever an emitted decoder accepts it has paid for: a successful decode consumes at least one byte (binary / LE). -/
theorem gen_ok_consumes (e : Endian) (dpt : Nat) (d : Doc) (f : Nat) (ty : STy) (bs : Bytes) (v : TVal) (r : Bytes)
    (h : decTy (binRd e (some dpt)) d f ty bs = .ok (v, r)) : r.length + 1 ≤ bs.length :=
  ((dec_safe _ _ _ (binRd_safe e dpt) d (fun _ => 0) 0 f).1 ty bs).ok h

/-- a successful emitted decode does not depend on the bytes after those it consumed (binary / LE). -/
theorem gen_extends (e : Endian) (dpt : Nat) (d : Doc) (f : Nat) (ty : STy) (p q : Bytes) (v : TVal) (r : Bytes)
    (h : decTy (binRd e (some dpt)) d f ty p = .ok (v, r)) : decTy (binRd e (some dpt)) d f ty (p ++ q) = .ok (v, r ++ q) :=
  (dec_ext _ _ (binRd_ext e dpt) d q f).1 ty p v r h

/-- **Every strict prefix of a valid encoding is rejected with an error** by the emitted decoder of every type of a closed
document (binary / LE): `w` is any well-typed wire value that the decoder accepts in full (`projTy … = some (.ok v)`: in
particular every value of the emitted type, `Props/C02.Canon`), `p` a strict prefix of its encoding. -/
theorem gen_prefix_rejected_binary (e : Endian) (dpt : Nat) (d : Doc) (hd : d.closed) (rk : STy → Nat) (T : Nat) (hT : ∀ ty, rk ty ≤ T)
    (hrk : ∀ n t, d.find n = some (.typedef t) → rk t + 1 ≤ rk (.ref n))
    (ty : STy) (hc : ty.closed d = true) (w v : TVal) (hw : w.wt = true) (f0 : Nat) (hp : projTy d (some dpt) f0 ty w = some (.ok v))
    (p q : Bytes) (hq : q ≠ []) (h : Binary.enc e w = p ++ q) (f : Nat) (hf0 : f0 ≤ f) (hf : rk ty + (T + 3) * p.length + 2 ≤ f) :
    ∃ k, decTy (binRd e (some dpt)) d f ty p = .err k := by
  rcases gen_value_or_error_binary e dpt d hd rk T hT hrk ty hc p f hf with ⟨v', r, hok⟩ | herr
  · exfalso
    have h1 := gen_extends e dpt d f ty p q v' r hok
    have h2 := (corr_all e (some dpt) d (by intro h; cases h) f).1 ty w [] (.ok v) hw (projTy_mono d (some dpt) f0 f hf0 ty w v hp)
    rw [List.append_nil, h, h1] at h2
    simp [withRest, mapOut] at h2
    exact hq h2.2.2
  · exact herr

/-! non-vacuity: a closed document with a typedef chain, a recursive struct, a union with a void head -/
def demo : Doc := [("A", .typedef (.ref "B")), ("B", .typedef (.list (.ref "S"))),
  ("S", .struct [{ id := 1, ty := .ref "A", required := false }, { id := 2, ty := .ref "U", required := false }]),
  ("U", .union [(0, .void), (1, .i32)]), ("E", .enum)]
def demoRk : STy → Nat
  | .ref "A" => 2 | .ref "B" => 1 | _ => 0
example : demo.closed := Doc.closed_of_closedB _ (by decide)
example : ∀ ty, demoRk ty ≤ 2 := by intro ty; unfold demoRk; split <;> omega
example : ∀ n t, demo.find n = some (.typedef t) → demoRk t + 1 ≤ demoRk (.ref n) := by
  intro n t h
  by_cases hA : n = "A"
  · subst hA; simp [demo, Doc.find] at h; subst h; simp [demoRk]
  by_cases hB : n = "B"
  · subst hB; simp [demo, Doc.find] at h; subst h; simp [demoRk]
  · exfalso
    simp only [demo, Doc.find, List.find?] at h
    have h1 : ("A" == n) = false := by simpa using fun h => hA h.symm
    have h2 : ("B" == n) = false := by simpa using fun h => hB h.symm
    simp only [h1, h2] at h
    split at h <;> (try split at h) <;> (try split at h) <;> simp at h

end Pilota.Props.C09Gen
