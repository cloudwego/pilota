import PilotaModel.Lemmas.SpecBinChk
import PilotaModel.Lemmas.SpecCmpChk
import PilotaModel.Lemmas.SpecMsg
import PilotaModel.Lemmas.SpecDecBin
import PilotaModel.Lemmas.SpecDecCmp
import PilotaModel.Lemmas.OpsRun
/-
  C03 — the wire format conforms to the Apache Thrift binary and compact protocol specifications.

  `Thrift/Spec.lean` is an independent reference written from the spec facts of DESIGN.md section 8/C03:
  `SpecBin.Enc v bs` / `SpecCmp.Enc v bs` say "`bs` is a legal encoding of `v`", admitting every legal
  alternative.  pilota → reference: what pilota writes is in the relation.  reference → pilota: pilota
  reads EVERY member of the relation back to the value.  Runtime level (value trees, envelopes, the
  application-exception struct); emitted encoders/decoders are the generated-code track's.
-/
namespace Pilota.Props.C03
open Pilota Pilota.Thrift Pilota.Thrift.Spec

/-- BINARY: the bytes the writer produces for a well-typed value are a legal encoding, and they are the
reference's canonical encoding. -/
theorem pilota_binary_is_spec (v : TVal) (hw : v.wt = true) :
    SpecBin.Enc v (Binary.run .be v.ops) ∧ Binary.run .be v.ops = SpecBin.encode v := by
  rw [Binary.run_ops, SpecBin.enc_eq v hw]
  exact ⟨SpecBin.encode_is_spec v hw, rfl⟩

/-- COMPACT: from any writer state without a deferred bool the writer accepts the value's calls, returns
to that state, and the bytes are a legal encoding — the reference's canonical encoding with short field
headers for deltas 1..14 (pilota writes the long form for delta 15, which is legal too). -/
theorem pilota_compact_is_spec (v : TVal) (hw : v.wt = true) (ws : Compact.CW) (hp : ws.pending = none) :
    ∃ bs, Compact.run ws v.ops = .ok (ws, bs) ∧ SpecCmp.Enc v bs ∧ bs = SpecCmp.encode 14 v := by
  exact ⟨Compact.enc v, Compact.run_ops v hw ws hp, SpecCmp.enc_is_spec v hw, SpecCmp.enc_eq v hw⟩

/-- every canonical choice of the reference encoder (short field headers up to any delta ≤ 15) is legal. -/
theorem spec_encode_is_spec (m : Nat) (hm : m ≤ 15) (v : TVal) (hw : v.wt = true) :
    SpecBin.Enc v (SpecBin.encode v) ∧ SpecCmp.Enc v (SpecCmp.encode m v) :=
  ⟨SpecBin.encode_is_spec v hw, SpecCmp.encode_is_spec m hm v hw⟩

/-- BINARY: any legal encoding (any non-zero byte for `true`) followed by anything is read back to
exactly the value, leaving exactly the rest. -/
theorem pilota_reads_any_spec_binary (v : TVal) (bs : Bytes) (h : SpecBin.Enc v bs) (r : Bytes) :
    Binary.read .be v.ttype (bs ++ r) = .ok (v, r) :=
  SpecBin.readVal_of_enc v bs h _ (size_le_budget (SpecBin.enc_size v bs h) r) r

/-- COMPACT: any legal encoding — long-form field headers where a delta would fit, short form with delta
15, bool collections announced by nibble 1 or 2, the one-byte empty map — is read back to the value (up to
the key/value types of empty maps, which are not on the wire), the reader returns to its state. -/
theorem pilota_reads_any_spec_compact (v : TVal) (bs : Bytes) (h : SpecCmp.Enc v bs) (rs : Compact.CR)
    (hr : rs.pendingBool = none) (r : Bytes) : Compact.read v.ttype rs (bs ++ r) = .ok (Compact.norm v, rs, r) :=
  SpecCmp.readVal_of_enc v bs h _ (size_le_budget (SpecCmp.enc_size v bs h) r) rs hr r

/-- the reference's own total decoders recover the value from EVERY legal encoding followed by anything. -/
theorem spec_decodes_any_spec (v : TVal) (bs : Bytes) (r : Bytes) :
    (SpecBin.Enc v bs → SpecBin.decodeTop v.ttype (bs ++ r) = .ok (v, r)) ∧
    (SpecCmp.Enc v bs → SpecCmp.decodeTop v.ttype (bs ++ r) = .ok (Compact.norm v, r)) :=
  ⟨fun h => SpecBin.decode_of_enc v bs h _ (size_le_budget (SpecBin.enc_size v bs h) r) r,
    fun h => SpecCmp.decode_of_enc v bs h _ (size_le_budget (SpecCmp.enc_size v bs h) r) r⟩

/-- an independent decoder written from the specification recovers exactly the value pilota wrote
(compact: up to the types of empty maps). -/
theorem spec_decodes_pilota (v : TVal) (hw : v.wt = true) (r : Bytes) :
    SpecBin.decodeTop v.ttype (Binary.run .be v.ops ++ r) = .ok (v, r) ∧
    ∀ (ws : Compact.CW), ws.pending = none → ∃ bs, Compact.run ws v.ops = .ok (ws, bs) ∧
      SpecCmp.decodeTop v.ttype (bs ++ r) = .ok (Compact.norm v, r) := by
  refine ⟨(spec_decodes_any_spec v _ r).1 (pilota_binary_is_spec v hw).1, ?_⟩
  intro ws hp
  obtain ⟨bs, h1, h2, _⟩ := pilota_compact_is_spec v hw ws hp
  exact ⟨bs, h1, (spec_decodes_any_spec v bs r).2 h2⟩

/-- the executable membership tests the driver runs on every alternative encoding fed to the real
readers are sound: whatever they accept is a legal encoding. -/
theorem check_sound (v : TVal) (bs : Bytes) :
    (SpecBin.check v bs = true → SpecBin.Enc v bs) ∧ (SpecCmp.check v bs = true → SpecCmp.Enc v bs) :=
  ⟨SpecBin.check_sound v bs, SpecCmp.check_sound v bs⟩

/-- strict binary: `0x8001_00tt`, name, seqid. -/
theorem msg_envelope_binary (name : Bytes) (mt : Nat) (seq : Int) (hm : 1 ≤ mt ∧ mt ≤ 4) (hn : name.length < 2 ^ 31)
    (hs : inS 4 seq) (r : Bytes) :
    Binary.wOp .be (.msgBegin name mt seq) = SpecBin.message name mt seq ∧
    Msg.readBeginBin .be (SpecBin.message name mt seq ++ r) = .ok ((name, mt, seq), r) :=
  ⟨Msg.write_bin name mt seq hm hn hs, Msg.read_bin name mt seq hm hn hs r⟩

/-- compact: `0x82`, `ttt vvvvv` (version 1), seqid as the unsigned varint of the i32 bit pattern, name. -/
theorem msg_envelope_compact (s : Compact.CW) (name : Bytes) (mt : Nat) (seq : Int) (hm : 1 ≤ mt ∧ mt ≤ 4)
    (hn : name.length < 2 ^ 31) (hs : inS 4 seq) (r : Bytes) :
    Compact.wStep s (.msgBegin name mt seq) = .ok (s, SpecCmp.message name mt seq) ∧
    Msg.readBeginCmp (SpecCmp.message name mt seq ++ r) = .ok ((name, mt, seq), r) :=
  ⟨Msg.write_cmp s name mt seq hm hn hs, Msg.read_cmp name mt seq hm hn hs r⟩

/-- non-strict binary messages (no version word: the first i32 is a positive name length) are rejected. -/
theorem msg_nonstrict_rejected (e : Endian) (bs : Bytes) (size : Int) (r : Bytes) (h : Binary.readI e 4 bs = .ok (size, r))
    (hp : 0 < size) : Msg.readBeginBin e bs = .err .badVersion := by
  simp [Msg.readBeginBin, h, hp]

theorem app_exception_conforms (msg : Bytes) (kind : Int) (hm : msg.length < 2 ^ 31) (hk : inS 4 kind) :
    -- `encode` makes exactly the calls of the struct value {1: message, 2: type} …
    Msg.appOps msg kind = (Msg.appVal msg kind).ops ∧
    -- … whose bytes are legal encodings of that struct under both protocols …
    SpecBin.Enc (Msg.appVal msg kind) (Binary.run .be (Msg.appOps msg kind)) ∧
    (∀ ws : Compact.CW, ws.pending = none → ∃ bs, Compact.run ws (Msg.appOps msg kind) = .ok (ws, bs) ∧ SpecCmp.Enc (Msg.appVal msg kind) bs) ∧
    -- … and `decode` reads EVERY legal encoding of it (compact: either header form) back to (message, type).
    (∀ bs, SpecBin.Enc (Msg.appVal msg kind) bs → ∀ f, 3 ≤ f → ∀ d r, Msg.appDecodeBin .be f d (bs ++ r) = .ok ((msg, kind), r)) ∧
    (∀ bs, SpecCmp.Enc (Msg.appVal msg kind) bs → ∀ f, 3 ≤ f → ∀ (s : Compact.CR), s.pendingBool = none → ∀ r,
        Msg.appDecodeCmp f s (bs ++ r) = .ok ((msg, kind), s, r)) := by
  have hw := Msg.appVal_wt msg kind hm hk
  refine ⟨rfl, ?_, ?_, ?_, ?_⟩
  · exact (pilota_binary_is_spec _ hw).1
  · intro ws hp
    obtain ⟨bs, h1, h2, _⟩ := pilota_compact_is_spec _ hw ws hp
    exact ⟨bs, h1, h2⟩
  · intro bs h f hf d r; exact Msg.appDecode_bin msg kind bs h f hf d r
  · intro bs h f hf s hs r; exact Msg.appDecode_cmp msg kind bs h f hf s r

/-- both tables list the same codes, and neither has one above 16. -/
theorem ofByte_eq (n : Nat) :
    TType.ofByte n = (if n = 0 then some .stop else if n = 1 then some .void else binTypeOfCode n) := by
  match n with
  | 0 | 1 | 2 | 3 | 4 | 5 | 6 | 7 | 8 | 9 | 10 | 11 | 12 | 13 | 14 | 15 | 16 | _ + 17 => rfl

/-- `TType::try_from(u8)` accepts exactly the reference's twelve binary codes plus 0 (STOP) and 1 (VOID). -/
theorem ttype_table : ∀ b : Fin 256, TType.ofByte b.val =
    (if b.val = 0 then some .stop else if b.val = 1 then some .void else binTypeOfCode b.val) :=
  fun b => ofByte_eq b.val

/-- compact nibbles: exactly the reference's thirteen plus 0 (STOP). -/
theorem ctype_table : ∀ n : Fin 16, Compact.ttypeOfCompact n.val =
    (if n.val = 0 then some .stop else cmpTypeOfNibble n.val) := by decide

/-- the reference's own tables are inverse to each other on the value types. -/
theorem spec_tables : ∀ t ∈ TType.all, t.isValue = true →
    (binCode t).bind binTypeOfCode = some t ∧ (t ≠ .bool → (cmpCode t).bind cmpTypeOfNibble = some t) := by decide

/-- BINARY: a type byte outside {0, 1} ∪ the reference's codes is rejected with an error in every header
position: field type, list/set element type, map key type, map value type. -/
theorem bad_type_rejected_binary (e : Endian) (b : UInt8) (h : TType.ofByte b.toNat = none) (r : Bytes) :
    Binary.readFieldBegin e (b :: r) = .err .invalid ∧ Binary.readListBegin e (b :: r) = .err .invalid ∧
    Binary.readMapBegin e (b :: r) = .err .invalid ∧ ∀ k : UInt8, (Binary.readMapBegin e (k :: b :: r)).isOk = false := by
  refine ⟨?_, ?_, ?_, ?_⟩
  · simp [Binary.readFieldBegin, Binary.readTType, Binary.readByte, h]
  · simp [Binary.readListBegin, Binary.readTType, Binary.readByte, h]
  · simp [Binary.readMapBegin, Binary.readTType, Binary.readByte, h]
  · intro k
    cases hk : TType.ofByte k.toNat <;> simp [Binary.readMapBegin, Binary.readTType, Binary.readByte, h, hk, Out.isOk]

/-- COMPACT: a type nibble outside the reference's (14, 15) is rejected in a field header, a list/set
header and either half of the key/value byte of a non-empty map (here: any one-byte size 1..127). -/
theorem bad_type_rejected_compact (s : Compact.CR) (b : UInt8) (r : Bytes) :
    (Compact.ttypeOfCompact (b.toNat % 16) = none →
      Compact.readFieldBegin s (b :: r) = .err .invalid ∧ Compact.readCollBegin (b :: r) = .err .invalid) ∧
    (Compact.ttypeOfCompact (b.toNat / 16) = none ∨ Compact.ttypeOfCompact (b.toNat % 16) = none →
      ∀ n : UInt8, 1 ≤ n.toNat → n.toNat < 128 → (Compact.readMapBegin (n :: b :: r)).isOk = false) := by
  refine ⟨fun h => ?_, fun h n hn1 hn => ?_⟩
  · simp only [Compact.readFieldBegin, Compact.readCollBegin, Compact.readByte, Binary.readByte, h, and_self]
  · -- a size byte below 128 is the one-byte varint of its value
    have hv : readVarU 4 (n :: b :: r) = .ok (n.toNat, b :: r) := by
      have := SpecCmp.readVarU4_size n.toNat (by omega) (b :: r)
      rwa [encVar, dif_pos hn, UInt8.ofNat_toNat] at this
    unfold Compact.readMapBegin
    rw [hv]; dsimp only
    rw [toS4_eq n.toNat (by omega)]
    by_cases hle : n.toNat ≤ (b :: r).length
    · rw [Binary.checkSize_ok _ _ hle]
      simp only [if_neg (Nat.ne_of_gt hn1), Compact.readByte, Binary.readByte]
      rcases h with h | h <;> rw [h]
      · rfl
      · split
        · contradiction
        · rfl
    · simp only [Binary.checkSize, if_neg (Int.not_lt.mpr (Int.natCast_nonneg _)), Int.toNat_natCast, if_neg hle]; rfl

/-- STOP (0) and VOID (1) pass `TType::try_from` but no value of such a type can be read. -/
theorem stop_void_unreadable (e : Endian) (f : Nat) (bs : Bytes) (s : Compact.CR) :
    (Binary.readVal e f .stop bs).isOk = false ∧ (Binary.readVal e f .void bs).isOk = false ∧
    (Compact.readVal f .stop s bs).isOk = false ∧ (Compact.readVal f .void s bs).isOk = false := by
  cases f <;> simp [Binary.readVal, Compact.readVal, Out.isOk]

/-- a container announcing element type 0 (STOP) or 1 (VOID) is rejected as soon as it has an element. -/
theorem stop_void_elements_rejected (e : Endian) (f : Nat) (t : TType) (ht : t = .stop ∨ t = .void) (n : Nat) (bs : Bytes) :
    (Binary.readN e f t (n + 1) bs).isOk = false := by
  -- the element reader answers `fuel` or `invalid` before it looks at a byte
  rcases ht with rfl | rfl <;> match f with
    | 0 | 1 | _ + 2 => rfl

/-- the only non-reference type bytes that survive are the element / key / value type of an EMPTY
container, where no byte is ever interpreted under them (D27: recorded as a reading, not a finding —
see DESIGN.md, "Track thrift3"). -/
theorem void_elem_of_empty_container_accepted :
    (match Binary.read .be .list [1, 0, 0, 0, 0] with | .ok (.list .void .nil, []) => true | _ => false) = true ∧
    (match Binary.read .be .map [0, 1, 0, 0, 0, 0] with | .ok (.map .stop .void .nil, []) => true | _ => false) = true ∧
    (match Compact.read .list {} [0x00] with | .ok (.list .stop .nil, _, []) => true | _ => false) = true ∧
    (Binary.read .be .list [1, 0, 0, 0, 1, 0]).isOk = false ∧
    (Binary.read .be .struct [1, 0, 1, 0]).isOk = false := by decide

/-- a struct with a bool field, ids 15 apart (pilota: long form; reference canonical: short form), a bool
list, an empty map, a negative id and a uuid. -/
def witness : TVal :=
  .struct (.cons 1 (.bool true)
          (.cons 16 (.list .bool (.cons (.bool false) (.cons (.bool true) .nil)))
          (.cons 17 (.map .i8 .binary .nil)
          (.cons (-5) (.bin [0x68, 0x69])
          (.cons 20000 (.i64 (-9000000000))
          (.cons 20015 (.uuid (List.replicate 16 0xAB)) .nil))))))

example : witness.wt = true := by decide
-- two DIFFERENT legal compact encodings of it (short header for delta 15 vs pilota's long form), both accepted by the checker
example : SpecCmp.encode 15 witness ≠ SpecCmp.encode 14 witness ∧
    SpecCmp.check witness (SpecCmp.encode 15 witness) = true ∧ SpecCmp.check witness (SpecCmp.encode 14 witness) = true := by decide +kernel
-- a legal binary encoding with `true` sent as 0xFF
example : SpecBin.check (.struct (.cons 1 (.bool true) .nil)) [2, 0, 1, 0xFF, 0] = true := by decide
-- the hypotheses of the envelope theorems can be met: type 3, seqid -1
example : (1 : Nat) ≤ 3 ∧ (3 : Nat) ≤ 4 ∧ inS 4 (-1) := by decide

end Pilota.Props.C03
