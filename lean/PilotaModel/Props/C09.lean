import PilotaModel.Props.C01
import PilotaModel.Lemmas.ReadTotalCompact
import PilotaModel.Lemmas.SkipPrims
import PilotaModel.Lemmas.IterSkip
import PilotaModel.Lemmas.SkipExt
import PilotaModel.Props.C07
/-
  C09 — Safe Thrift decoders are total: arbitrary bytes give a value or an error.
  This file covers the runtime in-memory readers (the dynamic reading interpreter over the binary,
  little-endian and compact readers) and every skipper; the emitted decoders and the async
  readers are other files of the framework.

  A Rust precondition on the modelled paths of the safe readers and skippers (`split_to`, the `i8` subtraction of
  the depth budget, a slice index) is an explicit `.panic` branch of the model; the theorems show the branch is
  unreachable, for EVERY byte string, type, fuel and reader state.  (The checked `i16` add of a compact field id is
  an error of the model as of the code.  The iterative skipper belongs to the unchecked reader, which may leave its
  contract on arbitrary bytes: of it only `iter_skip_no_fuel` is stated here.)
-/
namespace Pilota.Props.C09
open Pilota Pilota.Thrift

/-- binary / LE reading interpreter: never the panic branch. -/
theorem read_total (e : Endian) (f : Nat) (t : TType) (bs : Bytes) (m : String) :
    Binary.readVal e f t bs ≠ .panic m := (Binary.readVal_safe e f t bs).ne_panic m

/-- compact reading interpreter, from every reader state. -/
theorem compact_read_total (f : Nat) (t : TType) (s : Compact.CR) (bs : Bytes) (m : String) :
    Compact.readVal f t s bs ≠ .panic m := (Compact.readVal_safe f t s bs).ne_panic m

/-- default recursive skipper (binary / LE), every non-negative depth budget. -/
theorem skip_total (e : Endian) (f : Nat) (d : Int) (hd : 0 ≤ d) (t : TType) (bs : Bytes) (m : String) :
    Skip.skipVal e f d t bs ≠ .panic m := ((Skip.skipVal_safe e f).1 d t bs).not_panic (by omega) m

/-- compact skipper, from every reader state. -/
theorem compact_skip_total (f : Nat) (d : Int) (hd : 0 ≤ d) (t : TType) (s : Compact.CR) (bs : Bytes) (m : String) :
    Skip.cskipVal f d t s bs ≠ .panic m := by
  have := fun m => ((Skip.rdSkip_safe _ _ Skip.compactPrims_good f).1 d t s bs).not_panic (by omega) m
  unfold Skip.cskipVal
  split <;> simp_all

/-- async skipper over the async binary reader (fully delivered stream). -/
theorem async_binary_skip_total (f : Nat) (d : Int) (hd : 0 ≤ d) (t : TType) (bs : Bytes) (m : String) :
    Skip.rdSkip Skip.asyncBinaryPrims f d t () bs ≠ .panic m :=
  ((Skip.rdSkip_safe _ _ Skip.asyncBinaryPrims_good f).1 d t () bs).not_panic (by omega) m

/-- async skipper over the async compact reader. -/
theorem async_compact_skip_total (f : Nat) (d : Int) (hd : 0 ≤ d) (t : TType) (s : Compact.CR) (bs : Bytes) (m : String) :
    Skip.rdSkip Skip.asyncCompactPrims f d t s bs ≠ .panic m :=
  ((Skip.rdSkip_safe _ _ Skip.asyncCompactPrims_good f).1 d t s bs).not_panic (by omega) m

/-! ### no hang: the top-level budget `3 * len + 3` is never exhausted, on any input -/

theorem no_fuel (e : Endian) (t : TType) (bs : Bytes) : Binary.read e t bs ≠ .fuel :=
  fun h => by have := (Binary.readVal_safe e _ t bs).fuel h; omega

theorem compact_no_fuel (t : TType) (s : Compact.CR) (bs : Bytes) : Compact.read t s bs ≠ .fuel :=
  fun h => by have := (Compact.readVal_safe _ t s bs).fuel h; have := Compact.mu_le s; omega

theorem skip_no_fuel (e : Endian) (d : Int) (t : TType) (bs : Bytes) : Skip.skip e d t bs ≠ .fuel :=
  (Skip.skipVal_nofuel e _).1 d t bs (by omega)

theorem compact_skip_no_fuel (d : Int) (t : TType) (s : Compact.CR) (bs : Bytes) : Skip.cskip d t s bs ≠ .fuel := by
  have := ((Skip.rdSkip_safe _ _ Skip.compactPrims_good (3 * bs.length + 3)).1 d t s bs).not_fuel (by have := Compact.mu_le s; omega)
  unfold Skip.cskip Skip.cskipVal
  split <;> simp_all

theorem async_binary_skip_no_fuel (d : Int) (t : TType) (bs : Bytes) : Skip.askipBinary d t bs ≠ .fuel :=
  ((Skip.rdSkip_safe _ _ Skip.asyncBinaryPrims_good _).1 d t () bs).not_fuel (by omega)

theorem async_compact_skip_no_fuel (d : Int) (t : TType) (s : Compact.CR) (bs : Bytes) : Skip.askipCompact d t s bs ≠ .fuel :=
  ((Skip.rdSkip_safe _ _ Skip.asyncCompactPrims_good _).1 d t s bs).not_fuel (by have := Compact.mu_le s; omega)

/-- the iterative skipper: every loop iteration consumes a byte, so `len + 1` iterations suffice. -/
theorem iter_skip_no_fuel (t : TType) (bs : Bytes) : Skip.iterSkip t bs ≠ .fuel :=
  Skip.iterRun_nofuel _ _ (by simp [Skip.iterInit])

/-- Totality of the in-memory readers: every byte string gives a value or an error. -/
theorem read_value_or_error (e : Endian) (t : TType) (bs : Bytes) :
    (∃ v r, Binary.read e t bs = .ok (v, r)) ∨ (∃ k, Binary.read e t bs = .err k) :=
  (Out.ok_or_err (read_total e _ t bs) (no_fuel e t bs)).imp_left fun ⟨p, h⟩ => ⟨p.1, p.2, h⟩

theorem compact_read_value_or_error (t : TType) (s : Compact.CR) (bs : Bytes) :
    (∃ v s' r, Compact.read t s bs = .ok (v, s', r)) ∨ (∃ k, Compact.read t s bs = .err k) :=
  (Out.ok_or_err (compact_read_total _ t s bs) (compact_no_fuel t s bs)).imp_left fun ⟨p, h⟩ => ⟨p.1, p.2.1, p.2.2, h⟩

theorem skip_count_or_error (e : Endian) (d : Int) (hd : 0 ≤ d) (t : TType) (bs : Bytes) :
    (∃ k r, Skip.skip e d t bs = .ok (k, r)) ∨ (∃ k, Skip.skip e d t bs = .err k) :=
  (Out.ok_or_err (skip_total e _ d hd t bs) (skip_no_fuel e d t bs)).imp_left fun ⟨p, h⟩ => ⟨p.1, p.2, h⟩

/-- Binary / LE: the value built (`weight`: one unit per node, two per struct field, one per
payload byte) plus three units per remaining byte is at most three units per input byte.  The
reading interpreter allocates per unit built (one `Vec::push` per element / field / pair, one copy
per payload) and the readers only split the input, never sizing anything from a wire count; this
is the ok-path statement (see `alloc_linear_partial` in MANIFEST: error paths are covered by the
T1 allocation oracle only). -/
theorem read_weight_linear (e : Endian) (t : TType) (bs : Bytes) (v : TVal) (r : Bytes)
    (h : Binary.read e t bs = .ok (v, r)) : v.weight + 3 * r.length ≤ 3 * bs.length :=
  ((Binary.readVal_safe e _ t bs).ok h).2

theorem compact_read_weight_linear (t : TType) (s : Compact.CR) (bs : Bytes) (v : TVal) (s' : Compact.CR) (r : Bytes)
    (h : Compact.read t s bs = .ok (v, s', r)) : v.weight + 3 * r.length ≤ 3 * bs.length + 1 := by
  have hw := ((Compact.readVal_safe _ t s bs).ok h).2
  have := Compact.mu_le s
  dsimp only at hw; omega

/-- every successful read consumes at least one byte (binary / LE): progress. -/
theorem read_progress (e : Endian) (f : Nat) (t : TType) (bs : Bytes) (v : TVal) (r : Bytes)
    (h : Binary.readVal e f t bs = .ok (v, r)) : r.length + 1 ≤ bs.length := Binary.readVal_len h

/-- a successful read does not depend on the bytes that follow those it consumed. -/
theorem read_extends (e : Endian) (t : TType) (p q : Bytes) (v : TVal) (r : Bytes)
    (h : Binary.read e t p = .ok (v, r)) : Binary.read e t (p ++ q) = .ok (v, r ++ q) := by
  unfold Binary.read at h ⊢
  exact Binary.readVal_ext e q (by rw [List.length_append]; omega) h

theorem compact_read_extends (t : TType) (s : Compact.CR) (p q : Bytes) (v : TVal) (s' : Compact.CR) (r : Bytes)
    (h : Compact.read t s p = .ok (v, s', r)) : Compact.read t s (p ++ q) = .ok (v, s', r ++ q) := by
  unfold Compact.read at h ⊢
  exact Compact.readVal_ext q (by rw [List.length_append]; omega) h

/-- A read that consumed its whole input fails on every strict prefix of that input (any input, not only
an encoding): were the prefix accepted, the extension would leave the missing bytes unconsumed. -/
theorem read_prefix_rejected (e : Endian) (t : TType) (p q : Bytes) (v : TVal) (hq : q ≠ [])
    (h : Binary.read e t (p ++ q) = .ok (v, [])) : ∃ k, Binary.read e t p = .err k := by
  rcases read_value_or_error e t p with ⟨v', r', h1⟩ | h1
  · have h2 := read_extends e t p q v' r' h1
    rw [h] at h2
    injection h2 with h2
    exact absurd (List.append_eq_nil_iff.mp (congrArg (·.2) h2).symm).2 hq
  · exact h1

theorem compact_read_prefix_rejected (t : TType) (s : Compact.CR) (p q : Bytes) (v : TVal) (s' : Compact.CR) (hq : q ≠ [])
    (h : Compact.read t s (p ++ q) = .ok (v, s', [])) : ∃ k, Compact.read t s p = .err k := by
  rcases compact_read_value_or_error t s p with ⟨v', s1, r', h1⟩ | h1
  · have h2 := compact_read_extends t s p q v' s1 r' h1
    rw [h] at h2
    injection h2 with h2
    exact absurd (List.append_eq_nil_iff.mp (congrArg (·.2.2) h2).symm).2 hq
  · exact h1

/-- Binary / LE: reading any strict prefix `p` of what a well-typed value (a struct, or any other
value) wrote gives an error. -/
theorem prefix_rejected (e : Endian) (v : TVal) (hw : v.wt = true) (p q : Bytes) (hq : q ≠ [])
    (h : Binary.run e v.ops = p ++ q) : ∃ k, Binary.read e v.ttype p = .err k :=
  read_prefix_rejected e v.ttype p q v hq (by rw [← h, ← List.append_nil (Binary.run e v.ops)]; exact C01.binary_roundtrip e v hw [])

/-- Compact: a strict prefix of what a well-typed value wrote is rejected, from any reader state without a pending bool. -/
theorem compact_prefix_rejected (v : TVal) (hw : v.wt = true) (ws : Compact.CW) (hp : ws.pending = none) :
    ∃ bs, Compact.run ws v.ops = .ok (ws, bs) ∧
      ∀ (rs : Compact.CR), rs.pendingBool = none → ∀ p q : Bytes, q ≠ [] → bs = p ++ q →
        ∃ k, Compact.read v.ttype rs p = .err k := by
  obtain ⟨bs, h1, h2⟩ := C01.compact_roundtrip v hw ws hp
  refine ⟨bs, h1, fun rs hr p q hq hb => compact_read_prefix_rejected v.ttype rs p q (Compact.norm v) rs hq ?_⟩
  rw [← hb, ← List.append_nil bs]
  exact h2 rs hr []

/-- a successful skip does not depend on the bytes that follow those it consumed. -/
theorem skip_extends (e : Endian) (d : Int) (t : TType) (p q : Bytes) (k : Nat) (r : Bytes)
    (h : Skip.skip e d t p = .ok (k, r)) : Skip.skip e d t (p ++ q) = .ok (k, r ++ q) := by
  unfold Skip.skip at h ⊢
  exact Skip.skipVal_ext e q (by simp; omega) h

theorem compact_skip_extends (d : Int) (t : TType) (s : Compact.CR) (p q : Bytes) (k : Nat) (s' : Compact.CR) (r : Bytes)
    (h : Skip.cskip d t s p = .ok (k, s', r)) : Skip.cskip d t s (p ++ q) = .ok (k, s', r ++ q) := by
  unfold Skip.cskip Skip.cskipVal at h ⊢
  ok_step h
  cases h
  have hf : 3 * p.length + 3 ≤ 3 * (p ++ q).length + 3 := by rw [List.length_append]; omega
  rw [Skip.rdSkip_ext (Skip.compactPrims_ext q) hf ‹_›]
  dsimp only
  rw [List.length_append, List.length_append, Nat.add_sub_add_right]

/-- If skipping `p ++ q`, where it succeeds, leaves nothing, then skipping the strict prefix `p` is an error. -/
theorem skip_prefix_err (e : Endian) (d : Int) (hd : 0 ≤ d) (t : TType) (p q : Bytes) (hq : q ≠ [])
    (h : ∀ k r, Skip.skip e d t (p ++ q) = .ok (k, r) → r = []) : ∃ k, Skip.skip e d t p = .err k := by
  rcases skip_count_or_error e d hd t p with ⟨k, r', h1⟩ | h1
  · exact absurd (List.append_eq_nil_iff.mp (h _ _ (skip_extends e d t p q k r' h1))).2 hq
  · exact h1

theorem compact_skip_prefix_err (d : Int) (hd : 0 ≤ d) (t : TType) (s : Compact.CR) (p q : Bytes) (hq : q ≠ [])
    (h : ∀ k s' r, Skip.cskip d t s (p ++ q) = .ok (k, s', r) → r = []) : ∃ k, Skip.cskip d t s p = .err k :=
  (Out.ok_or_err (compact_skip_total _ d hd t s p) (compact_skip_no_fuel d t s p)).resolve_left fun ⟨_, hc⟩ =>
    hq (List.append_eq_nil_iff.mp (h _ _ _ (compact_skip_extends d t s p q _ _ _ hc))).2

/-- Binary / LE skipper: a strict prefix of a valid encoding is rejected too (with any budget). -/
theorem skip_prefix_rejected (e : Endian) (v : TVal) (hw : v.wt = true) (d : Int) (hd : 0 ≤ d) (p q : Bytes) (hq : q ≠ [])
    (h : Binary.run e v.ops = p ++ q) : ∃ k, Skip.skip e d v.ttype p = .err k := by
  refine skip_prefix_err e d hd v.ttype p q hq fun k r hk => ?_
  have h3 := C01.binary_roundtrip e v hw []
  rw [List.append_nil, h] at h3
  rw [C07.skip_consumes_what_read_consumes e v.ttype (p ++ q) v [] d hd h3] at hk
  split at hk
  · cases hk; rfl
  · cases hk

/-- Compact skipper: a strict prefix of a valid encoding is rejected, from any reader state without a pending bool. -/
theorem compact_skip_prefix_rejected (v : TVal) (hw : v.wt = true) (ws : Compact.CW) (hp : ws.pending = none) (d : Int) (hd : 0 ≤ d) :
    ∃ bs, Compact.run ws v.ops = .ok (ws, bs) ∧
      ∀ (rs : Compact.CR), rs.pendingBool = none → ∀ p q : Bytes, q ≠ [] → bs = p ++ q →
        ∃ k, Skip.cskip d v.ttype rs p = .err k := by
  obtain ⟨bs, h1, h2⟩ := C01.compact_roundtrip v hw ws hp
  refine ⟨bs, h1, fun rs hr p q hq hb => compact_skip_prefix_err d hd v.ttype rs p q hq fun k s' r hk => ?_⟩
  have h5 := h2 rs hr []
  rw [List.append_nil, hb] at h5
  rw [C07.compact_skip_consumes_what_read_consumes v.ttype rs (p ++ q) _ rs [] d hd h5] at hk
  split at hk
  · cases hk; rfl
  · cases hk

example : (TVal.struct (.cons 1 (.list .i32 (.cons (.i32 5) .nil)) (.cons 2 (.bool true) .nil))).wt = true := by decide
example : Binary.run .be (TVal.struct (.cons 1 (.i8 5) .nil)).ops = [3, 0, 1] ++ [5, 0] := by decide
example : (0 : Int) ≤ 64 := by decide
example : ({} : Compact.CW).pending = none ∧ ({} : Compact.CR).pendingBool = none := ⟨rfl, rfl⟩
example : Binary.read .be .i16 [1, 2, 3] = .ok (.i16 258, [3]) := by rfl

end Pilota.Props.C09
