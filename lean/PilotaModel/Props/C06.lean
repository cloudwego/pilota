import PilotaModel.Lemmas.PbSpecSound
import PilotaModel.Lemmas.PbIsSpec
import PilotaModel.Lemmas.PbReads
import PilotaModel.Props.PbTables
/-
  C06 — pilota's protobuf wire format conforms to the protobuf encoding spec.
  `Spec.*` (Proto/Spec.lean, Proto/SpecExec.lean) is the independent reference written from the
  encoding guide; `Spec.lowerSchema` is pilota-build's lowering of declared field types to codec
  modules, tied to the generator's source by the T2 tables.
-/
namespace Pilota.Props.C06
open Pilota Pilota.Proto Pilota.Gen.Tables

/-- **codec selection**: for every scalar field type of the protobuf language, the module that
pilota-build's lowering pipeline selects — `lower_ty`, then resolve's `lower_type`, then the
first matching arm of `ty_module` (`PbTables.codec_table`) — implements the wire encoding the spec
prescribes for that type (`module_conforms` says what "implements" means); in particular sint32 /
sint64 reach the ZigZag modules, not the plain `I32` / `I64` arms. -/
theorem codec_selection : ∀ t ∈ PType.all,
    moduleOfTables pbLowerTy pbResolve pbTyModule t = some (.codec t.codec) ∧ t.codec.wireClass = t ∧
      Spec.lowerTy (.scalar t) = .scalar t.codec :=
  fun t ht => ⟨PbTables.codec_table t ht, codec_wireClass t, rfl⟩

/-- enum fields are lowered to the `int32` module (varint of the sign-extended number), message
fields to `message` (length-delimited). -/
theorem enum_and_message_selection :
    firstArm .pathEnum none pbTyModule = some (.codec .int32) ∧ Spec.lowerTy .enum = .scalar .int32 ∧
    firstArm .pathAny none pbTyModule = some .message :=
  ⟨PbTables.path_arms.1, rfl, PbTables.path_arms.2⟩

/-- **every codec module conforms**: for every value of its Rust type it writes the wire type and
exactly the payload bytes the encoding guide prescribes for the declared type it implements
(varint with 64-bit sign extension for int32 / int64, ZigZag for sint32 / sint64, little-endian
fixed widths, IEEE bits, length-delimited strings and bytes). -/
theorem module_conforms (c : Codec) (v : SVal) (hv : c.ok v = true) :
    c.wt = Spec.wireOf c.wireClass ∧ c.encPayload v = Spec.encScalar c.wireClass v :=
  Pilota.Proto.module_conforms c v hv

/-- **first direction**: the bytes pilota's emitted encoder writes for a message are a conforming
encoding of the value under the declared schema — for every declared schema whose lowering is
well-formed, every message, every well-typed value, both settings of `pb-encode-default-value`. -/
theorem pilota_is_spec (ps : Spec.PSchema) (flag : Bool) (hs : WFSchema (Spec.lowerSchema ps) = true) (i : Nat) (m : Slots)
    (hm : HasType (Spec.lowerSchema ps) flag i m) :
    Spec.Enc ps i m (encode (Spec.lowerSchema ps) flag i m) :=
  have hdw := decls_wf _ hs i
  ⟨_, (flat_recsSlots _ flag hs _ m hm.1).symm, isSpecSlots ps flag hs _ _ (decls_lower ps i) m hdw.1 hdw.2 hm.1⟩

/-- **second direction**: ANY conforming encoding of a value — fields in any order and interleaved,
repeated numeric fields packed, unpacked or split into several runs, implicit-presence fields and
map keys / values present or omitted when zero, map entries with key and value in either order —
is decoded by pilota's emitted decoder to that value.  (`HasType … true`: the value is one the
generated struct holds, map keys distinct, nesting within the recursion limit of 100.  The typing is
the one with the flag on because that does not ask a map value that is `==` its default to be the
default bit for bit; the flag also enters the clauses about `entryLen` and `lenSlots` (the encoder's own length
prefixes), which play no part here.  What is used of the lengths is that every scalar byte string is of `usize` length.) -/
theorem pilota_reads_any_spec (ps : Spec.PSchema) (hs : WFSchema (Spec.lowerSchema ps) = true) (i : Nat) (m : Slots) (bs : Bytes)
    (henc : Spec.Enc ps i m bs) (hm : HasType (Spec.lowerSchema ps) true i m) :
    decode (Spec.lowerSchema ps) i bs = .ok m := by
  obtain ⟨rs, rfl, hrs⟩ := henc
  have hfold := readSlots ps hs _ _ (decls_lower ps i) m rs recursionLimit _ hrs (decls_wf _ hs i).1 hm.1 hm.2
    (isDef_defaultMsg _ hs i)
  have hloop := foldRecs_loop _ recursionLimit _ rs _ _ (encSlots_tagOk ps hs i m rs hrs) hfold [] _ (Nat.le_refl _)
  rw [List.append_nil, List.length_nil] at hloop
  simp only [decode, decodeInto, decodeIntoCtx, hloop]

/-- the executable checker `Spec.check` (generic wire parser with minimal keys and length prefixes,
then the per-field conditions of `Spec.Enc`) is sound for the relation: the encodings T1 feeds to
pilota after `Spec.check` accepted them are members of `Spec.Enc`. -/
theorem spec_check_sound (ps : Spec.PSchema) (i : Nat) (m : Slots) (bs : Bytes) (h : Spec.check ps i m bs = true) :
    Spec.Enc ps i m bs := Spec.check_sound ps i m bs h

/-- an encoding `Spec.check` accepts is decoded by pilota to the value. -/
theorem checked_encoding_is_read (ps : Spec.PSchema) (hs : WFSchema (Spec.lowerSchema ps) = true) (i : Nat) (m : Slots) (bs : Bytes)
    (h : Spec.check ps i m bs = true) (hm : HasType (Spec.lowerSchema ps) true i m) :
    decode (Spec.lowerSchema ps) i bs = .ok m :=
  pilota_reads_any_spec ps hs i m bs (spec_check_sound ps i m bs h) hm

/-- the two directions together: what one pilota peer writes, any pilota peer reads — a statement
that does not mention the reference, and an inhabitant of the reference relation for every value.
`hm` types the value for the writer's flag, `hm'` for the reader (see `pilota_reads_any_spec`). -/
theorem pilota_reads_pilota (ps : Spec.PSchema) (hs : WFSchema (Spec.lowerSchema ps) = true) (flag : Bool) (i : Nat) (m : Slots)
    (hm : HasType (Spec.lowerSchema ps) flag i m) (hm' : HasType (Spec.lowerSchema ps) true i m) :
    decode (Spec.lowerSchema ps) i (encode (Spec.lowerSchema ps) flag i m) = .ok m :=
  pilota_reads_any_spec ps hs i m _ (pilota_is_spec ps flag hs i m hm) hm'

/-! non-vacuity: a declared schema with sint32, string, a packed-able repeated enum, a map and a oneof. -/
def demoP : Spec.PSchema :=
  [[.single 1 (.scalar .sint32) false, .single 2 (.scalar .string) true, .rep 3 .enum,
    .map 4 .string (.msg 0), .oneof [(5, .scalar .double), (6, .msg 0)]]]
def demoV : Slots :=
  .cons (.req (.s (.int (-3)))) (.cons (.some (.s (.bs [0xc3, 0xa9])))
    (.cons (.rep (.cons (.s (.int 2)) (.cons (.s (.int (-1))) .nil)))
      (.cons (.map (.cons (.bs [0x6b]) (.msg (.cons (.req (.s (.int 0))) (.cons .none (.cons (.rep .nil) (.cons (.map .nil) (.cons .none .nil)))))) .nil))
        (.cons (.one 5 (.s (.f64 0x7ff8000000000001))) .nil))))
example : WFSchema (Spec.lowerSchema demoP) = true := by decide
example : HasType (Spec.lowerSchema demoP) false 0 demoV := by decide
example : HasType (Spec.lowerSchema demoP) true 0 demoV := by decide
example : Codec.sint32.ok (.int (-3)) = true := by decide

end Pilota.Props.C06
