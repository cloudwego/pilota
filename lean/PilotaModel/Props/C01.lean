import PilotaModel.Lemmas.SpecCmp
import PilotaModel.Lemmas.Fuel
import PilotaModel.Lemmas.OpsRun
import PilotaModel.Thrift.Linked
/-
  C01 — Thrift runtime round trip on every protocol and buffer kind.
-/
namespace Pilota.Props.C01
open Pilota Pilota.Thrift

/-- Binary and little-endian binary: reading back what the op sequence of a well-typed value
wrote gives exactly that value and leaves exactly the trailing bytes. -/
theorem binary_roundtrip (e : Endian) (v : TVal) (hw : v.wt = true) (rest : Bytes) :
    Binary.read e v.ttype (Binary.run e v.ops ++ rest) = .ok (v, rest) := by
  rw [Binary.run_ops]
  unfold Binary.read
  exact Binary.readVal_enc e v hw _ (size_le_budget (Binary.size_le e v hw) rest) rest

/-- Compact: the writer accepts the op sequence from any state without a deferred bool and
returns to that state; a reader in any state without a pending bool reads the value back
(up to the key/value types of empty maps, which are not on the wire), returns to its own state,
and leaves exactly the trailing bytes. -/
theorem compact_roundtrip (v : TVal) (hw : v.wt = true) (ws : Compact.CW) (hp : ws.pending = none) :
    ∃ bs, Compact.run ws v.ops = .ok (ws, bs) ∧
      ∀ (rs : Compact.CR), rs.pendingBool = none → ∀ rest : Bytes,
        Compact.read v.ttype rs (bs ++ rest) = .ok (Compact.norm v, rs, rest) := by
  refine ⟨Compact.enc v, Compact.run_ops v hw ws hp, ?_⟩
  intro rs hr rest
  unfold Compact.read
  exact Compact.readVal_enc v hw _ (size_le_budget (Compact.size_le v hw) rest) rs hr rest

/-- several values read off ONE buffer by ONE protocol instance: what is left, and for compact the reader's state, passes
from each value to the next (the "follow-on value" part of the property). -/
def Binary.readAll (e : Endian) : List TType → Bytes → Out (List TVal × Bytes)
  | [], bs => .ok ([], bs)
  | t :: ts, bs => match Binary.read e t bs with
    | .ok (v, r) => match readAll e ts r with
      | .ok (vs, r) => .ok (v :: vs, r)
      | .err k => .err k | .panic m => .panic m | .fuel => .fuel
    | .err k => .err k | .panic m => .panic m | .fuel => .fuel

def Compact.readAll : List TType → Compact.CR → Bytes → Out (List TVal × Compact.CR × Bytes)
  | [], s, bs => .ok ([], s, bs)
  | t :: ts, s, bs => match Compact.read t s bs with
    | .ok (v, s, r) => match readAll ts s r with
      | .ok (vs, s, r) => .ok (v :: vs, s, r)
      | .err k => .err k | .panic m => .panic m | .fuel => .fuel
    | .err k => .err k | .panic m => .panic m | .fuel => .fuel

theorem binary_seq_roundtrip (e : Endian) (vs : List TVal) (hw : ∀ v ∈ vs, v.wt = true) (rest : Bytes) :
    Binary.readAll e (vs.map TVal.ttype) (Binary.run e (vs.flatMap TVal.ops) ++ rest) = .ok (vs, rest) := by
  induction vs with
  | nil => simp [Binary.readAll, Binary.run]
  | cons v vs ih =>
    simp only [List.map_cons, List.flatMap_cons, Binary.run_append, List.append_assoc, Binary.readAll]
    rw [binary_roundtrip e v (hw v (by simp))]
    simp only
    rw [ih (fun x hx => hw x (by simp [hx]))]

theorem compact_seq_roundtrip (vs : List TVal) (hw : ∀ v ∈ vs, v.wt = true) (ws : Compact.CW) (hp : ws.pending = none) :
    ∃ bs, Compact.run ws (vs.flatMap TVal.ops) = .ok (ws, bs) ∧
      ∀ (rs : Compact.CR), rs.pendingBool = none → ∀ rest : Bytes,
        Compact.readAll (vs.map TVal.ttype) rs (bs ++ rest) = .ok (vs.map Compact.norm, rs, rest) := by
  induction vs with
  | nil => exact ⟨[], by simp [Compact.run], by intro rs _ rest; simp [Compact.readAll]⟩
  | cons v vs ih =>
    obtain ⟨b1, hb1, hr1⟩ := compact_roundtrip v (hw v (by simp)) ws hp
    obtain ⟨b2, hb2, hr2⟩ := ih (fun x hx => hw x (by simp [hx]))
    refine ⟨b1 ++ b2, ?_, ?_⟩
    · simp only [List.flatMap_cons]
      exact Compact.run_ok_append hb1 hb2
    · intro rs hr rest
      simp only [List.map_cons, Compact.readAll, List.append_assoc]
      rw [hr1 rs hr (b2 ++ rest)]
      simp only
      rw [hr2 rs hr rest]

open Linked in
/-- Writing through a `LinkedBytes` (zero-copy on or off, any threshold, any string API) yields
nodes whose concatenation is what the contiguous writer appends, provided each binary payload's
bytes are its length prefix followed by the payload (true of all three protocols, below).
`steps` has one triple per call: the op, the bytes `w` the contiguous writer appends for it (`Binary.wOp e o`, or what
`Compact.wStep` returns) and, for a payload, its length prefix `p`.  The statement is about ANY such list; it is the
harness that builds the list from a writer's run (Driver/Thrift.lean, the `lb` buffers). -/
theorem linked_concat (compact zc : Bool) (thr : Nat) (api : StrApi) (l : LB)
    (steps : List (Op × Bytes × Bytes))
    (hpre : ∀ o w p, (o, w, p) ∈ steps → ∀ bs, o = .bytes bs → w = p ++ bs) :
    (steps.foldl (fun l (o, w, p) => step compact zc thr api l o w p) l).concat
      = l.concat ++ (steps.map (fun x => x.2.1)).flatten := by
  induction steps generalizing l with
  | nil => simp
  | cons x xs ih =>
    obtain ⟨o, w, p⟩ := x
    simp only [List.foldl_cons, List.map_cons, List.flatten_cons]
    rw [ih _ (fun o' w' p' h => hpre o' w' p' (by simp [h]))]
    have hput : (l.put w).concat = l.concat ++ w := (List.append_assoc ..).symm
    have hstep : (step compact zc thr api l o w p).concat = l.concat ++ w := by
      cases o with
      | bytes bs =>
        show (if takesZc compact zc thr api bs.length then (l.put p).insert bs else l.put w).concat = _
        split
        · simp [LB.put, LB.insert, LB.concat, hpre (.bytes bs) w p (by simp) bs rfl]
        · exact hput
      | _ => exact hput
    rw [hstep, List.append_assoc]

/-- the length-prefix hypothesis of `linked_concat` holds for the binary writers. -/
theorem binary_bytes_prefix (e : Endian) (bs : Bytes) :
    Binary.wOp e (.bytes bs) = Binary.i e 4 (toS 4 bs.length) ++ bs := rfl

/-- the length-prefix hypothesis of `linked_concat` holds for the compact writer. -/
theorem compact_bytes_prefix (s : Compact.CW) (bs : Bytes) :
    Compact.wStep s (.bytes bs) = .ok (s, encVar (bs.length % 2 ^ 32) ++ bs) := rfl

/-! ### non-vacuity: a nested struct ending at field 5 followed by sibling field 2, a bool
field, a `list<bool>`, a NaN double — is well-typed (the hypothesis of the round trips), and the fresh states have nothing pending. -/

def witness : TVal :=
  .struct (.cons 1 (.struct (.cons 5 (.i32 1) .nil))
          (.cons 2 (.bool true)
          (.cons 3 (.list .bool (.cons (.bool true) (.cons (.bool false) .nil)))
          (.cons 4 (.dbl 0x7ff8000000000001) .nil))))

example : witness.wt = true := by decide
example : ({} : Compact.CW).pending = none ∧ ({} : Compact.CR).pendingBool = none := ⟨rfl, rfl⟩

end Pilota.Props.C01
