import PilotaModel.TGen.Keep
import PilotaModel.Lemmas.TolerantK
import PilotaModel.Lemmas.KeepRT
import PilotaModel.Lemmas.KeepFwd
/-
  C13 — retained unknown fields survive re-encoding unchanged.

  Full statement (DESIGN.md section 8, `keep_roundtrip`):
    decode dw n (encodeKeep dr n (decodeKeep dr n (encode dw n v))) = .ok v   for dr ⊆ dw.
  Proved in full as `keep_roundtrip_total`: for EVERY writer document `dw` with distinct field ids per struct and variant ids per
  union, EVERY reader document obtained from it by removing struct fields and union variants (`restrict dw keep`), EVERY typed value
  `w` of a declared type (`hasTy`, TGen/Typed.lean: a value as the emitted encoder of `dw` writes it) nested within the reader's
  skipper budget, the retaining reader accepts the encoding of `w`, and the full reader decodes the re-encoding of what it
  returned to exactly `w`.  The reader half holds for arbitrary wire values: the retention decoder run on an encoding returns
  the value-level shadow `projTyK` (`keep_tolerant`), and what a struct's field loop retained is every undeclared field of the
  wire struct, each as the very value - hence the bytes - it had on the wire, in wire order (`keep_retains_every_unknown_field`).
  Not true of the code as it is and stated as what it does: a union with retention rejects a known variant that is accompanied
  by an unknown field (D31); the argument-type shortcut (D12) is outside the model (hazard-marked requests, oracle only).
-/
namespace Pilota.Props.C13
open Pilota Pilota.Thrift Pilota.TGen

/-- "byte for byte": skipping an unknown field of any well-typed value `v` (nesting within the depth
budget; no limit under the unchecked codec) consumes exactly `Binary.enc e v`, and the retained
chunk denotes exactly `v`, so re-emitting it writes exactly the bytes that were skipped. -/
theorem retained_chunk_exact (e : Endian) (dp : Option Nat) (hed : EndianOk e dp) (v : TVal) (hw : v.wt = true) (hd : admits dp v.need) (r : Bytes) :
    skipKeep e dp v.ttype (Binary.enc e v ++ r) = .ok (v, r) :=
  skipKeep_enc e dp hed v hw hd r

/-- the field loop with retention: an undeclared field whose value is `v` is appended to the
retained list (after everything retained before it: wire order) and nothing else changes. -/
theorem unknown_field_retained (e : Endian) (dp : Option Nat) (d : Doc) (f : Nat) (fs : List Field)
    (slots unk : List (Int × TVal)) (s : Bytes) (id : Int) (v : TVal) (r : Bytes)
    (hed : EndianOk e dp) (hw : v.wt = true) (hd : admits dp v.need)
    (hb : (binRd e dp).fieldBegin s = .ok ((v.ttype, id), Binary.enc e v ++ r))
    (hunk : ∀ fl ∈ fs, fl.id ≠ id) :
    decFieldsK e dp d (f + 1) fs slots unk s = decFieldsK e dp d f fs slots (unk ++ [(id, v)]) r := by
  rw [decFieldsK, hb]
  have hns : v.ttype ≠ .stop := TType.isValue_ne_stop _ (TVal.ttype_isValue v)
  simp only [hns, if_false]
  have : fs.find? (fun fl => fl.id == id && d.ttype fl.ty == v.ttype) = none := by
    rw [List.find?_eq_none]; intro fl hfl; simp [hunk fl hfl]
  rw [this]
  simp only [retained_chunk_exact e dp hed v hw hd r]

/-- a struct decoded with retention re-encodes as its known fields (declaration order, defaults
filled as without retention) followed by the retained chunks. -/
theorem struct_known_then_retained (e : Endian) (dp : Option Nat) (d : Doc) (f : Nat) (n : String) (fs : List Field)
    (hn : d.find n = some (.struct fs)) (s s' : Bytes) (slots unk out : List (Int × TVal))
    (hl : decFieldsK e dp d f fs [] [] s = .ok (slots, unk, s')) (hfin : finish fs slots = .ok out) :
    decTyK e dp d (f + 1) (.ref n) s = .ok (.struct (TFields.ofList (out ++ unk)), s') := by
  rw [decTyK]; simp [hn, hl, hfin]

/-- what the code does (known finding D31): with retention a union that already decoded a known
variant rejects a following unknown field, although the plain decoder skips it. -/
theorem union_known_then_unknown_is_error (e : Endian) (dp : Option Nat) (d : Doc) (f : Nat) (vs : List (Int × STy))
    (ret : Int × TVal) (s : Bytes) (id : Int) (v : TVal) (r : Bytes) (hed : EndianOk e dp) (hw : v.wt = true) (hd : admits dp v.need)
    (hb : (binRd e dp).fieldBegin s = .ok ((v.ttype, id), Binary.enc e v ++ r))
    (hk : vs.find? (fun x => x.1 == id && !(x.2 == .void)) = none) :
    decUnionK e dp d (f + 1) vs (some ret) s = .err .invalid := by
  rw [decUnionK, hb]
  have hns : v.ttype ≠ .stop := TType.isValue_ne_stop _ (TVal.ttype_isValue v)
  simp [hns, hk, retained_chunk_exact e dp hed v hw hd r]

/-- a union that receives a single unknown field retains it. -/
theorem union_single_unknown_retained (e : Endian) (dp : Option Nat) (d : Doc) (f : Nat) (vs : List (Int × STy))
    (s : Bytes) (id : Int) (v : TVal) (r : Bytes) (hed : EndianOk e dp) (hw : v.wt = true) (hd : admits dp v.need)
    (hb : (binRd e dp).fieldBegin s = .ok ((v.ttype, id), Binary.enc e v ++ r))
    (hk : vs.find? (fun x => x.1 == id && !(x.2 == .void)) = none) :
    decUnionK e dp d (f + 1) vs none s = decUnionK e dp d f vs (some (id, v)) r := by
  rw [decUnionK, hb]
  have hns : v.ttype ≠ .stop := TType.isValue_ne_stop _ (TVal.ttype_isValue v)
  simp [hns, hk, retained_chunk_exact e dp hed v hw hd r]

/-- **The retention decoder is its projection** (binary, little-endian, unchecked binary): at every fuel, errors included. -/
theorem keep_tolerant (e : Endian) (dp : Option Nat) (d : Doc) (ty : STy) (w : TVal) (rest : Bytes) (f : Nat) (o : Out TVal)
    (hed : EndianOk e dp) (hw : w.wt = true) (hp : projTyK d dp f ty w = some o) :
    decTyK e dp d f ty (Binary.enc e w ++ rest) = withRest rest o :=
  (corrK_all e dp d hed f).1 ty w rest o hw hp

/-- the retention decoder is its projection at the budget the emitted `decode` entry point really uses -/
theorem keep_decode_is_projection (e : Endian) (dp : Option Nat) (d : Doc) (n : String) (w : TVal) (rest : Bytes) (o : Out TVal)
    (hed : EndianOk e dp) (hw : w.wt = true)
    (hp : projTyK d dp (3 * (Binary.enc e w ++ rest).length + 8) (.ref n) w = some o) :
    decodeK e dp d n (Binary.enc e w ++ rest) = withRest rest o := by
  unfold decodeK
  exact (corrK_all e dp d hed _).1 (.ref n) w rest o hw hp

/-- **Every unknown field is retained, unchanged, in wire order**: when the retention decoder accepts the encoding of a
wire struct `wfs` for the declared struct `n`, the decoded struct is its known fields (as `finish` orders and fills them)
followed by exactly the undeclared fields of `wfs`, each with the value — hence the bytes — it had on the wire. -/
theorem keep_retains_every_unknown_field (e : Endian) (dp : Option Nat) (d : Doc) (n : String) (fs : List Field) (wfs : TFields)
    (rest : Bytes) (f : Nat) (v : TVal)
    (hed : EndianOk e dp) (hn : d.find n = some (.struct fs)) (hw : wfs.wt = true)
    (hp : projTyK d dp (f + 1) (.ref n) (.struct wfs) = some (.ok v)) :
    decTyK e dp d (f + 1) (.ref n) (Binary.enc e (.struct wfs) ++ rest) = .ok (v, rest) ∧
    ∃ out, v = .struct (TFields.ofList (out ++ unknownsOf d fs wfs)) := by
  constructor
  · exact (corrK_all e dp d hed (f + 1)).1 (.ref n) (.struct wfs) rest (.ok v) (by simpa [TVal.wt] using hw) hp
  · simp only [projTyK, hn] at hp
    split at hp <;> try (cases hp; done)
    rename_i slots unk hpf
    have hu := projFieldsK_retains d dp f fs [] [] wfs slots unk hpf
    split at hp <;> cases hp
    exact ⟨_, by rw [hu]; rfl⟩

/-- a typed value (TGen/Typed.lean `hasTy`) is a value of the emitted type in the sense of `Props/C02.Canon`: the reader's
own projection maps it to itself -/
theorem typed_is_canon (d : Doc) (dp : Option Nat) (hd : d.fieldsOk) (f : Nat) (ty : STy) (w : TVal) (ht : hasTy d f ty w = true) :
    ∃ G, projTy d dp G ty w = some (.ok w) := canon_of_hasTy d dp hd f ty w ht

/-- **Round trip through a reader that lacks fields, value level.**  `dw` is the writer's (full) document, `restrict dw keep`
the reader's; `w` a typed value of `ty`; `w'` what the retaining reader makes of it.  The full reader maps `w'` back to `w`,
for every sufficiently large recursion budget (the emitted code has none). -/
theorem keep_roundtrip_value (dw : Doc) (keep : String → Field → Bool) (dpr dpw : Option Nat) (hd : dw.fieldsOk) (hu : dw.variantsOk)
    (f : Nat) (ty : STy) (w w' : TVal) (fK : Nat) (ht : hasTy dw f ty w = true)
    (hk : projTyK (restrict dw keep) dpr fK ty w = some (.ok w')) :
    w'.ttype = w.ttype ∧ ∃ G, ∀ g, G ≤ g → projTy dw dpw g ty w' = some (.ok w) := by
  obtain ⟨h1, G, hG⟩ := keep_back_all dw keep dpr dpw hd hu f ty w ht fK w' hk
  exact ⟨h1, G, fun g hg => projTy_mono dw dpw G g hg ty w' w hG⟩

/-- **Retained unknown fields survive re-encoding: the full reader recovers the original value** (bytes level; `er` /
`dpr`: the retaining reader's protocol - binary, LE or unchecked -, `ew` / `dpw`: the full reader's).  The retaining
reader, at the budget of its `decode` entry point, returns `w'` and leaves the trailing input; the full reader decodes
the re-encoding `Binary.enc ew w'` (known fields, then the retained chunks: `struct_known_then_retained`) to `w`, leaving
its trailing input.  `hw'`: the reader's value is a Rust value (integers within their types; not derived here). -/
theorem keep_roundtrip (er ew : Endian) (dpr dpw : Option Nat) (hedr : EndianOk er dpr) (hedw : EndianOk ew dpw)
    (dw : Doc) (keep : String → Field → Bool) (hd : dw.fieldsOk) (hu : dw.variantsOk) (n : String) (f : Nat) (w w' : TVal)
    (ht : hasTy dw f (.ref n) w = true) (hw : w.wt = true) (hw' : w'.wt = true) (rest rest' : Bytes)
    (hk : projTyK (restrict dw keep) dpr (3 * (Binary.enc er w ++ rest).length + 8) (.ref n) w = some (.ok w')) :
    decodeK er dpr (restrict dw keep) n (Binary.enc er w ++ rest) = .ok (w', rest) ∧
    ∃ G, ∀ g, G ≤ g → decTy (binRd ew dpw) dw g (.ref n) (Binary.enc ew w' ++ rest') = .ok (w, rest') := by
  constructor
  · have := keep_decode_is_projection er dpr (restrict dw keep) n w rest (.ok w') hedr hw hk
    simpa [withRest, mapOut] using this
  · obtain ⟨_, G, hG⟩ := keep_roundtrip_value dw keep dpr dpw hd hu f (.ref n) w w' _ ht hk
    refine ⟨G, fun g hg => ?_⟩
    have := (corr_all ew dpw dw hedw g).1 (.ref n) w' rest' (.ok w) hw' (hG g hg)
    simpa [withRest, mapOut] using this

/-- **The retaining reader accepts every typed value within its skipper's depth budget** (`dpr = none`, the unchecked
codec: no limit), with the same result for every sufficiently large recursion budget; the result is a Rust value (integers
within their types, sizes below 2^31) whenever the original is, and has its wire type. -/
theorem keep_accepts (dw : Doc) (keep : String → Field → Bool) (dpr : Option Nat) (hd : dw.fieldsOk) (hu : dw.variantsOk)
    (f : Nat) (ty : STy) (w : TVal) (ht : hasTy dw f ty w = true) (ha : admits dpr w.need) :
    ∃ w' B, (w.wt = true → w'.wt = true) ∧ w'.ttype = w.ttype ∧
      ∀ fK, B ≤ fK → projTyK (restrict dw keep) dpr fK ty w = some (.ok w') := by
  obtain ⟨w', B, hs, hB⟩ := keep_accepts_all dw keep dpr hd hu f ty w ht ((admitsB_iff dpr _).mpr ha)
  exact ⟨w', B, hs.1, hs.2, hB⟩

/-- **C13 as one statement, bytes level, without `keep_roundtrip`'s hypotheses `hw'` and `hk` about the reader's outcome**, for every pair of binary-family protocols and
all trailing inputs, for all sufficiently large recursion budgets (the emitted code has none). -/
theorem keep_roundtrip_total (er ew : Endian) (dpr dpw : Option Nat) (hedr : EndianOk er dpr) (hedw : EndianOk ew dpw)
    (dw : Doc) (keep : String → Field → Bool) (hd : dw.fieldsOk) (hu : dw.variantsOk) (n : String) (f : Nat) (w : TVal)
    (ht : hasTy dw f (.ref n) w = true) (hw : w.wt = true) (ha : admits dpr w.need) (rest rest' : Bytes) :
    ∃ w' B G, (∀ fK, B ≤ fK → decTyK er dpr (restrict dw keep) fK (.ref n) (Binary.enc er w ++ rest) = .ok (w', rest)) ∧
      (∀ g, G ≤ g → decTy (binRd ew dpw) dw g (.ref n) (Binary.enc ew w' ++ rest') = .ok (w, rest')) := by
  obtain ⟨w', B, hwt, _, hB⟩ := keep_accepts dw keep dpr hd hu f (.ref n) w ht ha
  obtain ⟨_, G, hG⟩ := keep_roundtrip_value dw keep dpr dpw hd hu f (.ref n) w w' B ht (hB B (Nat.le_refl _))
  refine ⟨w', B, G, fun fK hf => ?_, fun g hg => ?_⟩
  · have := keep_tolerant er dpr (restrict dw keep) (.ref n) w rest fK (.ok w') hedr hw (hB fK hf)
    simpa [withRest, mapOut] using this
  · have := (corr_all ew dpw dw hedw g).1 (.ref n) w' rest' (.ok w) (hwt hw) (hG g hg)
    simpa [withRest, mapOut] using this

/-! non-vacuity of `keep_roundtrip`: the writer's document has a recursive struct with a default, a list of itself and a
map to a second struct; the reader lacks fields 2 and 4 of `S` and field 1 of `T`; what it returns differs from the
original (retained fields moved behind the known ones) and is read back as the original -/
def wDoc : Doc := [("S", .struct [{ id := 1, ty := .i32, required := true }, { id := 2, ty := .list (.ref "S"), required := false },
    { id := 3, ty := .string, required := false, dflt := some (.bin [104]) }, { id := 4, ty := .map .i32 (.ref "T"), required := false }]),
  ("T", .struct [{ id := 1, ty := .bool, required := false }, { id := 7, ty := .set .i16, required := false }])]
def wKeep : String → Field → Bool := fun n fl => !((n == "S" && (fl.id == 2 || fl.id == 4)) || (n == "T" && fl.id == 1))
def wT : TVal := .struct (.cons 1 (.bool true) (.cons 7 (.set .i16 (.cons (.i16 3) (.cons (.i16 4) .nil))) .nil))
def wInner : TVal := .struct (.cons 1 (.i32 6) (.cons 3 (.bin [105]) .nil))
def wOrig : TVal := .struct (.cons 1 (.i32 5) (.cons 2 (.list .struct (.cons wInner .nil)) (.cons 3 (.bin [104])
  (.cons 4 (.map .i32 .struct (.cons (.i32 9) wT .nil)) .nil))))
def wBack : TVal := .struct (.cons 1 (.i32 5) (.cons 3 (.bin [104]) (.cons 2 (.list .struct (.cons wInner .nil))
  (.cons 4 (.map .i32 .struct (.cons (.i32 9) wT .nil)) .nil))))
example : hasTy wDoc 8 (.ref "S") wOrig = true ∧ wOrig.wt = true ∧ wBack.wt = true ∧ admits (some skipDepth) wOrig.need := by
  refine ⟨by decide +kernel, by decide +kernel, by decide +kernel, ?_⟩
  simp [admits, skipDepth, wOrig, wInner, wT, TVal.need, TVals.need, TFields.need, TPairs.need]
example : projTyK (restrict wDoc wKeep) (some 64) 12 (.ref "S") wOrig = some (.ok wBack) ∧ wBack ≠ wOrig := by decide
example : projTy wDoc (some 64) 20 (.ref "S") wBack = some (.ok wOrig) := by decide +kernel
example : wDoc.fieldsOk := by
  intro n fs h
  have := Doc.mem_of_find h
  simp only [wDoc, List.mem_cons, Prod.mk.injEq, Def.struct.injEq, List.not_mem_nil, or_false] at this
  rcases this with ⟨_, rfl⟩ | ⟨_, rfl⟩ <;> decide

/-! non-vacuity for unions: the reader lacks variant 2 of `U` (and field 1 of the struct inside it is irrelevant then): the variant is
retained as it is and the full reader gets the original back; variant 1 is known to both -/
def uDoc : Doc := [("U", .union [(1, .i32), (2, .ref "T")]), ("T", .struct [{ id := 1, ty := .bool, required := false }])]
def uKeep : String → Field → Bool := fun n fl => !(n == "U" && fl.id == 2)
def uVal : TVal := .struct (.cons 2 (.struct (.cons 1 (.bool true) .nil)) .nil)
example : hasTy uDoc 4 (.ref "U") uVal = true ∧ projTyK (restrict uDoc uKeep) (some 64) 6 (.ref "U") uVal = some (.ok uVal) ∧
    projTyK (restrict uDoc uKeep) (some 64) 6 (.ref "U") (.struct (.cons 1 (.i32 5) .nil)) = some (.ok (.struct (.cons 1 (.i32 5) .nil))) := by
  decide +kernel
example : uDoc.variantsOk := by
  intro n vs h
  have := Doc.mem_of_find h
  simp only [uDoc, List.mem_cons, Prod.mk.injEq, Def.union.injEq, List.not_mem_nil, or_false, reduceCtorEq, and_false] at this
  rcases this with ⟨_, rfl⟩
  decide

/-! non-vacuity of `keep_tolerant` / `keep_retains_every_unknown_field`: a reader that knows field 1 only, a writer that also sent 2 and 9 -/
def rdDoc : Doc := [("S", .struct [{ id := 1, ty := .i32, required := true }])]
def wrVal : TFields := .cons 9 (.bin [1, 2]) (.cons 1 (.i32 5) (.cons 2 (.list .i64 (.cons (.i64 7) .nil)) .nil))
example : wrVal.wt = true ∧ projTyK rdDoc (some 64) 5 (.ref "S") (.struct wrVal) =
    some (.ok (.struct (.cons 1 (.i32 5) (.cons 9 (.bin [1, 2]) (.cons 2 (.list .i64 (.cons (.i64 7) .nil)) .nil))))) := by decide

/-! non-vacuity: an unknown field holding a nested container, within the default budget of 64 -/
def unk : TVal := .map .i32 .list (.cons (.i32 7) (.list .binary (.cons (.bin [1, 2]) .nil)) .nil)
example : unk.wt = true ∧ admits (some skipDepth) unk.need := ⟨by decide, by simp [admits, skipDepth, unk, TVal.need, TVals.need, TPairs.need]⟩

end Pilota.Props.C13
