import PilotaModel.TGen.Decode
import PilotaModel.Lemmas.BinaryRT
import PilotaModel.Lemmas.CompactRT
import PilotaModel.Lemmas.Tolerant
import PilotaModel.Lemmas.TolerantC
import PilotaModel.Lemmas.ProjMono
import PilotaModel.Lemmas.OpsRun
/-
  C02 — generated Thrift types round trip under every protocol.

  Main theorem (`gen_roundtrip_binary`; binary / little-endian / unchecked binary): for every document,
  every declared type and every value `v` of the emitted type — `Canon`: a value that the decoder
  itself maps to itself, i.e. fields in declaration order with defaults present, containers of the
  declared element types, sets and map keys without duplicates — decoding what the emitted encoder
  writes returns `v` and consumes exactly those bytes, with any trailing input left in place.
  `default_comes_back` shows the one permitted difference (an absent
  optional field with an IDL default comes back holding the default).
  `gen_roundtrip_compact` is the same statement for the compact protocol, from every reader state without a
  deferred bool and with that state restored.
  The emitted encoder is `TVal.ops` of the decoded value (the field order and the per-type calls of
  `codegen_encode_fields` are checked against the real emitted code by T1 on every run).
-/
namespace Pilota.Props.C02
open Pilota Pilota.Thrift Pilota.TGen

/-- `v` is a value of the emitted type `ty` as the emitted encoder writes it: the decoder's own
projection maps it to itself (with recursion budget `f`). -/
def Canon (d : Doc) (dp : Option Nat) (f : Nat) (ty : STy) (v : TVal) : Prop := projTy d dp f ty v = some (.ok v)

/-- **Round trip of emitted types, binary family.**  `hf`: the budget the projection needed is within the
budget of the `decode` entry point (3 · input length + 8) — one unit per value node and per typedef link,
while every node occupies at least one input byte. -/
theorem gen_roundtrip_binary (e : Endian) (dp : Option Nat) (d : Doc) (n : String) (v : TVal) (rest : Bytes) (f : Nat)
    (hed : EndianOk e dp) (hw : v.wt = true) (hc : Canon d dp f (.ref n) v) (hf : f ≤ 3 * (Binary.run e v.ops ++ rest).length + 8) :
    decode (binRd e dp) d n (Binary.run e v.ops ++ rest) = .ok (v, rest) := by
  unfold decode
  have hrem : (binRd e dp).remaining (Binary.run e v.ops ++ rest) = (Binary.run e v.ops ++ rest).length := rfl
  rw [hrem]
  have := (corr_all e dp d hed _).1 (.ref n) v rest (.ok v) hw (projTy_mono d dp f _ hf _ v v hc)
  rw [Binary.run_ops] at this ⊢
  exact this

/-- **Round trip of emitted types, compact protocol.** -/
theorem gen_roundtrip_compact (d : Doc) (n : String) (v : TVal) (cr : Compact.CR) (rest : Bytes) (f : Nat)
    (hcr : cr.pendingBool = none) (hw : v.wt = true) (hc : Canon d dpC f (.ref n) v)
    (hf : f ≤ 3 * (Compact.enc v ++ rest).length + 8) :
    decode cmpRd d n (cr, Compact.enc v ++ rest) = .ok (v, (cr, rest)) := by
  unfold decode
  have hrem : cmpRd.remaining (cr, Compact.enc v ++ rest) = (Compact.enc v ++ rest).length := rfl
  rw [hrem]
  exact corrC d _ (.ref n) v cr rest (.ok v) hw hcr (projTy_mono d dpC f _ hf _ v v hc)

def demoDoc : Doc := [("S", .struct [{ id := 1, ty := .i32, required := true },
  { id := 2, ty := .list (.ref "S"), required := false }, { id := 3, ty := .bool, required := false, dflt := some (.bool true) }])]
def demoVal : TVal := .struct (.cons 1 (.i32 5) (.cons 2 (.list .struct (.cons (.struct (.cons 1 (.i32 6) (.cons 3 (.bool false) .nil))) .nil)) (.cons 3 (.bool true) .nil)))
example : demoVal.wt = true ∧ Canon demoDoc (some 64) 12 (.ref "S") demoVal := ⟨by decide, by unfold Canon; decide⟩
example : Canon demoDoc dpC 12 (.ref "S") demoVal ∧ (12 : Nat) ≤ 3 * (Compact.enc demoVal ++ []).length + 8 := ⟨by unfold Canon; decide, by decide +kernel⟩
/-- the permitted difference: the absent optional field 3 comes back holding its IDL default -/
theorem default_comes_back :
    projTy demoDoc (some 64) 9 (.ref "S") (.struct (.cons 1 (.i32 5) .nil)) = some (.ok (.struct (.cons 1 (.i32 5) (.cons 3 (.bool true) .nil)))) := by decide

/-- base schema types and the wire values that inhabit them -/
def baseOf : TVal → Option STy
  | .bool _ => some .bool | .i8 _ => some .i8 | .i16 _ => some .i16 | .i32 _ => some .i32 | .i64 _ => some .i64
  | .dbl _ => some .double | .bin _ => some .binary | .uuid _ => some .uuid
  | _ => none

theorem isBase_of_baseOf {v : TVal} {ty : STy} (h : baseOf v = some ty) : isBase ty v = true := by
  cases v <;> cases h <;> rfl

/-- the leaf case of the round trip at every fuel from 1 on, for a value of a base type alone (`partial`: no document, struct or
container is involved; the full statement is `gen_roundtrip_binary`) -/
theorem base_roundtrip_binary_partial (e : Endian) (dp : Option Nat) (d : Doc) (v : TVal) (ty : STy)
    (hb : baseOf v = some ty) (hw : v.wt = true) (f : Nat) (rest : Bytes) :
    decTy (binRd e dp) d (f + 1) ty (Binary.enc e v ++ rest) = .ok (v, rest) :=
  base_dec e dp d (isBase_of_baseOf hb) hw f rest

/-- the same leaf case for the compact protocol (the full statement is `gen_roundtrip_compact`) -/
theorem base_roundtrip_compact_partial (d : Doc) (v : TVal) (ty : STy)
    (hb : baseOf v = some ty) (hw : v.wt = true) (f : Nat) (cr : Compact.CR) (hp : cr.pendingBool = none) (rest : Bytes) :
    decTy cmpRd d (f + 1) ty (cr, Compact.enc v ++ rest) = .ok (v, (cr, rest)) :=
  cbase_dec d (isBase_of_baseOf hb) hw f cr hp rest

/-- the loop step for a field the reader declares with the wire type that arrived: it is decoded by
its declared type and stored under its id (replacing an earlier occurrence), then the loop goes on. -/
theorem known_field_decoded {σ : Type} (R : Rd σ) (d : Doc) (f : Nat) (fs : List Field) (slots : List (Int × TVal))
    (s s1 : σ) (t : TType) (id : Int) (fl : Field)
    (hb : R.fieldBegin s = .ok ((t, id), s1)) (ht : t ≠ .stop)
    (hk : fs.find? (fun x => x.id == id && d.ttype x.ty == t) = some fl) :
    decFields R d (f + 1) fs slots s =
      (match decTy R d f fl.ty s1 with
       | .ok (v, s2) => decFields R d f fs (slotSet slots id v) s2
       | .err k => .err k | .panic m => .panic m | .fuel => .fuel) := by
  rw [decFields, hb]
  simp only [ht, if_false, hk]
  rfl

/-- a later occurrence of a field replaces the earlier one -/
theorem slot_last_wins (slots : List (Int × TVal)) (id : Int) (v w : TVal) :
    slotGet (slotSet (slotSet slots id v) id w) id = some w := by
  simp [slotGet, slotSet, List.find?_append, List.filter_append]
  induction slots with
  | nil => rfl
  | cons a as ih => simpa using ih

example : baseOf (.i32 (-7)) = some .i32 ∧ (TVal.i32 (-7)).wt = true := ⟨rfl, by decide⟩
example : (decTy (binRd .le (some 64)) [] 1 .i32 (Binary.enc .le (.i32 (-7)) ++ [9])).isOk = true := by decide

end Pilota.Props.C02
