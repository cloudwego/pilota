import PilotaModel.Lemmas.PbInterleave
import PilotaModel.Lemmas.PbUnknown
import PilotaModel.Props.C05
/-
  C18 — protobuf merge semantics: concatenation, last-wins, unknown fields ignored.
  `mergeVal` (Proto/Merge.lean) is the specification: singular scalars take the later value,
  repeated fields append, map entries are inserted (a later equal key replaces the value), a later
  oneof member replaces (the same message member merges), embedded messages merge field-wise.
-/
namespace Pilota.Props.C18
open Pilota Pilota.Proto

/-- decoding `a ++ b`, where `a` on its own parses as whole records, is decoding `a` and then
decoding `b` into the result — from any starting value, for any schema, any budget. -/
theorem merge_concat (s : Schema) (ctx i : Nat) (m : Slots) (a b : Bytes) (ha : (decodeIntoCtx s ctx i m a).isOk = true) :
    decodeIntoCtx s ctx i m (a ++ b) = (decodeIntoCtx s ctx i m a >>= fun m' => decodeIntoCtx s ctx i m' b) := by
  obtain ⟨m', _, h⟩ := decodeIntoCtx_ok s ctx i m a ha
  rw [decodeIntoCtx_concat s ctx i m m' a b h, h]
  rfl

/-- `Message::merge` of the encoding of `y` into any value `x` of the struct is `mergeVal x y`. -/
theorem merge_is_mergeVal (s : Schema) (hs : WFSchema s = true) (flag : Bool) (i : Nat) (x y : Slots)
    (hy : HasType s flag i y) (hx : shapeSlots s (decls s i) x = true) :
    decodeInto s i x (encode s flag i y) = .ok (mergeVal s i x y) :=
  decodeInto_encode s flag hs i x y hy hx

/-- **decoding the concatenation of two encodings = merging the second value into the first.** -/
theorem decode_concat (s : Schema) (hs : WFSchema s = true) (flag : Bool) (i : Nat) (x y : Slots)
    (hx : HasType s flag i x) (hy : HasType s flag i y) :
    decode s i (encode s flag i x ++ encode s flag i y) = .ok (mergeVal s i x y) :=
  decode_concat_encode s flag hs i x y hx hy

/-- the clauses of the merge specification, as equations of `mergeVal` on one field. -/
theorem merge_rules (s : Schema) (t : Nat) (c : Codec) (x y : SVal) (xs ys : EVals) (kc : Codec) (vty : FTy) (kx ky : Pairs)
    (k : SVal) (v : EVal) :
    mergeValSlot s (.single t (.scalar c) false) (.req (.s x)) (.req (.s y)) = .req (.s y) ∧          -- last wins
    mergeValSlot s (.single t (.scalar c) true) (.some (.s x)) .none = .some (.s x) ∧                 -- absent: unchanged
    mergeValSlot s (.rep t (.scalar c)) (.rep xs) (.rep ys) = .rep (xs.append ys) ∧                   -- append, in order
    mergeValSlot s (.map t kc vty) (.map kx) (.map ky) = .map (insertAll kx ky) ∧                     -- insert each entry
    (Pairs.cons k v .nil).insert k (.s y) = .cons k (.s y) .nil ∧                                      -- equal key: replaced
    mergeValSlot s (.oneof [(1, .scalar c), (2, .scalar c)]) (.one 1 (.s x)) (.one 2 (.s y)) = .one 2 (.s y) := by  -- oneof: replaced
  refine ⟨rfl, rfl, rfl, rfl, ?_, ?_⟩
  · simp [Pairs.insert]
  · simp [mergeValSlot, lookupVariant, mergeValE]

/-- **unknown fields are ignored**: inserting (or deleting) a record whose field number the
struct does not declare — any wire type, groups included, as long as `skip_field` accepts the
record on its own within the budget — between two records leaves the result unchanged.
Stated for the record loop with a `limit` (what follows the enclosing length-delimited region):
`limit = 0` is the top level, any other value is a nested message or a map entry. -/
theorem unknown_ignored (s : Schema) (ctx : Nat) (ds : List FieldDecl) (m m' : Slots) (a b : Bytes) (tag : Nat)
    (wt : WireType) (payload : Bytes) (hal : m.length = ds.length) (hund : ∀ d ∈ ds, d.tags.contains tag = false)
    (h1 : minTag ≤ tag) (h2 : tag ≤ maxTag) (hsk : skipField ctx wt tag payload = .ok [])
    (fa : Nat) (ha : mergeLoopGo (fieldStep (mergeField s ctx) ds) fa m a 0 = .ok (m', []))
    (limit : Nat) (hl : limit ≤ b.length) (f : Nat) (hf : (a ++ (keyBytes tag wt ++ (payload ++ b))).length < f) :
    mergeLoopGo (fieldStep (mergeField s ctx) ds) f m (a ++ (keyBytes tag wt ++ (payload ++ b))) limit
      = mergeLoopGo (fieldStep (mergeField s ctx) ds) f m (a ++ b) limit :=
  unknown_ignored_loop s ctx ds m m' a b tag wt payload hal hund h1 h2 hsk fa ha limit hl f hf

/-- `unknown_ignored` at top level, in terms of `Message::merge`. -/
theorem unknown_ignored_top (s : Schema) (i : Nat) (m : Slots) (a b : Bytes) (tag : Nat) (wt : WireType) (payload : Bytes)
    (hal : m.length = (decls s i).length) (hund : ∀ d ∈ decls s i, d.tags.contains tag = false)
    (h1 : minTag ≤ tag) (h2 : tag ≤ maxTag) (hsk : skipField recursionLimit wt tag payload = .ok [])
    (ha : (decodeInto s i m a).isOk = true) :
    decodeInto s i m (a ++ (keyBytes tag wt ++ (payload ++ b))) = decodeInto s i m (a ++ b) := by
  obtain ⟨m', hl, _⟩ := decodeIntoCtx_ok s recursionLimit i m a ha
  have hkp := keyBytes_pos tag wt
  unfold decodeInto decodeIntoCtx
  rw [unknown_ignored_loop s recursionLimit (decls s i) m m' a b tag wt payload hal hund h1 h2 hsk _ hl 0 (Nat.zero_le _) _ (Nat.lt_succ_self _),
    mergeLoopGo_fuel_indep _ (mergeFieldStep_ok s _ _) 0 _ ((a ++ b).length + 1) m (a ++ b)
      (by simp only [List.length_append]; omega) (Nat.lt_succ_self _)]

/-- **interleave**: every interleaving of the records of `encode x` and `encode y` in which each struct
field's records keep their order (picked out by field number(s) — a oneof counts as one field — they
are x's records followed by y's) decodes to `mergeVal x y`.  `Interleaved` says exactly that;
`recsSlot` are the records pilota's encoder writes for a field. -/
theorem interleave (s : Schema) (hs : WFSchema s = true) (flag : Bool) (i : Nat) (x y : Slots) (rs : List Spec.Rec)
    (hx : HasType s flag i x) (hy : HasType s flag i y) (hi : Interleaved s flag (decls s i) x y rs) :
    decode s i (Spec.flat rs) = .ok (mergeVal s i x y) :=
  decode_interleaved s flag hs i x y rs hx hy hi

/-- the plain concatenation `encode x ++ encode y` is one of the interleavings of `interleave` (so `decode_concat`
is an instance), and its bytes are the concatenated records. -/
theorem concat_is_interleaving (s : Schema) (hs : WFSchema s = true) (flag : Bool) (i : Nat) (x y : Slots)
    (hx : HasType s flag i x) (hy : HasType s flag i y) :
    Interleaved s flag (decls s i) x y (recsSlots s flag (decls s i) x ++ recsSlots s flag (decls s i) y) ∧
    Spec.flat (recsSlots s flag (decls s i) x ++ recsSlots s flag (decls s i) y) = encode s flag i x ++ encode s flag i y := by
  refine ⟨concat_interleaved s flag (decls s i) x y (decls_wf s hs i).2 (okSlots_shape s flag _ x hx.1) (okSlots_shape s flag _ y hy.1), ?_⟩
  rw [flat_append, flat_recsSlots s flag hs _ x hx.1, flat_recsSlots s flag hs _ y hy.1]
  rfl

/-! non-vacuity: unknown records of every wire type, a group with a nested group and a varint. -/
example : skipField recursionLimit .varint 9 [0x96, 0x01] = .ok [] := by rfl
example : skipField recursionLimit .i64 9 [1, 2, 3, 4, 5, 6, 7, 8] = .ok [] := by rfl
example : skipField recursionLimit .len 9 [0x02, 0xaa, 0xbb] = .ok [] := by rfl
example : skipField recursionLimit .i32 9 [1, 2, 3, 4] = .ok [] := by rfl
example : skipField recursionLimit .sgroup 9 [0x53, 0x08, 0x01, 0x54, 0x4c] = .ok [] := by rfl
example : HasType Props.C05.demoSchema false 0 Props.C05.demoMsg := by decide
example : WFSchema Props.C05.demoSchema = true := by decide
-- `Interleaved` is inhabited by the concatenation of a value's records with themselves
example : Interleaved Props.C05.demoSchema false (decls Props.C05.demoSchema 0) Props.C05.demoMsg Props.C05.demoMsg
    (recsSlots Props.C05.demoSchema false (decls Props.C05.demoSchema 0) Props.C05.demoMsg ++
     recsSlots Props.C05.demoSchema false (decls Props.C05.demoSchema 0) Props.C05.demoMsg) :=
  (concat_is_interleaving _ (by decide) false 0 _ _ (by decide) (by decide)).1

end Pilota.Props.C18
