import PilotaModel.Thrift.Binary
import PilotaModel.Thrift.Compact
/-
  Asynchronous decoding (`TAsyncBinaryProtocol` in binary.rs / binary_le.rs,
  `TAsyncCompactProtocol` in compact.rs, the async skipper in thrift/mod.rs).

  A byte stream is a list of poll outcomes (`Event`): `pending`, or a ready poll that
  delivers a non-empty chunk.  tokio's `read_exact(n)`, `read_u8`, `read_i8`,
  `read_iNN[_le]`, `read_f64[_le]` are all the loop "poll until n bytes are gathered;
  end of stream before that is `UnexpectedEof`" (`readExact`); a ready poll copies at most
  the bytes still wanted and leaves the rest of the chunk for the next poll.  pilota's
  `read_exact_to_vec` (rw_ext.rs: `take(len).read_to_end`) is modelled separately
  (`readExactToVec`) and proved equal to `readExact`.

  An `async fn` of the protocols is a resumable program whose only interaction with the reader
  is such a pull: `Prog`.  `runS` runs a program on a stream (what the executor does),
  `runF` on a flat byte string.  The async readers below are separate definitions from their
  in-memory twins in Binary.lean / Compact.lean, as the Rust is.
-/
namespace Pilota.Thrift.Async
open Pilota Pilota.Thrift

inductive Event where
  | pending
  | data (b : UInt8) (bs : Bytes)        -- ready: the chunk `b :: bs` is available
  deriving Repr, Inhabited

abbrev Stream := List Event

def flat : Stream → Bytes
  | [] => []
  | .pending :: s => flat s
  | .data b bs :: s => b :: bs ++ flat s

/-- the unread tail of a chunk stays at the head of the stream. -/
def pushBack (bs : Bytes) (s : Stream) : Stream :=
  match bs with
  | [] => s
  | b :: r => .data b r :: s

/-- gather exactly `n` bytes: `read_exact`, `read_u8`, `read_iNN[_le]`, `read_f64[_le]`.
With `n = 0` the reader is not polled. -/
def readExact : Nat → Stream → Out (Bytes × Stream)
  | 0, s => .ok ([], s)
  | _+1, [] => .err .eof
  | n+1, .pending :: s => readExact (n+1) s
  | n+1, .data b bs :: s =>
    if bs.length + 1 ≤ n + 1 then
      match readExact (n - bs.length) s with
      | .ok (a, s') => .ok (b :: bs ++ a, s')
      | .err k => .err k | .panic m => .panic m | .fuel => .fuel
    else .ok ((b :: bs).take (n+1), pushBack ((b :: bs).drop (n+1)) s)

/-- `reader.take(limit).read_to_end(&mut v)`: reads until the limit is used up or the stream ends;
never fails, never asks the reader for more than the remaining limit. -/
def takeReadToEnd : Nat → Stream → Bytes × Stream
  | 0, s => ([], s)
  | _+1, [] => ([], [])
  | n+1, .pending :: s => takeReadToEnd (n+1) s
  | n+1, .data b bs :: s =>
    if bs.length + 1 ≤ n + 1 then
      let (a, s') := takeReadToEnd (n - bs.length) s
      (b :: bs ++ a, s')
    else ((b :: bs).take (n+1), pushBack ((b :: bs).drop (n+1)) s)

/-- rw_ext.rs `read_exact_to_vec`: `n != len` → `UnexpectedEof`. -/
def readExactToVec (n : Nat) (s : Stream) : Out (Bytes × Stream) :=
  let (v, s') := takeReadToEnd n s
  if v.length = n then .ok (v, s') else .err .eof

/-! ### resumable programs -/

inductive Prog (α : Type) where
  | ret (a : α)
  | fail (k : ErrKind)
  | need (n : Nat) (k : Bytes → Prog α)       -- `.await` on a pull of `n` bytes
  | fuelOut                                    -- the model's own recursion budget ran out

namespace Prog
def bind {α β} : Prog α → (α → Prog β) → Prog β
  | .ret a, f => f a
  | .fail k, _ => .fail k
  | .need n k, f => .need n (fun b => bind (k b) f)
  | .fuelOut, _ => .fuelOut
end Prog

/-- run on a stream: what polling the future to completion does. -/
def runS {α} : Prog α → Stream → Out (α × Stream)
  | .ret a, s => .ok (a, s)
  | .fail k, _ => .err k
  | .need n k, s => match readExact n s with
    | .ok (b, s') => runS (k b) s'
    | .err e => .err e | .panic m => .panic m | .fuel => .fuel
  | .fuelOut, _ => .fuel

/-- run on a flat byte string. -/
def runF {α} : Prog α → Bytes → Out (α × Bytes)
  | .ret a, bs => .ok (a, bs)
  | .fail k, _ => .err k
  | .need n k, bs => match Binary.takeN n bs with
    | .ok (b, r) => runF (k b) r
    | .err e => .err e | .panic m => .panic m | .fuel => .fuel
  | .fuelOut, _ => .fuel

/-- forget the chunking of what is left. -/
def flatOut {α} : Out (α × Stream) → Out (α × Bytes)
  | .ok (a, s) => .ok (a, flat s)
  | .err k => .err k | .panic m => .panic m | .fuel => .fuel

/-- forget which error. -/
def eraseKind {α} : Out α → Out α
  | .err _ => .err .other
  | o => o

/-! ### `TAsyncBinaryProtocol` (binary.rs: `.be`; binary_le.rs: `.le`) -/
namespace ABin

def readU (e : Endian) (w : Nat) : Prog Nat := .need w (fun b => .ret (decFixed e b))
def readI (e : Endian) (w : Nat) : Prog Int := .need w (fun b => .ret (toS w (decFixed e b)))
/-- `read_byte` = `read_u8`. -/
def readByte : Prog Nat := .need 1 (fun b => .ret (decFixed .be b))

def readTType : Prog TType :=
  readByte.bind fun b => match TType.ofByte b with
    | some t => .ret t
    | none => .fail .invalid

/-- `read_bytes_vec` / `read_bytes` / `read_string` / `read_faststr`: i32 length; negative →
`NegativeSize`; else `read_exact_to_vec(len)`. -/
def readBytes (e : Endian) : Prog Bytes :=
  (readI e 4).bind fun len =>
    if len < 0 then .fail .other
    else .need len.toNat (fun b => .ret b)

def readFieldBegin (e : Endian) : Prog (TType × Int) :=
  readTType.bind fun t =>
    if t = .stop then .ret (t, 0)
    else (readI e 2).bind fun id => .ret (t, id)

def readListBegin (e : Endian) : Prog (TType × Nat) :=
  readTType.bind fun t => (readI e 4).bind fun n => .ret (t, Binary.asUsize n)

def readMapBegin (e : Endian) : Prog (TType × TType × Nat) :=
  readTType.bind fun kt => readTType.bind fun vt => (readI e 4).bind fun n => .ret (kt, vt, Binary.asUsize n)

/-- `VERSION_1` (binary.rs) / `VERSION_LE` (binary_le.rs). -/
def version : Endian → Nat
  | .be => 0x80010000
  | .le => 0x88880000

/-- `read_message_begin` (strict only). -/
def readMessageBegin (e : Endian) : Prog (Bytes × Nat × Int) :=
  (readI e 4).bind fun size =>
    if size > 0 then .fail .badVersion
    else
      let u := toU 4 size
      let ty := u % 16
      if ty < 1 ∨ 4 < ty then .fail .invalid
      else if u / 65536 * 65536 ≠ version e then .fail .badVersion
      else (readBytes e).bind fun name => (readI e 4).bind fun seq => .ret (name, ty, seq)

-- the dynamic reading interpreter over `TAsyncInputProtocol`
mutual
def readVal (e : Endian) : Nat → TType → Prog TVal
  | 0, _ => .fuelOut
  | _+1, .bool => (readI e 1).bind fun n => .ret (.bool (n != 0))
  | _+1, .i8 => (readI e 1).bind fun n => .ret (.i8 n)
  | _+1, .i16 => (readI e 2).bind fun n => .ret (.i16 n)
  | _+1, .i32 => (readI e 4).bind fun n => .ret (.i32 n)
  | _+1, .i64 => (readI e 8).bind fun n => .ret (.i64 n)
  | _+1, .double => (readU e 8).bind fun n => .ret (.dbl n)       -- read_f64 / read_f64_le
  | _+1, .binary => (readBytes e).bind fun b => .ret (.bin b)
  | _+1, .uuid => .need 16 (fun b => .ret (.uuid b))
  | f+1, .struct => (readFields e f).bind fun fs => .ret (.struct fs)
  | f+1, .list => (readListBegin e).bind fun (et, n) => (readN e f et n).bind fun xs => .ret (.list et xs)
  | f+1, .set => (readListBegin e).bind fun (et, n) => (readN e f et n).bind fun xs => .ret (.set et xs)
  | f+1, .map => (readMapBegin e).bind fun (kt, vt, n) => (readPairs e f kt vt n).bind fun kvs => .ret (.map kt vt kvs)
  | _+1, .stop => .fail .invalid
  | _+1, .void => .fail .invalid
def readFields (e : Endian) : Nat → Prog TFields
  | 0 => .fuelOut
  | f+1 => (readFieldBegin e).bind fun (t, id) =>
    if t = .stop then .ret .nil
    else (readVal e f t).bind fun v => (readFields e f).bind fun rest => .ret (.cons id v rest)
def readN (e : Endian) : Nat → TType → Nat → Prog TVals
  | 0, _, _ => .fuelOut
  | _+1, _, 0 => .ret .nil
  | f+1, et, n+1 => (readVal e f et).bind fun v => (readN e f et n).bind fun vs => .ret (.cons v vs)
def readPairs (e : Endian) : Nat → TType → TType → Nat → Prog TPairs
  | 0, _, _, _ => .fuelOut
  | _+1, _, _, 0 => .ret .nil
  | f+1, kt, vt, n+1 => (readVal e f kt).bind fun k => (readVal e f vt).bind fun v =>
      (readPairs e f kt vt n).bind fun rest => .ret (.cons k v rest)
end

-- the async skipper (`TAsyncInputProtocol::skip_till_depth`, thrift/mod.rs) over this protocol
mutual
def skip (e : Endian) : Nat → Nat → TType → Prog Unit
  | 0, _, _ => .fuelOut
  | _+1, 0, _ => .fail .depth
  | _+1, _+1, .bool => (readI e 1).bind fun _ => .ret ()
  | _+1, _+1, .i8 => (readI e 1).bind fun _ => .ret ()
  | _+1, _+1, .i16 => (readI e 2).bind fun _ => .ret ()
  | _+1, _+1, .i32 => (readI e 4).bind fun _ => .ret ()
  | _+1, _+1, .i64 => (readI e 8).bind fun _ => .ret ()
  | _+1, _+1, .double => (readU e 8).bind fun _ => .ret ()
  | _+1, _+1, .binary => (readBytes e).bind fun _ => .ret ()      -- read_string
  | _+1, _+1, .uuid => .need 16 (fun _ => .ret ())
  | f+1, d+1, .struct => skipFields e f d
  | f+1, d+1, .list => (readListBegin e).bind fun (et, n) => skipN e f d et n
  | f+1, d+1, .set => (readListBegin e).bind fun (et, n) => skipN e f d et n
  | f+1, d+1, .map => (readMapBegin e).bind fun (kt, vt, n) => skipPairs e f d kt vt n
  | _+1, _+1, .stop => .fail .depth
  | _+1, _+1, .void => .fail .depth
def skipFields (e : Endian) : Nat → Nat → Prog Unit
  | 0, _ => .fuelOut
  | f+1, d => (readFieldBegin e).bind fun (t, _) =>
    if t = .stop then .ret ()
    else (skip e f d t).bind fun _ => skipFields e f d
def skipN (e : Endian) : Nat → Nat → TType → Nat → Prog Unit
  | 0, _, _, _ => .fuelOut
  | _+1, _, _, 0 => .ret ()
  | f+1, d, et, n+1 => (skip e f d et).bind fun _ => skipN e f d et n
def skipPairs (e : Endian) : Nat → Nat → TType → TType → Nat → Prog Unit
  | 0, _, _, _, _ => .fuelOut
  | _+1, _, _, _, 0 => .ret ()
  | f+1, d, kt, vt, n+1 => (skip e f d kt).bind fun _ => (skip e f d vt).bind fun _ => skipPairs e f d kt vt n
end

end ABin

/-! ### `TAsyncCompactProtocol` (compact.rs) -/
namespace ACmp
open Compact

def readByte : Prog Nat := ABin.readByte

/-- `read_varint_async`: `read_u8` until a byte has its MSB clear; `push` refuses the byte once
`maxsize` bytes are held. -/
def gatherVar : Nat → Prog Bytes
  | 0 => .need 1 (fun _ => .fail .invalid)
  | m+1 => .need 1 (fun b =>
      if (b.headD 0).toNat < 128 then .ret b
      else (gatherVar m).bind fun g => .ret (b ++ g))

def readVarU (w : Nat) : Prog Nat :=
  (gatherVar (varMaxSize w)).bind fun g => .ret (varValue g % 2 ^ 64 % 256 ^ w)

def readVarS (w : Nat) : Prog Int :=
  (gatherVar (varMaxSize w)).bind fun g => .ret (toS w (toU w (unzigzag (varValue g % 2 ^ 64))))

def readFieldBegin (s : CR) : Prog ((TType × Int) × CR) :=
  readByte.bind fun (b : Nat) =>
    let delta : Nat := b / 16
    let low : Nat := b % 16
    let s := if low = 1 then { s with pendingBool := some true }
             else if low = 2 then { s with pendingBool := some false } else s
    match ttypeOfCompact low with
    | none => .fail .invalid
    | some .stop => .ret ((.stop, 0), s)
    | some t =>
      if delta ≠ 0 then
        let id := s.last + delta
        if id ≤ 32767 then .ret ((t, id), { s with last := id })
        else .fail .invalid
      else (readVarS 2).bind fun id => .ret ((t, id), { s with last := id })

def readBool (s : CR) : Prog (Bool × CR) :=
  match s.pendingBool with
  | some b => .ret (b, { s with pendingBool := none })
  | none => readByte.bind fun (b : Nat) =>
      if b = 1 then .ret (true, s) else if b = 2 then .ret (false, s) else .fail .invalid

def readSize : Prog Nat := (readVarU 4).bind fun n => .ret (Binary.asUsize (toS 4 n))

/-- `read_bytes_vec`: u32 varint, `read_exact_to_vec`. -/
def readBytes : Prog Bytes := (readVarU 4).bind fun n => .need n (fun b => .ret b)

def readCollBegin : Prog (TType × Nat) :=
  readByte.bind fun (h : Nat) =>
    match ttypeOfCompact (h % 16) with
    | none => .fail .invalid
    | some et =>
      if h / 16 ≠ 15 then .ret (et, h / 16)
      else readSize.bind fun n => .ret (et, n)

def readMapBegin : Prog (TType × TType × Nat) :=
  (readVarU 4).bind fun n =>
    if toS 4 n = 0 then .ret (.stop, .stop, 0)
    else readByte.bind fun (h : Nat) =>
      match ttypeOfCompact (h / 16), ttypeOfCompact (h % 16) with
      | some kt, some vt => .ret (kt, vt, Binary.asUsize (toS 4 n))
      | _, _ => .fail .invalid

def readStructEnd (s : CR) : Prog CR :=
  match s.stack with
  | [] => .fail .invalid
  | l :: st => .ret { s with last := l, stack := st }

def readMessageBegin : Prog (Bytes × Nat × Int) :=
  readByte.bind fun (pid : Nat) =>
    if pid ≠ 0x82 then .fail .badVersion
    else readByte.bind fun (tv : Nat) =>
      if tv % 32 ≠ 1 then .fail .badVersion
      else if tv / 32 < 1 ∨ 4 < tv / 32 then .fail .invalid
      else (readVarU 4).bind fun sq => readBytes.bind fun name => .ret (name, tv / 32, toS 4 sq)

mutual
def readVal : Nat → TType → CR → Prog (TVal × CR)
  | 0, _, _ => .fuelOut
  | _+1, .bool, s => (readBool s).bind fun (b, s) => .ret (.bool b, s)
  | _+1, .i8, s => (ABin.readI .be 1).bind fun n => .ret (.i8 n, s)
  | _+1, .i16, s => (readVarS 2).bind fun n => .ret (.i16 n, s)
  | _+1, .i32, s => (readVarS 4).bind fun n => .ret (.i32 n, s)
  | _+1, .i64, s => (readVarS 8).bind fun n => .ret (.i64 n, s)
  | _+1, .double, s => (ABin.readU .le 8).bind fun n => .ret (.dbl n, s)      -- read_f64_le
  | _+1, .binary, s => readBytes.bind fun b => .ret (.bin b, s)
  | _+1, .uuid, s => .need 16 (fun b => .ret (.uuid b, s))
  | f+1, .struct, s => (readFields f (readStructBegin s)).bind fun (fs, s) =>
      (readStructEnd s).bind fun s => .ret (.struct fs, s)
  | f+1, .list, s => readCollBegin.bind fun (et, n) => (readN f et n s).bind fun (xs, s) => .ret (.list et xs, s)
  | f+1, .set, s => readCollBegin.bind fun (et, n) => (readN f et n s).bind fun (xs, s) => .ret (.set et xs, s)
  | f+1, .map, s => readMapBegin.bind fun (kt, vt, n) => (readPairs f kt vt n s).bind fun (kvs, s) => .ret (.map kt vt kvs, s)
  | _+1, .stop, _ => .fail .invalid
  | _+1, .void, _ => .fail .invalid
def readFields : Nat → CR → Prog (TFields × CR)
  | 0, _ => .fuelOut
  | f+1, s => (readFieldBegin s).bind fun ((t, id), s) =>
    if t = .stop then .ret (.nil, s)
    else (readVal f t s).bind fun (v, s) => (readFields f s).bind fun (rest, s) => .ret (.cons id v rest, s)
def readN : Nat → TType → Nat → CR → Prog (TVals × CR)
  | 0, _, _, _ => .fuelOut
  | _+1, _, 0, s => .ret (.nil, s)
  | f+1, et, n+1, s => (readVal f et s).bind fun (v, s) => (readN f et n s).bind fun (vs, s) => .ret (.cons v vs, s)
def readPairs : Nat → TType → TType → Nat → CR → Prog (TPairs × CR)
  | 0, _, _, _, _ => .fuelOut
  | _+1, _, _, 0, s => .ret (.nil, s)
  | f+1, kt, vt, n+1, s => (readVal f kt s).bind fun (k, s) => (readVal f vt s).bind fun (v, s) =>
      (readPairs f kt vt n s).bind fun (rest, s) => .ret (.cons k v rest, s)
end

mutual
def skip : Nat → Nat → TType → CR → Prog CR
  | 0, _, _, _ => .fuelOut
  | _+1, 0, _, _ => .fail .depth
  | _+1, _+1, .bool, s => (readBool s).bind fun (_, s) => .ret s
  | _+1, _+1, .i8, s => (ABin.readI .be 1).bind fun _ => .ret s
  | _+1, _+1, .i16, s => (readVarS 2).bind fun _ => .ret s
  | _+1, _+1, .i32, s => (readVarS 4).bind fun _ => .ret s
  | _+1, _+1, .i64, s => (readVarS 8).bind fun _ => .ret s
  | _+1, _+1, .double, s => (ABin.readU .le 8).bind fun _ => .ret s
  | _+1, _+1, .binary, s => readBytes.bind fun _ => .ret s
  | _+1, _+1, .uuid, s => .need 16 (fun _ => .ret s)
  | f+1, d+1, .struct, s => (skipFields f d (readStructBegin s)).bind fun s => readStructEnd s
  | f+1, d+1, .list, s => readCollBegin.bind fun (et, n) => skipN f d et n s
  | f+1, d+1, .set, s => readCollBegin.bind fun (et, n) => skipN f d et n s
  | f+1, d+1, .map, s => readMapBegin.bind fun (kt, vt, n) => skipPairs f d kt vt n s
  | _+1, _+1, .stop, _ => .fail .depth
  | _+1, _+1, .void, _ => .fail .depth
def skipFields : Nat → Nat → CR → Prog CR
  | 0, _, _ => .fuelOut
  | f+1, d, s => (readFieldBegin s).bind fun ((t, _), s) =>
    if t = .stop then .ret s
    else (skip f d t s).bind fun s => skipFields f d s
def skipN : Nat → Nat → TType → Nat → CR → Prog CR
  | 0, _, _, _, _ => .fuelOut
  | _+1, _, _, 0, s => .ret s
  | f+1, d, et, n+1, s => (skip f d et s).bind fun s => skipN f d et n s
def skipPairs : Nat → Nat → TType → TType → Nat → CR → Prog CR
  | 0, _, _, _, _, _ => .fuelOut
  | _+1, _, _, _, 0, s => .ret s
  | f+1, d, kt, vt, n+1, s => (skip f d kt s).bind fun s => (skip f d vt s).bind fun s => skipPairs f d kt vt n s
end

end ACmp

/-! ### top level: what the harness observes -/

inductive AProto where | bin (e : Endian) | cmp
  deriving DecidableEq, Repr

/-- the reader's budget: as the in-memory readers', from the bytes the stream holds. -/
def budget (s : Stream) : Nat := 3 * (flat s).length + 3

/-- value and number of bytes pulled from the reader. -/
def pulled {α} (s : Stream) : Out (α × Stream) → Out (α × Nat)
  | .ok (a, s') => .ok (a, (flat s).length - (flat s').length)
  | .err k => .err k | .panic m => .panic m | .fuel => .fuel

/-- decode one value of wire type `t` from a fresh protocol object over the stream. -/
def asyncRead (p : AProto) (t : TType) (s : Stream) : Out (TVal × Nat) :=
  match p with
  | .bin e => pulled s (runS (ABin.readVal e (budget s) t) s)
  | .cmp => pulled s (runS ((ACmp.readVal (budget s) t {}).bind fun (v, _) => .ret v) s)

/-- skip one value of wire type `t` with the async skipper, depth budget `d` (`skip` uses 64). -/
def asyncSkip (p : AProto) (d : Nat) (t : TType) (s : Stream) : Out (Unit × Nat) :=
  match p with
  | .bin e => pulled s (runS (ABin.skip e (budget s) d t) s)
  | .cmp => pulled s (runS ((ACmp.skip (budget s) d t {}).bind fun _ => .ret ()) s)

def pulledF {α} (bs : Bytes) : Out (α × Bytes) → Out (α × Nat)
  | .ok (a, r) => .ok (a, bs.length - r.length)
  | .err k => .err k | .panic m => .panic m | .fuel => .fuel

/-- `asyncRead` / `asyncSkip` on flat bytes (`Lemmas/AsyncFlat`: they coincide with the stream versions). -/
def asyncReadF (p : AProto) (t : TType) (bs : Bytes) : Out (TVal × Nat) :=
  match p with
  | .bin e => pulledF bs (runF (ABin.readVal e (3 * bs.length + 3) t) bs)
  | .cmp => pulledF bs (runF ((ACmp.readVal (3 * bs.length + 3) t {}).bind fun (v, _) => .ret v) bs)

def asyncSkipF (p : AProto) (d : Nat) (t : TType) (bs : Bytes) : Out (Unit × Nat) :=
  match p with
  | .bin e => pulledF bs (runF (ABin.skip e (3 * bs.length + 3) d t) bs)
  | .cmp => pulledF bs (runF ((ACmp.skip (3 * bs.length + 3) d t {}).bind fun _ => .ret ()) bs)

/-- the in-memory decoder on the same bytes. -/
def syncRead (p : AProto) (t : TType) (bs : Bytes) : Out (TVal × Bytes) :=
  match p with
  | .bin e => Binary.read e t bs
  | .cmp => match Compact.read t {} bs with
    | .ok (v, _, r) => .ok (v, r)
    | .err k => .err k | .panic m => .panic m | .fuel => .fuel

end Pilota.Thrift.Async
