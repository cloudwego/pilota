import PilotaModel.Base.Bytes
import PilotaModel.Thrift.Types
/-
  The binary protocol (thrift/binary.rs) and its little-endian twin
  (thrift/binary_le.rs), parametrised by `Endian`.
  Writer: stateless, one byte string per `TOutputProtocol` call (`wOp`).
  Reader: the `TInputProtocol` primitives with `rw_ext.rs`'s bounds checks, and
  the dynamic reading interpreter `readVal` (what a decoder does by wire type).
-/
namespace Pilota.Thrift.Binary
open Pilota Pilota.Thrift

def i (e : Endian) (w : Nat) (n : Int) : Bytes := encFixed e w (toU w n)

/-- bytes appended by one `TOutputProtocol` call on `TBinaryProtocol`. -/
def wOp (e : Endian) : Op → Bytes
  | .structBegin | .structEnd | .fieldEnd | .listEnd | .setEnd | .mapEnd | .msgEnd => []
  | .fieldBegin t id => UInt8.ofNat t.toByte :: i e 2 id
  | .fieldStop => [0]
  | .bool b => [if b then 1 else 0]
  | .i8 n => i e 1 n
  | .i16 n => i e 2 n
  | .i32 n => i e 4 n
  | .i64 n => i e 8 n
  | .dbl b => encFixed e 8 b
  | .bytes bs => i e 4 (toS 4 bs.length) ++ bs          -- `b.len() as i32`
  | .uuid bs => bs
  | .listBegin et n | .setBegin et n => UInt8.ofNat et.toByte :: i e 4 (toS 4 n)
  | .mapBegin kt vt n => UInt8.ofNat kt.toByte :: UInt8.ofNat vt.toByte :: i e 4 (toS 4 n)
  | .msgBegin name mt seq =>
      let ver : Nat := match e with | .be => 0x80010000 | .le => 0x88880000
      encFixed e 4 ((ver ||| mt) % 2 ^ 32) ++ (i e 4 (toS 4 name.length) ++ name) ++ i e 4 seq

def run (e : Endian) (ops : List Op) : Bytes := ops.flatMap (wOp e)

-- the bytes `ops v` produce, as a direct recursion (proved equal to `run e v.ops`: `Binary.run_ops` in Lemmas/OpsRun).
mutual
def enc (e : Endian) : TVal → Bytes
  | .bool b => [if b then 1 else 0]
  | .i8 n => i e 1 n | .i16 n => i e 2 n | .i32 n => i e 4 n | .i64 n => i e 8 n
  | .dbl b => encFixed e 8 b
  | .bin bs => i e 4 (toS 4 bs.length) ++ bs
  | .uuid bs => bs
  | .struct fs => encFields e fs
  | .list et xs => UInt8.ofNat et.toByte :: i e 4 (toS 4 xs.length) ++ encVals e xs
  | .set et xs => UInt8.ofNat et.toByte :: i e 4 (toS 4 xs.length) ++ encVals e xs
  | .map kt vt kvs => UInt8.ofNat kt.toByte :: UInt8.ofNat vt.toByte :: i e 4 (toS 4 kvs.length) ++ encPairs e kvs
def encVals (e : Endian) : TVals → Bytes
  | .nil => []
  | .cons v vs => enc e v ++ encVals e vs
def encFields (e : Endian) : TFields → Bytes
  | .nil => [0]
  | .cons id v r => UInt8.ofNat v.ttype.toByte :: i e 2 id ++ (enc e v ++ encFields e r)
def encPairs (e : Endian) : TPairs → Bytes
  | .nil => []
  | .cons k v r => enc e k ++ (enc e v ++ encPairs e r)
end

/-! ### Reader primitives -/

/-- `Bytes::split_to(n)`: panics when `n > len`. -/
def splitTo (n : Nat) (bs : Bytes) : Out (Bytes × Bytes) :=
  if n ≤ bs.length then .ok (bs.take n, bs.drop n) else .panic "split_to out of bounds"

/-- `ReadExt` read of `n` bytes: `NoRemaining` error when short. -/
def takeN (n : Nat) (bs : Bytes) : Out (Bytes × Bytes) :=
  if n ≤ bs.length then .ok (bs.take n, bs.drop n) else .err .eof

def readU (e : Endian) (w : Nat) (bs : Bytes) : Out (Nat × Bytes) :=
  match takeN w bs with
  | .ok (a, r) => .ok (decFixed e a, r)
  | .err k => .err k | .panic s => .panic s | .fuel => .fuel

def readI (e : Endian) (w : Nat) (bs : Bytes) : Out (Int × Bytes) :=
  match readU e w bs with
  | .ok (n, r) => .ok (toS w n, r)
  | .err k => .err k | .panic s => .panic s | .fuel => .fuel

def readByte (bs : Bytes) : Out (Nat × Bytes) :=
  match bs with
  | [] => .err .eof
  | b :: r => .ok (b.toNat, r)

def readTType (bs : Bytes) : Out (TType × Bytes) :=
  match readByte bs with
  | .ok (b, r) => match TType.ofByte b with
    | some t => .ok (t, r)
    | none => .err .invalid
  | .err k => .err k | .panic s => .panic s | .fuel => .fuel

/-- `len as usize` of an `i32` on a 64-bit target. -/
def asUsize (n : Int) : Nat := toU 8 n

/-- `read_bytes` / `read_faststr` / `read_bytes_vec` / `read_string` payload:
i32 length, then `read_to_bytes(len as usize)` (bounds-checked), then `split_to`. -/
def readBytes (e : Endian) (bs : Bytes) : Out (Bytes × Bytes) :=
  match readI e 4 bs with
  | .ok (len, r) =>
    let n := asUsize len
    if n ≤ r.length then splitTo n r else .err .eof
  | .err k => .err k | .panic s => .panic s | .fuel => .fuel

/-- `read_field_begin`: type byte, then the id unless the type is `Stop`. -/
def readFieldBegin (e : Endian) (bs : Bytes) : Out ((TType × Int) × Bytes) :=
  match readTType bs with
  | .ok (t, r) =>
    if t = .stop then .ok ((t, 0), r)
    else match readI e 2 r with
      | .ok (id, r) => .ok ((t, id), r)
      | .err k => .err k | .panic s => .panic s | .fuel => .fuel
  | .err k => .err k | .panic s => .panic s | .fuel => .fuel

/-- `check_container_size`: a count below zero or above the number of remaining bytes is rejected
(every element occupies at least one byte). -/
def checkSize (n : Int) (r : Bytes) : Out Nat :=
  if n < 0 then .err .invalid
  else if n.toNat ≤ r.length then .ok n.toNat else .err .invalid

/-- `read_list_begin` / `read_set_begin`. -/
def readListBegin (e : Endian) (bs : Bytes) : Out ((TType × Nat) × Bytes) :=
  match readTType bs with
  | .ok (t, r) => match readI e 4 r with
    | .ok (n, r) => match checkSize n r with
      | .ok n => .ok ((t, n), r)
      | .err k => .err k | .panic s => .panic s | .fuel => .fuel
    | .err k => .err k | .panic s => .panic s | .fuel => .fuel
  | .err k => .err k | .panic s => .panic s | .fuel => .fuel

def readMapBegin (e : Endian) (bs : Bytes) : Out ((TType × TType × Nat) × Bytes) :=
  match readTType bs with
  | .ok (kt, r) => match readTType r with
    | .ok (vt, r) => match readI e 4 r with
      | .ok (n, r) => match checkSize n r with
        | .ok n => .ok ((kt, vt, n), r)
        | .err k => .err k | .panic s => .panic s | .fuel => .fuel
      | .err k => .err k | .panic s => .panic s | .fuel => .fuel
    | .err k => .err k | .panic s => .panic s | .fuel => .fuel
  | .err k => .err k | .panic s => .panic s | .fuel => .fuel

/-! ### The dynamic reading interpreter -/

mutual
def readVal (e : Endian) : Nat → TType → Bytes → Out (TVal × Bytes)
  | 0, _, _ => .fuel
  | _+1, .bool, bs => match readI e 1 bs with
    | .ok (n, r) => .ok (.bool (n != 0), r)
    | .err k => .err k | .panic s => .panic s | .fuel => .fuel
  | _+1, .i8, bs => match readI e 1 bs with
    | .ok (n, r) => .ok (.i8 n, r)
    | .err k => .err k | .panic s => .panic s | .fuel => .fuel
  | _+1, .i16, bs => match readI e 2 bs with
    | .ok (n, r) => .ok (.i16 n, r)
    | .err k => .err k | .panic s => .panic s | .fuel => .fuel
  | _+1, .i32, bs => match readI e 4 bs with
    | .ok (n, r) => .ok (.i32 n, r)
    | .err k => .err k | .panic s => .panic s | .fuel => .fuel
  | _+1, .i64, bs => match readI e 8 bs with
    | .ok (n, r) => .ok (.i64 n, r)
    | .err k => .err k | .panic s => .panic s | .fuel => .fuel
  | _+1, .double, bs => match readU e 8 bs with
    | .ok (n, r) => .ok (.dbl n, r)
    | .err k => .err k | .panic s => .panic s | .fuel => .fuel
  | _+1, .binary, bs => match readBytes e bs with
    | .ok (b, r) => .ok (.bin b, r)
    | .err k => .err k | .panic s => .panic s | .fuel => .fuel
  | _+1, .uuid, bs => match takeN 16 bs with
    | .ok (b, r) => .ok (.uuid b, r)
    | .err k => .err k | .panic s => .panic s | .fuel => .fuel
  | f+1, .struct, bs => match readFields e f bs with
    | .ok (fs, r) => .ok (.struct fs, r)
    | .err k => .err k | .panic s => .panic s | .fuel => .fuel
  | f+1, .list, bs => match readListBegin e bs with
    | .ok ((et, n), r) => match readN e f et n r with
      | .ok (xs, r) => .ok (.list et xs, r)
      | .err k => .err k | .panic s => .panic s | .fuel => .fuel
    | .err k => .err k | .panic s => .panic s | .fuel => .fuel
  | f+1, .set, bs => match readListBegin e bs with
    | .ok ((et, n), r) => match readN e f et n r with
      | .ok (xs, r) => .ok (.set et xs, r)
      | .err k => .err k | .panic s => .panic s | .fuel => .fuel
    | .err k => .err k | .panic s => .panic s | .fuel => .fuel
  | f+1, .map, bs => match readMapBegin e bs with
    | .ok ((kt, vt, n), r) => match readPairs e f kt vt n r with
      | .ok (kvs, r) => .ok (.map kt vt kvs, r)
      | .err k => .err k | .panic s => .panic s | .fuel => .fuel
    | .err k => .err k | .panic s => .panic s | .fuel => .fuel
  | _+1, .stop, _ => .err .invalid
  | _+1, .void, _ => .err .invalid
def readFields (e : Endian) : Nat → Bytes → Out (TFields × Bytes)
  | 0, _ => .fuel
  | f+1, bs => match readFieldBegin e bs with
    | .ok ((t, id), r) =>
      if t = .stop then .ok (.nil, r)
      else match readVal e f t r with
        | .ok (v, r) => match readFields e f r with
          | .ok (rest, r) => .ok (.cons id v rest, r)
          | .err k => .err k | .panic s => .panic s | .fuel => .fuel
        | .err k => .err k | .panic s => .panic s | .fuel => .fuel
    | .err k => .err k | .panic s => .panic s | .fuel => .fuel
def readN (e : Endian) : Nat → TType → Nat → Bytes → Out (TVals × Bytes)
  | 0, _, _, _ => .fuel
  | _+1, _, 0, bs => .ok (.nil, bs)
  | f+1, et, n+1, bs => match readVal e f et bs with
    | .ok (v, r) => match readN e f et n r with
      | .ok (vs, r) => .ok (.cons v vs, r)
      | .err k => .err k | .panic s => .panic s | .fuel => .fuel
    | .err k => .err k | .panic s => .panic s | .fuel => .fuel
def readPairs (e : Endian) : Nat → TType → TType → Nat → Bytes → Out (TPairs × Bytes)
  | 0, _, _, _, _ => .fuel
  | _+1, _, _, 0, bs => .ok (.nil, bs)
  | f+1, kt, vt, n+1, bs => match readVal e f kt bs with
    | .ok (k, r) => match readVal e f vt r with
      | .ok (v, r) => match readPairs e f kt vt n r with
        | .ok (rest, r) => .ok (.cons k v rest, r)
        | .err k => .err k | .panic s => .panic s | .fuel => .fuel
      | .err k => .err k | .panic s => .panic s | .fuel => .fuel
    | .err k => .err k | .panic s => .panic s | .fuel => .fuel
end

/-- top-level read with a budget that always suffices (see `Props/C09`). -/
def read (e : Endian) (t : TType) (bs : Bytes) : Out (TVal × Bytes) :=
  readVal e (3 * bs.length + 3) t bs

end Pilota.Thrift.Binary
