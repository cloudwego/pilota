import PilotaModel.Thrift.Compact
/-
  LinkedBytes-backed writers.  A `LinkedBytes` is a list of frozen nodes plus the
  current `BytesMut`; `insert` freezes the current buffer and appends the payload as
  its own node (zero copy).  Only binary payloads can take that branch.
-/
namespace Pilota.Thrift.Linked
open Pilota Pilota.Thrift

structure LB where
  nodes : List Bytes := []     -- frozen nodes, oldest first
  cur : Bytes := []
  zlen : Nat := 0              -- zero_copy_len
  deriving Repr, Inhabited

def LB.concat (l : LB) : Bytes := l.nodes.flatten ++ l.cur

def LB.put (l : LB) (b : Bytes) : LB := { l with cur := l.cur ++ b }

/-- `LinkedBytes::insert`: split the current buffer, push it and the payload. -/
def LB.insert (l : LB) (b : Bytes) : LB := { nodes := l.nodes ++ [l.cur, b], cur := [], zlen := l.zlen + b.length }

inductive StrApi where | bytes | vec | faststr
  deriving DecidableEq, Repr

/-- does this payload take the zero-copy branch?  (`thr` = `ZERO_COPY_THRESHOLD`).
binary.rs / binary_le.rs / binary_unsafe.rs: `write_bytes` and `write_faststr` use `len >= thr`;
compact.rs: `write_bytes` uses `>=`, `write_faststr` uses `<=` (sic); `write_bytes_vec` never, in any protocol. -/
def takesZc (compact : Bool) (zc : Bool) (thr : Nat) (api : StrApi) (len : Nat) : Bool :=
  zc && match api with
    | .bytes => decide (thr ≤ len)
    | .vec => false
    | .faststr => if compact then decide (len ≤ thr) else decide (thr ≤ len)

/-- one op on a LinkedBytes-backed writer, given the bytes the BytesMut-backed writer appends
for the same op (`whole`) and, for a binary payload, its length prefix (`pre`). -/
def step (compact zc : Bool) (thr : Nat) (api : StrApi) (l : LB) (op : Op) (whole : Bytes) (pre : Bytes) : LB :=
  match op with
  | .bytes bs => if takesZc compact zc thr api bs.length then (l.put pre).insert bs else l.put whole
  | _ => l.put whole

end Pilota.Thrift.Linked
