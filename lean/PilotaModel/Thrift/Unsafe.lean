import PilotaModel.Thrift.Binary
import PilotaModel.Thrift.Len
import PilotaModel.Thrift.Linked
/-
  The unchecked binary codec (thrift/binary_unsafe.rs).

  Writer: `TBinaryUnsafeOutputProtocol` keeps a raw window `buf: &'static mut [u8]` into the
  transport's spare capacity and an `index`.  Every `get_unchecked_mut(index..index+n)` /
  `ptr::copy_nonoverlapping(.., buf.as_mut_ptr().add(index), n)` is modelled as a *guarded*
  positional write (`poke`): outside the window the model answers `.panic "oob"`; the real code
  has undefined behaviour there.  The theorems of `Props/C11` show the guard never fires within
  the documented contract (window at least as large as the reported size).

  Reader: `TBinaryUnsafeInputProtocol` keeps `trans: &mut Bytes`, a raw view `buf` of the same
  memory and an `index`; `buf` is re-derived from `trans` after every `split_to` and both are
  advanced together, so the two always have the same contents and the model keeps one byte list.
  Every `get_unchecked(index..index+n)` is guarded the same way.
-/
namespace Pilota.Thrift.Unsafe
open Pilota Pilota.Thrift

/-! ### the window -/

/-- `buf` and `index` of the writer.  `mem` is the current contents of the window
(its length is the window's length; initially whatever the spare capacity holds). -/
structure Win where
  mem : Bytes
  idx : Nat
  deriving Repr, Inhabited

def Win.cap (w : Win) : Nat := w.mem.length

/-- bytes written so far and not yet handed to the transport: `buf[..index]`. -/
def Win.written (w : Win) : Bytes := w.mem.take w.idx

/-- guarded positional write of `bs` at `pos`. -/
def poke (mem : Bytes) (pos : Nat) (bs : Bytes) : Out Bytes :=
  if pos + bs.length ≤ mem.length then .ok (mem.take pos ++ bs ++ mem.drop (pos + bs.length))
  else .panic "oob"

/-- write `bs` at `index`, then `index += bs.len()`. -/
def put (w : Win) (bs : Bytes) : Out Win :=
  match poke w.mem w.idx bs with
  | .ok m => .ok { mem := m, idx := w.idx + bs.length }
  | .err k => .err k | .panic s => .panic s | .fuel => .fuel

def putAll : Win → List Bytes → Out Win
  | w, [] => .ok w
  | w, b :: bs => match put w b with
    | .ok w' => putAll w' bs
    | .err k => .err k | .panic s => .panic s | .fuel => .fuel

def be (w : Nat) (n : Int) : Bytes := Binary.i .be w n

/-- `write_field_begin`: type byte at `index`, id at `index+1..index+3`, then `index += 3`. -/
def fieldBegin (w : Win) (t : TType) (id : Int) : Out Win :=
  match poke w.mem w.idx [UInt8.ofNat t.toByte] with
  | .ok m => match poke m (w.idx + 1) (be 2 id) with
    | .ok m => .ok { mem := m, idx := w.idx + 3 }
    | .err k => .err k | .panic s => .panic s | .fuel => .fuel
  | .err k => .err k | .panic s => .panic s | .fuel => .fuel

/-- the individual unchecked writes an API call performs, in order
(every call except `write_field_begin`, which pokes at two offsets before moving `index`). -/
def chunks : Op → List Bytes
  | .structBegin | .structEnd | .fieldEnd | .listEnd | .setEnd | .mapEnd | .msgEnd => []
  | .fieldBegin t id => [UInt8.ofNat t.toByte :: be 2 id]        -- (not used by `uwOp`; kept so that `chunks_flatten` holds for every op)
  | .fieldStop => [[0]]                                          -- write_byte(Stop)
  | .bool b => [[if b then 1 else 0]]                            -- write_i8(1) / write_i8(0)
  | .i8 n => [be 1 n]
  | .i16 n => [be 2 n]
  | .i32 n => [be 4 n]
  | .i64 n => [be 8 n]
  | .dbl b => [encFixed .be 8 b]
  | .bytes bs => [be 4 (toS 4 bs.length), bs]                    -- write_i32(len as i32); copy_nonoverlapping
  | .uuid bs => [bs]
  | .listBegin et n | .setBegin et n => [[UInt8.ofNat et.toByte], be 4 (toS 4 n)]
  | .mapBegin kt vt n => [[UInt8.ofNat kt.toByte], [UInt8.ofNat vt.toByte], be 4 (toS 4 n)]
  | .msgBegin name mt seq =>
      [encFixed .be 4 ((0x80010000 ||| mt) % 2 ^ 32), be 4 (toS 4 name.length), name, be 4 seq]

/-! ### writer over `&mut BytesMut` -/

/-- one `TOutputProtocol` call on `TBinaryUnsafeOutputProtocol<&mut BytesMut>`. -/
def uwOp (w : Win) : Op → Out Win
  | .fieldBegin t id => fieldBegin w t id
  | o => putAll w (chunks o)

def uwRun : Win → List Op → Out Win
  | w, [] => .ok w
  | w, o :: os => match uwOp w o with
    | .ok w' => uwRun w' os
    | .err k => .err k | .panic s => .panic s | .fuel => .fuel

/-- a fresh window of `cap` bytes (contents: the harness fills spare capacity with 0xAA). -/
def fresh (cap : Nat) : Win := { mem := List.replicate cap 0xAA, idx := 0 }

/-! ### writer over `&mut LinkedBytes` -/

structure LW where
  nodes : List Bytes := []      -- frozen nodes of the LinkedBytes, oldest first
  cur : Bytes := []             -- initialised part of `trans.bytes_mut()`
  spare : Nat                   -- `capacity() - len()` of `trans.bytes_mut()`
  win : Win                     -- the raw window; starts where `cur` ends
  zlen : Nat := 0               -- zero_copy_len
  deriving Repr, Inhabited

/-- what the transport holds once the caller has done its final `advance_mut(index)`. -/
def LW.out (s : LW) : Bytes := s.nodes.flatten ++ s.cur ++ s.win.written

/-- `advance_mut(len)`: `BytesMut::advance_mut` (panics beyond capacity), `<&mut [u8]>::advance_mut`
(panics beyond the slice), `index -= len` (overflow check).  Every call site passes `self.index`. -/
def advanceMut (s : LW) (len : Nat) : Out LW :=
  if s.spare < len then .panic "BytesMut::advance_mut out of bounds"
  else if s.win.mem.length < len then .panic "slice advance_mut out of bounds"
  else if s.win.idx < len then .panic "index underflow"
  else .ok { s with cur := s.cur ++ s.win.mem.take len, spare := s.spare - len,
                    win := { mem := s.win.mem.drop len, idx := s.win.idx - len } }

/-- memory of `n` bytes starting where `mem` starts (beyond `mem` the contents are unspecified; 0 here). -/
def resize (mem : Bytes) (n : Nat) : Bytes := mem.take n ++ List.replicate (n - mem.length) 0

/-- the zero-copy branch: `trans.insert(b)` (linkedbytes 0.1.8: `split()` the current buffer, push it
and the payload), then the window is re-derived from the new spare capacity
(`from_raw_parts_mut(ptr.add(len), capacity - len)` with `len = 0` after the split). -/
def insertZc (s : LW) (payload : Bytes) : LW :=
  { s with nodes := s.nodes ++ [s.cur, payload], cur := [],
           win := { mem := resize s.win.mem s.spare, idx := s.win.idx } }

def liftW (s : LW) (r : Out Win) : Out LW :=
  match r with
  | .ok w => .ok { s with win := w }
  | .err k => .err k | .panic m => .panic m | .fuel => .fuel

/-- `write_bytes` / `write_bytes_vec` / `write_faststr` / `write_string` after the caller decided whether
the zero-copy branch applies: `write_i32(len)`, then either `zero_copy_len += len; advance_mut(index);
trans.insert(payload)` and the window re-derived, or `copy_nonoverlapping`. -/
def strWrite (takes : Bool) (s : LW) (bs : Bytes) : Out LW :=
  match put s.win (be 4 (toS 4 bs.length)) with
  | .ok w =>
    if takes then
      match advanceMut { s with win := w, zlen := s.zlen + bs.length } w.idx with
      | .ok s' => .ok (insertZc s' bs)
      | .err k => .err k | .panic m => .panic m | .fuel => .fuel
    else liftW s (put w bs)
  | .err k => .err k | .panic m => .panic m | .fuel => .fuel

open Linked in
/-- one call on `TBinaryUnsafeOutputProtocol<&mut LinkedBytes>`; `api` says which of
`write_bytes` / `write_bytes_vec` / `write_faststr` writes a binary value. -/
def ulwOp (zc : Bool) (thr : Nat) (api : StrApi) (s : LW) : Op → Out LW
  | .fieldBegin t id =>
    match fieldBegin s.win t id with
    | .ok w => advanceMut { s with win := w } w.idx
    | .err k => .err k | .panic m => .panic m | .fuel => .fuel
  | .msgBegin name mt seq =>
    -- write_i32(version); write_faststr(name) (its own zero-copy branch); write_i32(seq); advance_mut(index)
    match liftW s (put s.win (encFixed .be 4 ((0x80010000 ||| mt) % 2 ^ 32))) with
    | .ok s1 => match strWrite (takesZc false zc thr .faststr name.length) s1 name with
      | .ok s2 => match liftW s2 (put s2.win (be 4 seq)) with
        | .ok s3 => advanceMut s3 s3.win.idx
        | .err k => .err k | .panic m => .panic m | .fuel => .fuel
      | .err k => .err k | .panic m => .panic m | .fuel => .fuel
    | .err k => .err k | .panic m => .panic m | .fuel => .fuel
  | .bytes bs => strWrite (takesZc false zc thr api bs.length) s bs
  | o => liftW s (putAll s.win (chunks o))

def ulwRun (zc : Bool) (thr : Nat) (api : Linked.StrApi) : LW → List Op → Out LW
  | s, [] => .ok s
  | s, o :: os => match ulwOp zc thr api s o with
    | .ok s' => ulwRun zc thr api s' os
    | .err k => .err k | .panic m => .panic m | .fuel => .fuel

/-- bytes an op copies into the window (everything except a zero-copied payload). -/
def copyLen (zc : Bool) (thr : Nat) (api : Linked.StrApi) : Op → Nat
  | .bytes bs => if Linked.takesZc false zc thr api bs.length then 4 else 4 + bs.length
  | .msgBegin name _ _ => 4 + (if Linked.takesZc false zc thr .faststr name.length then 4 else 4 + name.length) + 4
  | o => Len.binOp o

def copyLenAll (zc : Bool) (thr : Nat) (api : Linked.StrApi) (ops : List Op) : Nat :=
  (ops.map (copyLen zc thr api)).sum

def zcLen (zc : Bool) (thr : Nat) (api : Linked.StrApi) : Op → Nat
  | .bytes bs => if Linked.takesZc false zc thr api bs.length then bs.length else 0
  | .msgBegin name _ _ => if Linked.takesZc false zc thr .faststr name.length then name.length else 0
  | _ => 0

/-- a LinkedBytes whose current buffer holds `pre` and has `cap` spare bytes, window = the spare capacity. -/
def freshL (pre : Bytes) (cap : Nat) : LW := { cur := pre, spare := cap, win := fresh cap }

/-! ### reader -/

structure UR where
  bs : Bytes          -- contents of `trans` (and of the raw view `buf`)
  idx : Nat := 0
  adv : Nat := 0      -- bytes already advanced over or split off (ghost)
  deriving Repr, Inhabited

/-- the unread input. -/
def UR.rest (s : UR) : Bytes := s.bs.drop s.idx
/-- bytes consumed so far. -/
def UR.pos (s : UR) : Nat := s.adv + s.idx

/-- `buf.get_unchecked(index..index+n)`, then `index += n`. -/
def peek (s : UR) (n : Nat) : Out (Bytes × UR) :=
  if s.idx + n ≤ s.bs.length then .ok ((s.bs.drop s.idx).take n, { s with idx := s.idx + n })
  else .panic "oob"

/-- `advance(len)`: `Bytes::advance` and `<&[u8]>::advance` panic beyond the end; `index -= len`. -/
def advance (s : UR) (len : Nat) : Out UR :=
  if s.bs.length < len then .panic "advance out of bounds"
  else if s.idx < len then .panic "index underflow"
  else .ok { bs := s.bs.drop len, idx := s.idx - len, adv := s.adv + len }

/-- `trans.split_to(n)` followed by re-deriving `buf` from `trans`. -/
def splitTo (s : UR) (n : Nat) : Out (Bytes × UR) :=
  if n ≤ s.bs.length then .ok (s.bs.take n, { s with bs := s.bs.drop n, adv := s.adv + n })
  else .panic "split_to out of bounds"

def readU (w : Nat) (s : UR) : Out (Nat × UR) :=
  match peek s w with
  | .ok (b, s) => .ok (beToNat b, s)
  | .err k => .err k | .panic m => .panic m | .fuel => .fuel

def readI (w : Nat) (s : UR) : Out (Int × UR) :=
  match readU w s with
  | .ok (n, s) => .ok (toS w n, s)
  | .err k => .err k | .panic m => .panic m | .fuel => .fuel

/-- `read_byte` + `field_type_from_u8` / `try_into`. -/
def readTType (s : UR) : Out (TType × UR) :=
  match readU 1 s with
  | .ok (b, s) => match TType.ofByte b with
    | some t => .ok (t, s)
    | none => .err .invalid
  | .err k => .err k | .panic m => .panic m | .fuel => .fuel

/-- `read_bytes` / `read_bytes_vec` / `read_faststr`: i32 length, `advance(index)`, `split_to(len as usize)`. -/
def readBytes (s : UR) : Out (Bytes × UR) :=
  match readI 4 s with
  | .ok (len, s) => match advance s s.idx with
    | .ok s => splitTo s (Binary.asUsize len)
    | .err k => .err k | .panic m => .panic m | .fuel => .fuel
  | .err k => .err k | .panic m => .panic m | .fuel => .fuel

/-- `read_string`: copies `buf[index..index+len]`, no re-anchoring. -/
def readString (s : UR) : Out (Bytes × UR) :=
  match readI 4 s with
  | .ok (len, s) => peek s (Binary.asUsize len)
  | .err k => .err k | .panic m => .panic m | .fuel => .fuel

def readFieldBegin (s : UR) : Out ((TType × Int) × UR) :=
  match readTType s with
  | .ok (t, s) =>
    if t = .stop then .ok ((t, 0), s)
    else match readI 2 s with
      | .ok (id, s) => .ok ((t, id), s)
      | .err k => .err k | .panic m => .panic m | .fuel => .fuel
  | .err k => .err k | .panic m => .panic m | .fuel => .fuel

def readListBegin (s : UR) : Out ((TType × Nat) × UR) :=
  match readTType s with
  | .ok (t, s) => match readI 4 s with
    | .ok (n, s) => .ok ((t, Binary.asUsize n), s)
    | .err k => .err k | .panic m => .panic m | .fuel => .fuel
  | .err k => .err k | .panic m => .panic m | .fuel => .fuel

def readMapBegin (s : UR) : Out ((TType × TType × Nat) × UR) :=
  match readTType s with
  | .ok (kt, s) => match readTType s with
    | .ok (vt, s) => match readI 4 s with
      | .ok (n, s) => .ok ((kt, vt, Binary.asUsize n), s)
      | .err k => .err k | .panic m => .panic m | .fuel => .fuel
    | .err k => .err k | .panic m => .panic m | .fuel => .fuel
  | .err k => .err k | .panic m => .panic m | .fuel => .fuel

/-- `get_bytes(ptr, len)`: with `None` the length is counted from the last re-anchoring point. -/
def getBytes (s : UR) (ptrGiven : Bool) (len : Nat) : Out (Bytes × UR) :=
  if ptrGiven then splitTo { s with idx := 0 } len
  else if len < s.idx then .panic "len -= index underflow"
  else match advance s s.idx with
    | .ok s' => splitTo { s' with idx := 0 } (len - s.idx)
    | .err k => .err k | .panic m => .panic m | .fuel => .fuel

/-- `read_message_begin` (same checks as the checked reader) followed by `advance(index)`. -/
def readMessageBegin (s : UR) : Out ((Bytes × Nat × Int) × UR) :=
  match readI 4 s with
  | .ok (size, s) =>
    if size > 0 then .err .badVersion
    else
      let u := toU 4 size
      let ty := u % 16
      if ty < 1 ∨ 4 < ty then .err .invalid
      else if u / 65536 * 65536 ≠ 0x80010000 then .err .badVersion
      else match readBytes s with
        | .ok (name, s) => match readI 4 s with
          | .ok (seq, s) => match advance s s.idx with
            | .ok s => .ok ((name, ty, seq), s)
            | .err k => .err k | .panic m => .panic m | .fuel => .fuel
          | .err k => .err k | .panic m => .panic m | .fuel => .fuel
        | .err k => .err k | .panic m => .panic m | .fuel => .fuel
  | .err k => .err k | .panic m => .panic m | .fuel => .fuel

-- The unchecked reader's `skip` re-anchors with `advance(index - 3)` and runs the iterative skipper
-- `skip_till_depth` (binary_unsafe.rs 1165-1322): `Skip.iterStep` / `iterRun` in `Thrift/Skip.lean`.
-- `getBytes` above is the primitive the retained-unknown-field path uses afterwards.

mutual
def readVal : Nat → TType → UR → Out (TVal × UR)
  | 0, _, _ => .fuel
  | _+1, .bool, s => match readI 1 s with
    | .ok (n, s) => .ok (.bool (n != 0), s)
    | .err k => .err k | .panic m => .panic m | .fuel => .fuel
  | _+1, .i8, s => match readI 1 s with
    | .ok (n, s) => .ok (.i8 n, s)
    | .err k => .err k | .panic m => .panic m | .fuel => .fuel
  | _+1, .i16, s => match readI 2 s with
    | .ok (n, s) => .ok (.i16 n, s)
    | .err k => .err k | .panic m => .panic m | .fuel => .fuel
  | _+1, .i32, s => match readI 4 s with
    | .ok (n, s) => .ok (.i32 n, s)
    | .err k => .err k | .panic m => .panic m | .fuel => .fuel
  | _+1, .i64, s => match readI 8 s with
    | .ok (n, s) => .ok (.i64 n, s)
    | .err k => .err k | .panic m => .panic m | .fuel => .fuel
  | _+1, .double, s => match readU 8 s with
    | .ok (n, s) => .ok (.dbl n, s)
    | .err k => .err k | .panic m => .panic m | .fuel => .fuel
  | _+1, .binary, s => match readBytes s with
    | .ok (b, s) => .ok (.bin b, s)
    | .err k => .err k | .panic m => .panic m | .fuel => .fuel
  | _+1, .uuid, s => match peek s 16 with
    | .ok (b, s) => .ok (.uuid b, s)
    | .err k => .err k | .panic m => .panic m | .fuel => .fuel
  | f+1, .struct, s => match readFields f s with
    | .ok (fs, s) => .ok (.struct fs, s)
    | .err k => .err k | .panic m => .panic m | .fuel => .fuel
  | f+1, .list, s => match readListBegin s with
    | .ok ((et, n), s) => match readN f et n s with
      | .ok (xs, s) => .ok (.list et xs, s)
      | .err k => .err k | .panic m => .panic m | .fuel => .fuel
    | .err k => .err k | .panic m => .panic m | .fuel => .fuel
  | f+1, .set, s => match readListBegin s with
    | .ok ((et, n), s) => match readN f et n s with
      | .ok (xs, s) => .ok (.set et xs, s)
      | .err k => .err k | .panic m => .panic m | .fuel => .fuel
    | .err k => .err k | .panic m => .panic m | .fuel => .fuel
  | f+1, .map, s => match readMapBegin s with
    | .ok ((kt, vt, n), s) => match readPairs f kt vt n s with
      | .ok (kvs, s) => .ok (.map kt vt kvs, s)
      | .err k => .err k | .panic m => .panic m | .fuel => .fuel
    | .err k => .err k | .panic m => .panic m | .fuel => .fuel
  | _+1, .stop, _ => .err .invalid
  | _+1, .void, _ => .err .invalid
def readFields : Nat → UR → Out (TFields × UR)
  | 0, _ => .fuel
  | f+1, s => match readFieldBegin s with
    | .ok ((t, id), s) =>
      if t = .stop then .ok (.nil, s)
      else match readVal f t s with
        | .ok (v, s) => match readFields f s with
          | .ok (rest, s) => .ok (.cons id v rest, s)
          | .err k => .err k | .panic m => .panic m | .fuel => .fuel
        | .err k => .err k | .panic m => .panic m | .fuel => .fuel
    | .err k => .err k | .panic m => .panic m | .fuel => .fuel
def readN : Nat → TType → Nat → UR → Out (TVals × UR)
  | 0, _, _, _ => .fuel
  | _+1, _, 0, s => .ok (.nil, s)
  | f+1, et, n+1, s => match readVal f et s with
    | .ok (v, s) => match readN f et n s with
      | .ok (vs, s) => .ok (.cons v vs, s)
      | .err k => .err k | .panic m => .panic m | .fuel => .fuel
    | .err k => .err k | .panic m => .panic m | .fuel => .fuel
def readPairs : Nat → TType → TType → Nat → UR → Out (TPairs × UR)
  | 0, _, _, _, _ => .fuel
  | _+1, _, _, 0, s => .ok (.nil, s)
  | f+1, kt, vt, n+1, s => match readVal f kt s with
    | .ok (k, s) => match readVal f vt s with
      | .ok (v, s) => match readPairs f kt vt n s with
        | .ok (rest, s) => .ok (.cons k v rest, s)
        | .err k => .err k | .panic m => .panic m | .fuel => .fuel
      | .err k => .err k | .panic m => .panic m | .fuel => .fuel
    | .err k => .err k | .panic m => .panic m | .fuel => .fuel
end

/-- top-level read, same budget as the checked reader's. -/
def read (t : TType) (s : UR) : Out (TVal × UR) := readVal (3 * s.rest.length + 3) t s

end Pilota.Thrift.Unsafe
