import PilotaModel.Base.Bytes
import PilotaModel.Base.Varint
import PilotaModel.Thrift.Types
import PilotaModel.Thrift.Binary
/-
  The compact protocol (thrift/compact.rs).
  Writer and length calculation are state machines over the same state
  (`last_write_field_id`, `write_field_id_stack`, the deferred bool field header);
  the reader is a state machine over (`last_read_field_id`, `read_field_id_stack`,
  `pending_read_bool_value`).  One transition per trait call.
-/
namespace Pilota.Thrift.Compact
open Pilota Pilota.Thrift

/-- `TCompactType::try_from(TType)`; `none` for `Void`. -/
def compactOf : TType → Option Nat
  | .stop => some 0 | .bool => some 1 | .i8 => some 3 | .i16 => some 4 | .i32 => some 5
  | .i64 => some 6 | .double => some 7 | .binary => some 8 | .list => some 9 | .set => some 10
  | .map => some 11 | .struct => some 12 | .uuid => some 13 | .void => none

/-- `TCompactType::try_from(u8)` followed by `TType::try_from(TCompactType)`. -/
def ttypeOfCompact : Nat → Option TType
  | 0 => some .stop | 1 => some .bool | 2 => some .bool | 3 => some .i8 | 4 => some .i16
  | 5 => some .i32 | 6 => some .i64 | 7 => some .double | 8 => some .binary | 9 => some .list
  | 10 => some .set | 11 => some .map | 12 => some .struct | 13 => some .uuid
  | _ => none

/-! ### Writer -/

structure CW where
  last : Int := 0
  stack : List Int := []
  pending : Option Int := none      -- id of a bool field whose header is deferred
  deriving Repr, DecidableEq, Inhabited

/-- `write_field_header`: short form for `0 < delta < 15`, else type byte + zig-zag id. -/
def fieldHeader (last : Int) (ct : Nat) (id : Int) : Bytes :=
  let delta := id - last
  if 0 < delta ∧ delta < 15 then [UInt8.ofNat (delta.toNat * 16 + ct)]
  else UInt8.ofNat ct :: encVar (zigzag id)

/-- `write_collection_begin`. -/
def collHeader (ct : Nat) (n : Nat) : Bytes :=
  if n ≤ 14 then [UInt8.ofNat (n * 16 + ct)]
  else UInt8.ofNat (0xF0 + ct) :: encVar (n % 2 ^ 32)

def boolByte (b : Bool) : Nat := if b then 1 else 2

def wStep (s : CW) : Op → Out (CW × Bytes)
  | .structBegin => .ok ({ s with stack := s.last :: s.stack, last := 0 }, [])
  | .structEnd =>
    if s.pending.isSome then .panic "pending bool field not written"
    else match s.stack with
      | [] => .err .invalid
      | l :: st => .ok ({ s with last := l, stack := st }, [])
  | .fieldBegin t id =>
    if t = .bool then
      if s.pending.isSome then .panic "should not have a pending bool while writing another bool"
      else .ok ({ s with pending := some id }, [])
    else match compactOf t with
      | none => .err .invalid
      | some ct => .ok ({ s with last := id }, fieldHeader s.last ct id)
  | .fieldEnd => if s.pending.isSome then .panic "pending bool field not written" else .ok (s, [])
  | .fieldStop => if s.pending.isSome then .panic "pending bool field not written" else .ok (s, [0])
  | .bool b =>
    match s.pending with
    | some id => .ok ({ s with pending := none, last := id }, fieldHeader s.last (boolByte b) id)
    | none => .ok (s, [UInt8.ofNat (boolByte b)])
  | .i8 n => .ok (s, Binary.i .be 1 n)
  | .i16 n | .i32 n | .i64 n => .ok (s, encVar (zigzag n))
  | .dbl b => .ok (s, encFixed .le 8 b)
  | .bytes bs => .ok (s, encVar (bs.length % 2 ^ 32) ++ bs)
  | .uuid bs => .ok (s, bs)
  | .listBegin et n | .setBegin et n =>
    match compactOf et with
    | none => .err .invalid
    | some ct => .ok (s, collHeader ct n)
  | .listEnd | .setEnd | .mapEnd => .ok (s, [])
  | .mapBegin kt vt n =>
    if n = 0 then .ok (s, [0])
    else match compactOf kt, compactOf vt with
      | some k, some v => .ok (s, encVar (n % 2 ^ 32) ++ [UInt8.ofNat (k * 16 + v)])
      | _, _ => .err .invalid
  | .msgBegin name mt seq =>
    .ok (s, [0x82, UInt8.ofNat (1 + (mt * 32) % 256)] ++ encVar (toU 4 seq) ++ (encVar (name.length % 2 ^ 32) ++ name))
  | .msgEnd => if s.pending.isSome then .panic "pending bool field not written" else .ok (s, [])

def run : CW → List Op → Out (CW × Bytes)
  | s, [] => .ok (s, [])
  | s, o :: os => match wStep s o with
    | .ok (s', b) => match run s' os with
      | .ok (s'', bs) => .ok (s'', b ++ bs)
      | .err k => .err k | .panic m => .panic m | .fuel => .fuel
    | .err k => .err k | .panic m => .panic m | .fuel => .fuel

-- what `ops v` writes, as a direct recursion (proved equal to `run`: `Compact.run_ops` in Lemmas/OpsRun).
mutual
def enc : TVal → Bytes
  | .bool b => [UInt8.ofNat (boolByte b)]
  | .i8 n => Binary.i .be 1 n
  | .i16 n | .i32 n | .i64 n => encVar (zigzag n)
  | .dbl b => encFixed .le 8 b
  | .bin bs => encVar (bs.length % 2 ^ 32) ++ bs
  | .uuid bs => bs
  | .struct fs => encFields 0 fs
  | .list et xs => collHeader ((compactOf et).getD 0) xs.length ++ encVals xs
  | .set et xs => collHeader ((compactOf et).getD 0) xs.length ++ encVals xs
  | .map kt vt kvs =>
    if kvs.length = 0 then [0]
    else encVar (kvs.length % 2 ^ 32) ++ (UInt8.ofNat ((compactOf kt).getD 0 * 16 + (compactOf vt).getD 0) :: encPairs kvs)
def encVals : TVals → Bytes
  | .nil => []
  | .cons v vs => enc v ++ encVals vs
def encFields : Int → TFields → Bytes
  | _, .nil => [0]
  | last, .cons id (.bool b) r => fieldHeader last (boolByte b) id ++ encFields id r
  | last, .cons id v r => fieldHeader last ((compactOf v.ttype).getD 0) id ++ (enc v ++ encFields id r)
def encPairs : TPairs → Bytes
  | .nil => []
  | .cons k v r => enc k ++ (enc v ++ encPairs r)
end

/-! ### Reader -/

structure CR where
  last : Int := 0
  stack : List Int := []
  pendingBool : Option Bool := none
  deriving Repr, DecidableEq, Inhabited

def readByte := Binary.readByte

/-- `read_field_begin`. -/
def readFieldBegin (s : CR) (bs : Bytes) : Out ((TType × Int) × CR × Bytes) :=
  match readByte bs with
  | .ok (b, r) =>
    let delta := b / 16
    let low := b % 16
    let s := if low = 1 then { s with pendingBool := some true }
             else if low = 2 then { s with pendingBool := some false } else s
    match ttypeOfCompact low with
    | none => .err .invalid
    | some .stop => .ok ((.stop, 0), s, r)
    | some t =>
      if delta ≠ 0 then
        let id := s.last + delta
        if id ≤ 32767 then .ok ((t, id), { s with last := id }, r)
        else .err .invalid                       -- checked add (i16 overflow)
      else match readVarS 2 r with
        | .ok (id, r) => .ok ((t, id), { s with last := id }, r)
        | .err k => .err k | .panic m => .panic m | .fuel => .fuel
  | .err k => .err k | .panic m => .panic m | .fuel => .fuel

def readBool (s : CR) (bs : Bytes) : Out (Bool × CR × Bytes) :=
  match s.pendingBool with
  | some b => .ok (b, { s with pendingBool := none }, bs)
  | none => match readByte bs with
    | .ok (b, r) =>
      if b = 1 then .ok (true, s, r) else if b = 2 then .ok (false, s, r) else .err .invalid
    | .err k => .err k | .panic m => .panic m | .fuel => .fuel

/-- `read_bytes` & co: u32 varint length (`as usize`, no sign), bounds check, `split_to`. -/
def readBytes (bs : Bytes) : Out (Bytes × Bytes) :=
  match readVarU 4 bs with
  | .ok (n, r) => if n ≤ r.length then Binary.splitTo n r else .err .eof
  | .err k => .err k | .panic m => .panic m | .fuel => .fuel

def readCollBegin (bs : Bytes) : Out ((TType × Nat) × Bytes) :=
  match readByte bs with
  | .ok (h, r) =>
    match ttypeOfCompact (h % 16) with
    | none => .err .invalid
    | some et =>
      if h / 16 ≠ 15 then match Binary.checkSize (h / 16 : Nat) r with
        | .ok n => .ok ((et, n), r)
        | .err k => .err k | .panic m => .panic m | .fuel => .fuel
      else match readVarU 4 r with
        | .ok (n, r) => match Binary.checkSize (toS 4 n) r with      -- `read_varint::<u32>()? as i32`
          | .ok n => .ok ((et, n), r)
          | .err k => .err k | .panic m => .panic m | .fuel => .fuel
        | .err k => .err k | .panic m => .panic m | .fuel => .fuel
  | .err k => .err k | .panic m => .panic m | .fuel => .fuel

def readMapBegin (bs : Bytes) : Out ((TType × TType × Nat) × Bytes) :=
  match readVarU 4 bs with
  | .ok (n, r) =>
    match Binary.checkSize (toS 4 n) r with
    | .ok cnt =>
      if cnt = 0 then .ok ((.stop, .stop, 0), r)
      else match readByte r with
        | .ok (h, r) =>
          match ttypeOfCompact (h / 16), ttypeOfCompact (h % 16) with
          | some kt, some vt => .ok ((kt, vt, cnt), r)
          | _, _ => .err .invalid
        | .err k => .err k | .panic m => .panic m | .fuel => .fuel
    | .err k => .err k | .panic m => .panic m | .fuel => .fuel
  | .err k => .err k | .panic m => .panic m | .fuel => .fuel

def readStructBegin (s : CR) : CR := { s with stack := s.last :: s.stack, last := 0 }

/-- `read_struct_end`: restores the enclosing struct's field-id context. -/
def readStructEnd (s : CR) : Out CR :=
  match s.stack with
  | [] => .err .invalid
  | l :: st => .ok { s with last := l, stack := st }

mutual
def readVal : Nat → TType → CR → Bytes → Out (TVal × CR × Bytes)
  | 0, _, _, _ => .fuel
  | _+1, .bool, s, bs => match readBool s bs with
    | .ok (b, s, r) => .ok (.bool b, s, r)
    | .err k => .err k | .panic m => .panic m | .fuel => .fuel
  | _+1, .i8, s, bs => match Binary.readI .be 1 bs with
    | .ok (n, r) => .ok (.i8 n, s, r)
    | .err k => .err k | .panic m => .panic m | .fuel => .fuel
  | _+1, .i16, s, bs => match readVarS 2 bs with
    | .ok (n, r) => .ok (.i16 n, s, r)
    | .err k => .err k | .panic m => .panic m | .fuel => .fuel
  | _+1, .i32, s, bs => match readVarS 4 bs with
    | .ok (n, r) => .ok (.i32 n, s, r)
    | .err k => .err k | .panic m => .panic m | .fuel => .fuel
  | _+1, .i64, s, bs => match readVarS 8 bs with
    | .ok (n, r) => .ok (.i64 n, s, r)
    | .err k => .err k | .panic m => .panic m | .fuel => .fuel
  | _+1, .double, s, bs => match Binary.readU .le 8 bs with
    | .ok (n, r) => .ok (.dbl n, s, r)
    | .err k => .err k | .panic m => .panic m | .fuel => .fuel
  | _+1, .binary, s, bs => match readBytes bs with
    | .ok (b, r) => .ok (.bin b, s, r)
    | .err k => .err k | .panic m => .panic m | .fuel => .fuel
  | _+1, .uuid, s, bs => match Binary.takeN 16 bs with
    | .ok (b, r) => .ok (.uuid b, s, r)
    | .err k => .err k | .panic m => .panic m | .fuel => .fuel
  | f+1, .struct, s, bs => match readFields f (readStructBegin s) bs with
    | .ok (fs, s, r) => match readStructEnd s with
      | .ok s => .ok (.struct fs, s, r)
      | .err k => .err k | .panic m => .panic m | .fuel => .fuel
    | .err k => .err k | .panic m => .panic m | .fuel => .fuel
  | f+1, .list, s, bs => match readCollBegin bs with
    | .ok ((et, n), r) => match readN f et n s r with
      | .ok (xs, s, r) => .ok (.list et xs, s, r)
      | .err k => .err k | .panic m => .panic m | .fuel => .fuel
    | .err k => .err k | .panic m => .panic m | .fuel => .fuel
  | f+1, .set, s, bs => match readCollBegin bs with
    | .ok ((et, n), r) => match readN f et n s r with
      | .ok (xs, s, r) => .ok (.set et xs, s, r)
      | .err k => .err k | .panic m => .panic m | .fuel => .fuel
    | .err k => .err k | .panic m => .panic m | .fuel => .fuel
  | f+1, .map, s, bs => match readMapBegin bs with
    | .ok ((kt, vt, n), r) => match readPairs f kt vt n s r with
      | .ok (kvs, s, r) => .ok (.map kt vt kvs, s, r)
      | .err k => .err k | .panic m => .panic m | .fuel => .fuel
    | .err k => .err k | .panic m => .panic m | .fuel => .fuel
  | _+1, .stop, _, _ => .err .invalid
  | _+1, .void, _, _ => .err .invalid
def readFields : Nat → CR → Bytes → Out (TFields × CR × Bytes)
  | 0, _, _ => .fuel
  | f+1, s, bs => match readFieldBegin s bs with
    | .ok ((t, id), s, r) =>
      if t = .stop then .ok (.nil, s, r)
      else match readVal f t s r with
        | .ok (v, s, r) => match readFields f s r with
          | .ok (rest, s, r) => .ok (.cons id v rest, s, r)
          | .err k => .err k | .panic m => .panic m | .fuel => .fuel
        | .err k => .err k | .panic m => .panic m | .fuel => .fuel
    | .err k => .err k | .panic m => .panic m | .fuel => .fuel
def readN : Nat → TType → Nat → CR → Bytes → Out (TVals × CR × Bytes)
  | 0, _, _, _, _ => .fuel
  | _+1, _, 0, s, bs => .ok (.nil, s, bs)
  | f+1, et, n+1, s, bs => match readVal f et s bs with
    | .ok (v, s, r) => match readN f et n s r with
      | .ok (vs, s, r) => .ok (.cons v vs, s, r)
      | .err k => .err k | .panic m => .panic m | .fuel => .fuel
    | .err k => .err k | .panic m => .panic m | .fuel => .fuel
def readPairs : Nat → TType → TType → Nat → CR → Bytes → Out (TPairs × CR × Bytes)
  | 0, _, _, _, _, _ => .fuel
  | _+1, _, _, 0, s, bs => .ok (.nil, s, bs)
  | f+1, kt, vt, n+1, s, bs => match readVal f kt s bs with
    | .ok (k, s, r) => match readVal f vt s r with
      | .ok (v, s, r) => match readPairs f kt vt n s r with
        | .ok (rest, s, r) => .ok (.cons k v rest, s, r)
        | .err k => .err k | .panic m => .panic m | .fuel => .fuel
      | .err k => .err k | .panic m => .panic m | .fuel => .fuel
    | .err k => .err k | .panic m => .panic m | .fuel => .fuel
end

def read (t : TType) (s : CR) (bs : Bytes) : Out (TVal × CR × Bytes) :=
  readVal (3 * bs.length + 3) t s bs

-- The value a typed reader reconstructs: the key/value types of an empty map
-- are not on the compact wire (`read_map_begin` reports `Stop`/`Stop`).
mutual
def norm : TVal → TVal
  | .struct fs => .struct (normFields fs)
  | .list et xs => .list et (normVals xs)
  | .set et xs => .set et (normVals xs)
  | .map kt vt kvs => match kvs with
    | .nil => .map .stop .stop .nil
    | kvs => .map kt vt (normPairs kvs)
  | v => v
def normVals : TVals → TVals
  | .nil => .nil
  | .cons v vs => .cons (norm v) (normVals vs)
def normFields : TFields → TFields
  | .nil => .nil
  | .cons i v r => .cons i (norm v) (normFields r)
def normPairs : TPairs → TPairs
  | .nil => .nil
  | .cons k v r => .cons (norm k) (norm v) (normPairs r)
end

end Pilota.Thrift.Compact
