import PilotaModel.Proto.Spec
/-
  Executable side of the reference: a generic wire parser, a checker for `Spec.Enc`, a canonical
  encoder and a schema-directed decoder (last value wins, repeated append, packed or not) —
  none of it uses pilota's readers.
-/
namespace Pilota.Proto.Spec
open Pilota Pilota.Proto

/-- read a base-128 varint of at most ten bytes whose value fits 64 bits. -/
def readVar : Nat → Nat → Nat → Bytes → Option (Nat × Bytes)
  | 0, _, _, _ => none
  | _ + 1, _, _, [] => none
  | k + 1, shift, acc, b :: bs =>
    let acc' := acc + (b.toNat % 128) * 2 ^ shift
    if b.toNat < 128 then (if acc' < 2 ^ 64 then some (acc', bs) else none)
    else readVar k (shift + 7) acc' bs

def readVarint (bs : Bytes) : Option (Nat × Bytes) := readVar 10 0 0 bs

def takeExact (n : Nat) (bs : Bytes) : Option (Bytes × Bytes) :=
  if n ≤ bs.length then some (bs.take n, bs.drop n) else none

/-- one record: key, then the payload its wire type prescribes (groups are not in the grammar). -/
def parseRec (bs : Bytes) : Option (Rec × Bytes) :=
  match readVarint bs with
  | none => none
  | some (key, r) =>
    let tag := key / 8
    if tag < 1 ∨ tag > 2 ^ 29 - 1 then none
    else match key % 8 with
      | 0 => match readVarint r with
        | some (_, r') => some ({ tag := tag, wt := .varint, payload := r.take (r.length - r'.length) }, r')
        | none => none
      | 1 => (takeExact 8 r).map fun (p, r') => ({ tag := tag, wt := .i64, payload := p }, r')
      | 5 => (takeExact 4 r).map fun (p, r') => ({ tag := tag, wt := .i32, payload := p }, r')
      | 2 => match readVarint r with
        | some (n, r') => match takeExact n r' with
          | some (_, r'') => some ({ tag := tag, wt := .len, payload := r.take (r.length - r''.length) }, r'')
          | none => none
        | none => none
      | _ => none

def parseRecs : Nat → Bytes → Option (List Rec)
  | 0, _ => none
  | f + 1, bs =>
    if bs.isEmpty then some []
    else match parseRec bs with
      | some (r, rest) => (parseRecs f rest).map (r :: ·)
      | none => none

/-- body of a length-delimited payload. -/
def unLen (p : Bytes) : Option Bytes :=
  match readVarint p with
  | some (n, r) => if r.length = n then some r else none
  | none => none

/-! ### strict parsing for the checker: keys and length prefixes in their minimal form
(what an encoder writes; `Spec.Enc` is about encoders, the decoder below is lenient) -/

def readCanon (bs : Bytes) : Option (Nat × Bytes) :=
  match readVarint bs with
  | some (n, r) => if bs = base128 n ++ r then some (n, r) else none
  | none => none

def parseRecC (bs : Bytes) : Option (Rec × Bytes) :=
  match readCanon bs with
  | none => none
  | some (key, r) =>
    let tag := key / 8
    if tag < 1 ∨ tag > 2 ^ 29 - 1 then none
    else match key % 8 with
      | 0 => match readVarint r with
        | some (_, r') => if r = r.take (r.length - r'.length) ++ r' then some ({ tag := tag, wt := .varint, payload := r.take (r.length - r'.length) }, r') else none
        | none => none
      | 1 => (takeExact 8 r).map fun (p, r') => ({ tag := tag, wt := .i64, payload := p }, r')
      | 5 => (takeExact 4 r).map fun (p, r') => ({ tag := tag, wt := .i32, payload := p }, r')
      | 2 => match readVarint r with
        | some (n, r') => match takeExact n r' with
          | some (_, r'') => if r = r.take (r.length - r''.length) ++ r'' then some ({ tag := tag, wt := .len, payload := r.take (r.length - r''.length) }, r'') else none
          | none => none
        | none => none
      | _ => none

def parseRecsC : Nat → Bytes → Option (List Rec)
  | 0, _ => none
  | f + 1, bs =>
    if bs.isEmpty then some []
    else match parseRecC bs with
      | some (r, rest) => (parseRecsC f rest).map (r :: ·)
      | none => none

/-- body of a length-delimited payload whose prefix is minimal. -/
def unLenC (p : Bytes) : Option Bytes :=
  match readCanon p with
  | some (n, r) => if r.length = n then some r else none
  | none => none

/-! ### the checker: does `rs` encode the value? (mirrors `EncSlots`, decidably) -/

def beqBytes (a b : Bytes) : Bool := decide (a = b)

/-- the prefix of `vs` whose payloads concatenate to exactly `b`; returns what is left of `vs`. -/
def eatRun (pt : PType) : Nat → Bytes → List SVal → Option (List SVal)
  | 0, _, _ => none
  | f + 1, b, vs =>
    if b.isEmpty then some vs
    else match vs with
      | v :: vs' =>
        let e := encScalar pt v
        if e.isPrefixOf b && !e.isEmpty then eatRun pt f (b.drop e.length) vs' else none
      | [] => none

/-- consume the records of a packable repeated field against the expected values. -/
def checkPacked (t : Nat) (ty : PFTy) : List Rec → List SVal → Bool
  | [], vs => vs.isEmpty
  | r :: rs, vs =>
    r.tag == t &&
    (if r.wt == wireOfTy ty && r.wt != .len then
      match vs with
      | v :: vs' => beqBytes r.payload (encScalar (scalarTy ty) v) && checkPacked t ty rs vs'
      | [] => false
    else if r.wt == .len then
      match unLenC r.payload with
      | some body =>
        if body.isEmpty then false
        else match eatRun (scalarTy ty) (body.length + 1) body vs with
          | some rest => checkPacked t ty rs rest
          | none => false
      | none => false
    else false)

def isZero : PFTy → EVal → Bool
  | .msg _, .msg fs => fs.exactDefault
  | .msg _, .s _ => false
  | _, .s x => x.exactDefault
  | _, .msg _ => false

/-- the canonical encoder omits scalar zeros only. -/
def isZeroS : PFTy → EVal → Bool
  | .msg _, _ => false
  | _, .s x => x.exactDefault
  | _, .msg _ => false

mutual
def checkE (ps : PSchema) : PFTy → EVal → Rec → Bool
  | .scalar t, .s x, r => r.wt == wireOf t && beqBytes r.payload (encScalar t x)
  | .enum, .s x, r => r.wt == .varint && beqBytes r.payload (encScalar .int32 x)
  | .msg i, .msg fs, r =>
    r.wt == .len &&
    match unLenC r.payload with
    | some body => match parseRecsC (body.length + 1) body with
      | some rs => checkSlots ps (pdecls ps i) fs rs
      | none => false
    | none => false
  | _, _, _ => false
def checkSlot (ps : PSchema) : PDecl → Slot → List Rec → Bool
  | .single t ty false, .req v, rs =>
    match rs with
    | [r] => r.tag == t && checkE ps ty v r
    | [] => isZero ty v
    | _ => false
  | .single _ _ true, .none, rs => rs.isEmpty
  | .single t ty true, .some v, rs =>
    match rs with
    | [r] => r.tag == t && checkE ps ty v r
    | _ => false
  | .rep t ty, .rep xs, rs =>
    if packable ty then
      match svalsOf xs with
      | some vs => checkPacked t ty rs vs
      | none => false
    else checkRep ps t ty xs rs
  | .map t k vty, .map kvs, rs => checkMap ps t k vty kvs rs
  | .oneof _, .none, rs => rs.isEmpty
  | .oneof vs, .one t v, rs =>
    match lookupP vs t, rs with
    | some ty, [r] => r.tag == t && checkE ps ty v r
    | _, _ => false
  | _, _, _ => false
def checkSlots (ps : PSchema) : List PDecl → Slots → List Rec → Bool
  | [], .nil, rs => rs.isEmpty
  | d :: ds, .cons v fs, rs =>
    checkSlot ps d v (rs.filter (fun r => d.tags.contains r.tag)) &&
    checkSlots ps ds fs (rs.filter (fun r => !d.tags.contains r.tag))
  | _, _, _ => false
def checkRep (ps : PSchema) (t : Nat) (ty : PFTy) : EVals → List Rec → Bool
  | .nil, rs => rs.isEmpty
  | .cons x xs, rs =>
    match rs with
    | r :: rs' => r.tag == t && checkE ps ty x r && checkRep ps t ty xs rs'
    | [] => false
def checkMap (ps : PSchema) (t : Nat) (k : PType) (vty : PFTy) : Pairs → List Rec → Bool
  | .nil, rs => rs.isEmpty
  | .cons kk v r, rs =>
    match rs with
    | e :: rs' =>
      e.tag == t && e.wt == .len &&
      (match unLenC e.payload with
       | some body => match parseRecsC (body.length + 1) body with
         | some es =>
           es.all (fun x => x.tag == 1 || x.tag == 2) &&
           (match es.filter (fun x => x.tag == 1) with
            | [kr] => kr.wt == wireOf k && beqBytes kr.payload (encScalar k kk)
            | [] => kk.exactDefault
            | _ => false) &&
           (match es.filter (fun x => x.tag == 2) with
            | [vr] => checkE ps vty v vr
            | [] => isZero vty v
            | _ => false)
         | none => false
       | none => false) &&
      checkMap ps t k vty r rs'
    | [] => false
end

/-- **the executable checker** for `Spec.Enc`. -/
def check (ps : PSchema) (i : Nat) (m : Slots) (bs : Bytes) : Bool :=
  match parseRecsC (bs.length + 1) bs with
  | some rs => checkSlots ps (pdecls ps i) m rs
  | none => false

/-! ### the canonical encoder: declaration order, packed runs, implicit defaults omitted -/

def keyOf (t : Nat) (wt : WireType) : Bytes := base128 (t * 8 + wt.code)

mutual
def sEncE (ps : PSchema) (t : Nat) : PFTy → EVal → Bytes
  | .scalar ty, .s x => keyOf t (wireOf ty) ++ encScalar ty x
  | .enum, .s x => keyOf t .varint ++ encScalar .int32 x
  | .msg i, .msg fs => keyOf t .len ++ lenDelim (sEncSlots ps (pdecls ps i) fs)
  | _, _ => []
def sEncSlot (ps : PSchema) : PDecl → Slot → Bytes
  | .single t ty false, .req v => if isZeroS ty v then [] else sEncE ps t ty v
  | .single t ty true, .some v => sEncE ps t ty v
  | .rep t ty, .rep xs =>
    if packable ty then
      match svalsOf xs with
      | some [] => []
      | some vs => keyOf t .len ++ lenDelim (vs.flatMap (encScalar (scalarTy ty)))
      | none => []
    else sEncRep ps t ty xs
  | .map t k vty, .map kvs => sEncMap ps t k vty kvs
  | .oneof vs, .one t v =>
    match lookupP vs t with
    | some ty => sEncE ps t ty v
    | none => []
  | _, _ => []
def sEncSlots (ps : PSchema) : List PDecl → Slots → Bytes
  | d :: ds, .cons v fs => sEncSlot ps d v ++ sEncSlots ps ds fs
  | _, _ => []
def sEncRep (ps : PSchema) (t : Nat) (ty : PFTy) : EVals → Bytes
  | .nil => []
  | .cons x xs => sEncE ps t ty x ++ sEncRep ps t ty xs
def sEncMap (ps : PSchema) (t : Nat) (k : PType) (vty : PFTy) : Pairs → Bytes
  | .nil => []
  | .cons kk v r =>
    keyOf t .len ++ lenDelim ((if kk.exactDefault then [] else keyOf 1 (wireOf k) ++ encScalar k kk) ++
      (if isZeroS vty v then [] else sEncE ps 2 vty v)) ++ sEncMap ps t k vty r
end

def encode (ps : PSchema) (i : Nat) (m : Slots) : Bytes := sEncSlots ps (pdecls ps i) m

/-! ### the reference decoder -/

def toSigned (bits : Nat) (n : Nat) : Int :=
  let m := n % 2 ^ bits
  if m < 2 ^ (bits - 1) then (m : Int) else (m : Int) - (2 ^ bits : Nat)

def unzz (n : Nat) : Int := if n % 2 = 0 then ((n / 2 : Nat) : Int) else -((n / 2 : Nat) : Int) - 1

def leNat : Bytes → Nat
  | [] => 0
  | b :: bs => b.toNat + 256 * leNat bs

/-- a scalar of the declared type from a payload of the right wire type. -/
def decScalar : PType → Bytes → Option (SVal × Bytes)
  | .int32, p => (readVarint p).map fun (n, r) => (.int (toSigned 32 n), r)
  | .int64, p => (readVarint p).map fun (n, r) => (.int (toSigned 64 n), r)
  | .uint32, p => (readVarint p).map fun (n, r) => (.int ((n % 2 ^ 32 : Nat) : Int), r)
  | .uint64, p => (readVarint p).map fun (n, r) => (.int (n : Int), r)
  | .sint32, p => (readVarint p).map fun (n, r) => (.int (unzz (n % 2 ^ 32)), r)
  | .sint64, p => (readVarint p).map fun (n, r) => (.int (unzz n), r)
  | .bool, p => (readVarint p).map fun (n, r) => (.bool (n != 0), r)
  | .fixed32, p => (takeExact 4 p).map fun (w, r) => (.int (leNat w : Nat), r)
  | .sfixed32, p => (takeExact 4 p).map fun (w, r) => (.int (toSigned 32 (leNat w)), r)
  | .float, p => (takeExact 4 p).map fun (w, r) => (.f32 (leNat w), r)
  | .fixed64, p => (takeExact 8 p).map fun (w, r) => (.int (leNat w : Nat), r)
  | .sfixed64, p => (takeExact 8 p).map fun (w, r) => (.int (toSigned 64 (leNat w)), r)
  | .double, p => (takeExact 8 p).map fun (w, r) => (.f64 (leNat w), r)
  | .string, p => match unLen p with
    | some b => if validUtf8 b then some (.bs b, []) else none
    | none => none
  | .bytes, p => (unLen p).map fun b => (.bs b, [])

def decOne (t : PType) (r : Rec) : Option SVal :=
  if r.wt != wireOf t then none
  else match decScalar t r.payload with
    | some (v, []) => some v
    | _ => none

/-- all scalars of a packed run. -/
def decRun (t : PType) : Nat → Bytes → Option (List SVal)
  | 0, _ => none
  | f + 1, b =>
    if b.isEmpty then some []
    else match decScalar t b with
      | some (v, r) => if r.length < b.length then (decRun t f r).map (v :: ·) else none
      | none => none

def pairsInsert (k : SVal) (v : EVal) : Pairs → Pairs
  | .nil => .cons k v .nil
  | .cons k' v' r => if k' = k then .cons k' v r else .cons k' v' (pairsInsert k v r)

def zeroVal : PType → SVal
  | .bool => .bool false
  | .float => .f32 0
  | .double => .f64 0
  | .string | .bytes => .bs []
  | _ => .int 0

def defaultOfTy (dm : Nat → Slots) : PFTy → EVal
  | .scalar t => .s (zeroVal t)
  | .enum => .s (.int 0)
  | .msg i => .msg (dm i)

def defaultSlotOf (dm : Nat → Slots) : PDecl → Slot
  | .single _ ty false => .req (defaultOfTy dm ty)
  | .single _ _ true => .none
  | .rep _ _ => .rep .nil
  | .map _ _ _ => .map .nil
  | .oneof _ => .none

def defaultSlotsOf (dm : Nat → Slots) : List PDecl → Slots
  | [] => .nil
  | d :: ds => .cons (defaultSlotOf dm d) (defaultSlotsOf dm ds)

def defaultMsgOf (ps : PSchema) : Nat → Nat → Slots
  | 0, _ => .nil
  | f + 1, i => defaultSlotsOf (defaultMsgOf ps f) (pdecls ps i)

/-- merge one record into the value of a declared type (`rec` decodes a nested message body). -/
def decE (ps : PSchema) (rec : Nat → Slots → List Rec → Option Slots) (ty : PFTy) (cur : EVal) (r : Rec) : Option EVal :=
  match ty with
  | .scalar t => (decOne t r).map .s
  | .enum => (decOne .int32 r).map .s
  | .msg i =>
    if r.wt != .len then none
    else match unLen r.payload with
      | some body => match parseRecs (body.length + 1) body with
        | some rs => (rec i cur.fields rs).map .msg
        | none => none
      | none => none

def decSlot (ps : PSchema) (rec : Nat → Slots → List Rec → Option Slots) (dm : Nat → Slots) (d : PDecl) (cur : Slot) (r : Rec) :
    Option Slot :=
  match d, cur with
  | .single _ ty false, .req v => (decE ps rec ty v r).map .req
  | .single _ ty true, cur =>
    let v := match cur with | .some v => v | _ => defaultOfTy dm ty
    (decE ps rec ty v r).map .some
  | .rep _ ty, .rep xs =>
    if packable ty && r.wt == .len then
      match unLen r.payload with
      | some body => (decRun (scalarTy ty) (body.length + 1) body).map fun vs => .rep (xs.append (svalsToE vs))
      | none => none
    else (decE ps rec ty (defaultOfTy dm ty) r).map fun v => .rep (xs.snoc v)
  | .map _ k vty, .map kvs =>
    if r.wt != .len then none
    else match unLen r.payload with
      | some body => match parseRecs (body.length + 1) body with
        | some es =>
          let step (acc : Option (SVal × EVal)) (x : Rec) : Option (SVal × EVal) :=
            match acc with
            | none => none
            | some (kk, vv) =>
              if x.tag == 1 then (decOne k x).map fun k' => (k', vv)
              else if x.tag == 2 then (decE ps rec vty vv x).map fun v' => (kk, v')
              else some (kk, vv)
          (es.foldl step (some (zeroVal k, defaultOfTy dm vty))).map fun (kk, vv) => .map (pairsInsert kk vv kvs)
        | none => none
      | none => none
  | .oneof vs, cur =>
    match lookupP vs r.tag with
    | some ty =>
      let v := match cur with
        | .one t v => if t = r.tag then v else defaultOfTy dm ty
        | _ => defaultOfTy dm ty
      (decE ps rec ty v r).map (.one r.tag)
    | none => none
  | _, _ => none

def decInto (ps : PSchema) (rec : Nat → Slots → List Rec → Option Slots) (dm : Nat → Slots) (r : Rec) :
    List PDecl → Slots → Option Slots
  | [], m => some m                                         -- unknown field: ignored
  | d :: ds, .cons v fs =>
    if d.tags.contains r.tag then (decSlot ps rec dm d v r).map fun v' => .cons v' fs
    else (decInto ps rec dm r ds fs).map fun fs' => .cons v fs'
  | _ :: _, .nil => none

/-- fold the records of a message body into a value of message `i`; `depth` bounds nesting. -/
def decMsg (ps : PSchema) : Nat → Nat → Slots → List Rec → Option Slots
  | 0, _, _, _ => none
  | depth + 1, i, m, rs =>
    rs.foldl (fun acc r => match acc with
      | some m => decInto ps (decMsg ps depth) (defaultMsgOf ps ps.length) r (pdecls ps i) m
      | none => none) (some m)

/-- **the reference decoder**: nesting up to 100 like every protobuf implementation. -/
def decode (ps : PSchema) (i : Nat) (bs : Bytes) : Option Slots :=
  match parseRecs (bs.length + 1) bs with
  | some rs => decMsg ps 101 i (defaultMsgOf ps ps.length i) rs
  | none => none

end Pilota.Proto.Spec
