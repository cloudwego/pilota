import PilotaModel.Proto.Typing
import PilotaModel.Proto.Lowering
/-
  C06 — an independent, schema-directed reference for the protobuf wire format, written from the
  encoding guide (protobuf.dev/programming-guides/encoding), not from pilota:

    * a message is a sequence of records `key payload`, key = varint of `(field_number << 3) | wire_type`;
    * wire types: 0 VARINT (int32 int64 uint32 uint64 sint32 sint64 bool enum), 1 I64 (fixed64 sfixed64 double),
      2 LEN (string bytes embedded messages packed repeated fields), 5 I32 (fixed32 sfixed32 float);
    * varints are little-endian base-128 groups, continuation bit on every byte but the last;
    * int32 / int64 / enum: two's complement, NEGATIVE VALUES SIGN-EXTENDED TO 64 BITS (ten bytes);
    * sint32 / sint64: ZigZag, `(n << 1) ^ (n >> 31)` resp. `>> 63`; bool: 0 / 1;
    * fixed-width values little-endian; float / double IEEE-754 bits;
    * string: UTF-8 bytes after a varint length; bytes likewise; embedded message likewise;
    * repeated scalar numeric fields: one record per element, or packed runs (LEN record holding the
      concatenated payloads), mixed and split arbitrarily; parsers must accept both;
    * map<K,V> field = repeated embedded message { K key = 1; V value = 2; };
    * fields may appear in any order; a field equal to its default may be omitted (implicit presence);
    * every length prefix is a 64-bit quantity (`< 2 ^ 64`).

  `Spec.Enc ps i m bs`: `bs` is a conforming encoding of value `m` of message `i` of the declared
  schema `ps`.  `lowerSchema` is pilota-build's lowering of the declared schema to codec modules.
-/
namespace Pilota.Proto.Spec
open Pilota Pilota.Proto

inductive PFTy where
  | scalar (t : PType)
  | enum
  | msg (i : Nat)
  deriving DecidableEq, Repr, Inhabited

inductive PDecl where
  | single (tag : Nat) (ty : PFTy) (opt : Bool)   -- `opt`: explicit presence (`optional`, proto3 message field)
  | rep (tag : Nat) (ty : PFTy)
  | map (tag : Nat) (k : PType) (v : PFTy)
  | oneof (vs : List (Nat × PFTy))
  deriving Repr, Inhabited

abbrev PSchema := List (List PDecl)

def pdecls (ps : PSchema) (i : Nat) : List PDecl := ps.getD i []

def PDecl.tags : PDecl → List Nat
  | .single t _ _ => [t]
  | .rep t _ => [t]
  | .map t _ _ => [t]
  | .oneof vs => vs.map (·.1)

/-! ### pilota-build's lowering of declared types (tied to the source by T2, `Props/PbTables`) -/

def lowerTy : PFTy → FTy
  | .scalar t => .scalar t.codec
  | .enum => .scalar .int32
  | .msg i => .msg i

def lowerDecl : PDecl → FieldDecl
  | .single t ty opt => .single t (lowerTy ty) opt
  | .rep t ty => .rep t (lowerTy ty)
  | .map t k v => .map t k.codec (lowerTy v)
  | .oneof vs => .oneof (vs.map fun p => (p.1, lowerTy p.2))

def lowerSchema (ps : PSchema) : Schema := ps.map (fun ds => ds.map lowerDecl)

/-! ### scalars, from the encoding guide -/

/-- base-128 varint. -/
def base128 (n : Nat) : Bytes :=
  if h : n < 128 then [UInt8.ofNat n]
  else UInt8.ofNat (n % 128 + 128) :: base128 (n / 128)
termination_by n
decreasing_by omega

/-- two's complement on 64 bits. -/
def twos64 (i : Int) : Nat := (i % (2 ^ 64 : Int)).toNat

/-- ZigZag. -/
def zz (i : Int) : Nat := if 0 ≤ i then (2 * i).toNat else (-2 * i - 1).toNat

def littleEndian : Nat → Nat → Bytes
  | 0, _ => []
  | w + 1, n => UInt8.ofNat (n % 256) :: littleEndian w (n / 256)

def wireOf : PType → WireType
  | .int32 | .int64 | .uint32 | .uint64 | .sint32 | .sint64 | .bool => .varint
  | .fixed64 | .sfixed64 | .double => .i64
  | .string | .bytes => .len
  | .fixed32 | .sfixed32 | .float => .i32

/-- the payload of a scalar field of the declared type. -/
def encScalar : PType → SVal → Bytes
  | .int32, v | .int64, v => base128 (twos64 v.asInt)
  | .uint32, v | .uint64, v => base128 v.asInt.toNat
  | .sint32, v | .sint64, v => base128 (zz v.asInt)
  | .bool, v => base128 (if v.asBool then 1 else 0)
  | .fixed32, v => littleEndian 4 v.asInt.toNat
  | .sfixed32, v => littleEndian 4 (v.asInt % (2 ^ 32 : Int)).toNat
  | .fixed64, v => littleEndian 8 v.asInt.toNat
  | .sfixed64, v => littleEndian 8 (v.asInt % (2 ^ 64 : Int)).toNat
  | .float, v => littleEndian 4 v.asBits
  | .double, v => littleEndian 8 v.asBits
  | .string, v | .bytes, v => base128 v.asBytes.length ++ v.asBytes

/-- numeric types may be packed. -/
def packable : PFTy → Bool
  | .scalar .string | .scalar .bytes | .msg _ => false
  | _ => true

def wireOfTy : PFTy → WireType
  | .scalar t => wireOf t
  | .enum => .varint
  | .msg _ => .len

def scalarTy : PFTy → PType
  | .scalar t => t
  | _ => .int32          -- enum

/-! ### records -/

structure Rec where
  tag : Nat
  wt : WireType
  payload : Bytes
  deriving Repr

def Rec.bytes (r : Rec) : Bytes := base128 (r.tag * 8 + r.wt.code) ++ r.payload

def flat (rs : List Rec) : Bytes := rs.flatMap Rec.bytes

/-- a length-delimited payload. -/
def lenDelim (body : Bytes) : Bytes := base128 body.length ++ body

def svalsOf : EVals → Option (List SVal)
  | .nil => some []
  | .cons (.s x) r => (svalsOf r).map (x :: ·)
  | .cons (.msg _) _ => none

/-- the records of a packable repeated field: each record is one element, or a packed run of any
number of the next elements (runs may be split anywhere). -/
def EncPacked (t : Nat) (ty : PFTy) : List Rec → List SVal → Prop
  | [], vs => vs = []
  | r :: rs, vs =>
    r.tag = t ∧
    ((r.wt = wireOfTy ty ∧ ∃ v vs', vs = v :: vs' ∧ r.payload = encScalar (scalarTy ty) v ∧ EncPacked t ty rs vs') ∨
     (r.wt = .len ∧ ∃ chunk rest, vs = chunk ++ rest ∧ chunk ≠ [] ∧
        r.payload = lenDelim (chunk.flatMap (encScalar (scalarTy ty))) ∧
        (chunk.flatMap (encScalar (scalarTy ty))).length < 2 ^ 64 ∧ EncPacked t ty rs rest))

/-- the zero value of a declared type, bit for bit: what an omitted field means to a parser (a
scalar zero / empty string; for an embedded message, the message with every field at its zero). -/
def zeroOf : PFTy → EVal → Prop
  | .msg _, .msg fs => fs.exactDefault = true
  | .msg _, .s _ => False
  | _, .s x => x.exactDefault = true
  | _, .msg _ => False

def lookupP (vs : List (Nat × PFTy)) (t : Nat) : Option PFTy :=
  match vs.find? (fun p => p.1 == t) with
  | some p => some p.2
  | none => none

mutual
/-- one record holding one value of the declared type. -/
def EncE (ps : PSchema) : PFTy → EVal → Rec → Prop
  | .scalar t, .s x, r => r.wt = wireOf t ∧ r.payload = encScalar t x
  | .enum, .s x, r => r.wt = .varint ∧ r.payload = encScalar .int32 x
  | .msg i, .msg fs, r =>
    r.wt = .len ∧ ∃ rs, r.payload = lenDelim (flat rs) ∧ (flat rs).length < 2 ^ 64 ∧ EncSlots ps (pdecls ps i) fs rs
  | _, _, _ => False
/-- the records of one field, in their relative order. -/
def EncSlot (ps : PSchema) : PDecl → Slot → List Rec → Prop
  | .single t ty false, .req v, rs => (∃ r, rs = [r] ∧ r.tag = t ∧ EncE ps ty v r) ∨ (rs = [] ∧ zeroOf ty v)
  | .single _ _ true, .none, rs => rs = []
  | .single t ty true, .some v, rs => ∃ r, rs = [r] ∧ r.tag = t ∧ EncE ps ty v r
  | .rep t ty, .rep xs, rs =>
    if packable ty then ∃ vs, svalsOf xs = some vs ∧ EncPacked t ty rs vs
    else EncRep ps t ty xs rs
  | .map t k vty, .map kvs, rs => EncMap ps t k vty kvs rs
  | .oneof _, .none, rs => rs = []
  | .oneof vs, .one t v, rs => ∃ ty r, lookupP vs t = some ty ∧ rs = [r] ∧ r.tag = t ∧ EncE ps ty v r
  | _, _, _ => False
/-- a message body: every record belongs to a declared field; the records of each field, picked
out by field number in the order they appear, encode that field's value.  Fields may interleave. -/
def EncSlots (ps : PSchema) : List PDecl → Slots → List Rec → Prop
  | [], .nil, rs => rs = []
  | d :: ds, .cons v fs, rs =>
    EncSlot ps d v (rs.filter (fun r => d.tags.contains r.tag)) ∧
    EncSlots ps ds fs (rs.filter (fun r => !d.tags.contains r.tag))
  | _, _, _ => False
/-- non-packable repeated field: one record per element. -/
def EncRep (ps : PSchema) (t : Nat) (ty : PFTy) : EVals → List Rec → Prop
  | .nil, rs => rs = []
  | .cons x xs, rs => ∃ r rs', rs = r :: rs' ∧ r.tag = t ∧ EncE ps ty x r ∧ EncRep ps t ty xs rs'
/-- map field: one entry record per pair; inside an entry the key is field 1 and the value field 2,
in either order, and each may be omitted when it is the zero value. -/
def EncMap (ps : PSchema) (t : Nat) (k : PType) (vty : PFTy) : Pairs → List Rec → Prop
  | .nil, rs => rs = []
  | .cons kk v r, rs =>
    ∃ e rs', rs = e :: rs' ∧ e.tag = t ∧ e.wt = .len ∧
      (∃ es, e.payload = lenDelim (flat es) ∧ (flat es).length < 2 ^ 64 ∧ (∀ x ∈ es, x.tag = 1 ∨ x.tag = 2) ∧
        ((∃ kr, es.filter (fun x => x.tag == 1) = [kr] ∧ kr.wt = wireOf k ∧ kr.payload = encScalar k kk) ∨
          (es.filter (fun x => x.tag == 1) = [] ∧ kk.exactDefault = true)) ∧
        ((∃ vr, es.filter (fun x => x.tag == 2) = [vr] ∧ EncE ps vty v vr) ∨
          (es.filter (fun x => x.tag == 2) = [] ∧ zeroOf vty v))) ∧
      EncMap ps t k vty r rs'
end

/-- **the specification relation**: `bs` is a conforming encoding of value `m` of message `i`. -/
def Enc (ps : PSchema) (i : Nat) (m : Slots) (bs : Bytes) : Prop :=
  ∃ rs, bs = flat rs ∧ EncSlots ps (pdecls ps i) m rs

end Pilota.Proto.Spec
