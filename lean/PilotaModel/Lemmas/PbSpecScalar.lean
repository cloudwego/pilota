import PilotaModel.Lemmas.PbScalar
import PilotaModel.Proto.SpecExec
/-
  Every codec module writes, for every value of its Rust type, exactly what the encoding guide
  prescribes for the declared type it implements (`Codec.wireClass`).
-/
namespace Pilota.Proto
open Pilota

/-- the declared type whose wire encoding a codec module implements. -/
def Codec.wireClass : Codec → PType
  | .bool => .bool | .int32 => .int32 | .int64 => .int64 | .uint32 => .uint32 | .uint64 => .uint64
  | .sint32 => .sint32 | .sint64 => .sint64 | .float => .float | .double => .double
  | .fixed32 => .fixed32 | .fixed64 => .fixed64 | .sfixed32 => .sfixed32 | .sfixed64 => .sfixed64
  | .string => .string | .faststr => .string | .bytes => .bytes

namespace Spec

theorem base128_eq (n : Nat) : base128 n = encVar n := by
  fun_induction base128 n <;> rw [encVar]
  · rw [dif_pos ‹_›]
  · rw [dif_neg ‹_›, ‹base128 _ = _›]

theorem littleEndian_eq (w n : Nat) : littleEndian w n = natToLE w n := by
  fun_induction littleEndian w n
  · rfl
  · rename_i ih; rw [natToLE, ih]

theorem twos64_eq (i : Int) : twos64 i = toU 8 i := by
  unfold twos64 toU
  rw [p8]; rfl

theorem zz_eq (i : Int) : zz i = zigzag i := rfl

end Spec

theorem natToLE_mod (w n : Nat) : natToLE w (n % 256 ^ w) = natToLE w n := by
  induction w generalizing n with
  | zero => rfl
  | succ w ih =>
    simp only [natToLE]
    have h1 : n % 256 ^ (w + 1) % 256 = n % 256 := by
      rw [Nat.pow_succ, Nat.mul_comm]; exact Nat.mod_mul_right_mod n 256 (256 ^ w)
    have h2 : n % 256 ^ (w + 1) / 256 = (n / 256) % 256 ^ w := by
      rw [Nat.pow_succ, Nat.mul_comm]; exact Nat.mod_mul_right_div_self n 256 (256 ^ w)
    rw [h1, h2, ih]

theorem Codec.wt_wireClass (c : Codec) : c.wt = Spec.wireOf c.wireClass := by cases c <;> rfl

/-- **each module conforms**: wire type and payload are those of the encoding guide. -/
theorem module_conforms (c : Codec) (v : SVal) (hv : c.ok v = true) :
    c.wt = Spec.wireOf c.wireClass ∧ c.encPayload v = Spec.encScalar c.wireClass v := by
  refine ⟨c.wt_wireClass, ?_⟩
  -- bool, int32 / int64, floats, strings and bytes write the prescribed payload whatever the value;
  -- the other modules convert through `u32` / `u64`, which is the identity on the values of the Rust type.
  cases c <;> simp only [Codec.encPayload, Codec.shape, Codec.toU64, Codec.toFixed, Codec.wireClass, Spec.encScalar, encodeVarint,
      Spec.base128_eq, Spec.littleEndian_eq, Spec.twos64_eq]
  case sfixed32 => unfold toU; rw [p4]; rfl
  case sfixed64 => unfold toU; rw [p8]; rfl
  case uint32 | fixed32 =>
    cases v with
    | int n => congr 1; exact (Int.toNat_natCast _).symm.trans (congrArg Int.toNat (toU4_nonneg n (of_decide_eq_true hv).1 (of_decide_eq_true hv).2))
    | _ => cases hv
  case uint64 | fixed64 =>
    cases v with
    | int n => congr 1; exact (Int.toNat_natCast _).symm.trans (congrArg Int.toNat (toU8_nonneg n (of_decide_eq_true hv).1 (of_decide_eq_true hv).2))
    | _ => cases hv
  case sint32 =>
    cases v with
    | int n => exact congrArg encVar (Nat.mod_eq_of_lt (zigzag4_lt n (of_decide_eq_true hv)))
    | _ => cases hv
  case sint64 =>
    cases v with
    | int n => exact congrArg encVar (Nat.mod_eq_of_lt (zigzag8_lt n (of_decide_eq_true hv)))
    | _ => cases hv

end Pilota.Proto
