import PilotaModel.Lemmas.PbLoop
/-
  Unknown fields: a record whose field number the struct does not declare is skipped and
  leaves the value unchanged, wherever it stands between two records.
-/
namespace Pilota.Proto
open Pilota

theorem mergeField_len (s : Schema) (ctx : Nat) (ds : List FieldDecl) (m m' : Slots) (tag : Nat) (wt : WireType) (bs r : Bytes)
    (h : mergeField s ctx ds m tag wt bs = .ok (m', r)) : m'.length = m.length := by
  rw [mergeField_eq] at h
  induction ds generalizing m m' with
  | nil =>
    rw [mergeFieldWith_nil] at h
    cases hsk : skipField ctx wt tag bs <;> rw [hsk] at h <;> cases h
    rfl
  | cons d ds ih =>
    cases m with
    | nil => cases h
    | cons v rest =>
      by_cases ht : d.tags.contains tag = true
      · rw [mergeFieldWith_hit ht] at h
        cases hm : mergeSlot s (recurOf s ctx) d v tag wt bs <;> rw [hm] at h <;> cases h
        rfl
      · rw [mergeFieldWith_miss ht] at h
        cases hm : mergeFieldWith s (recurOf s ctx) ctx ds rest tag wt bs <;> rw [hm] at h <;> cases h
        exact congrArg (· + 1) (ih rest _ hm)

theorem mergeField_undeclared (s : Schema) (ctx : Nat) (tag : Nat) (wt : WireType) (bs : Bytes) :
    ∀ (ds : List FieldDecl) (m : Slots), (∀ d ∈ ds, d.tags.contains tag = false) → m.length = ds.length →
      mergeField s ctx ds m tag wt bs = Out.mapOk (fun r => (m, r)) (skipField ctx wt tag bs) := by
  rw [mergeField_eq]
  intro ds
  induction ds with
  | nil => intro m _ _; exact mergeFieldWith_nil ..
  | cons d ds ih =>
    intro m hd hl
    cases m with
    | nil => cases hl
    | cons v rest =>
      rw [mergeFieldWith_miss (by rw [hd d (by simp)]; exact Bool.false_ne_true),
        ih rest (fun x hx => hd x (by simp [hx])) (Nat.succ.inj hl)]
      cases skipField ctx wt tag bs <;> rfl

theorem loop_len (s : Schema) (ctx : Nat) (ds : List FieldDecl) (limit : Nat) :
    ∀ (f : Nat) (m : Slots) (bs : Bytes) (m' : Slots) (r : Bytes),
      mergeLoopGo (fieldStep (mergeField s ctx) ds) f m bs limit = .ok (m', r) → m'.length = m.length := by
  intro f
  induction f with
  | zero => intro m bs m' r h; simp [mergeLoopGo] at h
  | succ f ih =>
    intro m bs m' r h
    unfold mergeLoopGo at h
    split at h
    · unfold fieldStep at h
      cases hk : decodeKey bs with
      | ok p =>
        rw [hk] at h
        cases hs : mergeField s ctx ds m p.1.1 p.1.2 p.2 with
        | ok q => simp only [hs] at h; rw [ih _ _ _ _ h, mergeField_len s ctx ds m q.1 _ _ _ q.2 hs]
        | _ => simp only [hs] at h; cases h
      | _ => rw [hk] at h; cases h
    · split at h
      · cases h
      · cases h; rfl

/-- at top level `limit = 0`; inside a nested message `limit` is the length of what follows it. -/
theorem unknown_ignored_loop (s : Schema) (ctx : Nat) (ds : List FieldDecl) (m m' : Slots) (a b : Bytes) (tag : Nat)
    (wt : WireType) (payload : Bytes) (hal : m.length = ds.length) (hund : ∀ d ∈ ds, d.tags.contains tag = false)
    (h1 : minTag ≤ tag) (h2 : tag ≤ maxTag) (hsk : skipField ctx wt tag payload = .ok [])
    (fa : Nat) (ha : mergeLoopGo (fieldStep (mergeField s ctx) ds) fa m a 0 = .ok (m', []))
    (limit : Nat) (hl : limit ≤ b.length) (f : Nat) (hf : (a ++ (keyBytes tag wt ++ (payload ++ b))).length < f) :
    mergeLoopGo (fieldStep (mergeField s ctx) ds) f m (a ++ (keyBytes tag wt ++ (payload ++ b))) limit
      = mergeLoopGo (fieldStep (mergeField s ctx) ds) f m (a ++ b) limit := by
  have hs := mergeFieldStep_reader s ctx ds
  have hkp := keyBytes_pos tag wt
  rw [loop_concat _ hs m m' a _ fa ha limit (by simp only [List.length_append]; omega) f hf]
  rw [loop_concat _ hs m m' a b fa ha limit hl f (by simp only [List.length_append] at hf ⊢; omega)]
  have hal' : m'.length = ds.length := by rw [loop_len s ctx ds 0 fa m a m' [] ha, hal]
  obtain ⟨f, rfl⟩ : ∃ g, f = g + 1 := ⟨f - 1, by omega⟩
  conv => lhs; unfold mergeLoopGo
  have hgt : (keyBytes tag wt ++ (payload ++ b)).length > limit := by simp only [List.length_append]; omega
  simp only [hgt, if_true, fieldStep, decodeKey_keyBytes tag wt h1 h2, mergeField_undeclared s ctx tag wt _ ds m' hund hal',
    (skipField_skipper b ctx wt tag payload).ext hsk, Out.mapOk, List.nil_append]
  exact mergeLoopGo_fuel_indep _ (mergeFieldStep_ok s ctx ds) limit f (f + 1) m' b (by simp only [List.length_append] at hf; omega)
    (by simp only [List.length_append] at hf; omega)

end Pilota.Proto
