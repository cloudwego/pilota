import PilotaModel.Lemmas.AsyncFlat
import PilotaModel.Lemmas.SkipRead
/-  `TAsyncBinaryProtocol` (both byte orders) on flat bytes vs. the in-memory `TBinaryProtocol` reader. -/
namespace Pilota.Thrift.Async
open Pilota Pilota.Thrift

/-! The in-memory skippers (`Skip.skipVal`, `Skip.rdSkip`) keep the depth as an `Int`, hand the ENCLOSING depth to the
field / element loops and keep the `i8` overflow of `depth - 1` at `-128` as a panic branch; the async skippers
(`ABin.skip`, `ACmp.skip`) keep a `Nat` and hand the loops the depth already counted down.  Hence `d` on one side
is `d + 1` on the other in the loops' simulation statements. -/
theorem depth_pred (d : Nat) : ((d + 1 : Nat) : Int) - 1 = (d : Int) := by omega
theorem depth_ne_min (d : Nat) : ¬ (((d + 1 : Nat) : Int) = -128) := by omega

namespace ABin

@[simp] theorem runF_ret {α} (a : α) (bs : Bytes) : runF (Prog.ret a) bs = .ok (a, bs) := rfl
@[simp] theorem runF_fail {α} (k : ErrKind) (bs : Bytes) : runF (Prog.fail k : Prog α) bs = .err k := rfl

theorem runF_readU (e : Endian) (w : Nat) (bs : Bytes) : runF (readU e w) bs = Binary.readU e w bs := by
  unfold readU runF Binary.readU
  cases Binary.takeN w bs <;> rfl

theorem runF_readI (e : Endian) (w : Nat) (bs : Bytes) : runF (readI e w) bs = Binary.readI e w bs := by
  unfold readI runF Binary.readI Binary.readU
  cases Binary.takeN w bs <;> rfl

theorem runF_readByte (bs : Bytes) : runF readByte bs = Binary.readByte bs :=
  (runF_readU .be 1 bs).trans (Binary.readByte_as_readU bs).symm

theorem runF_readTType (bs : Bytes) : runF readTType bs = Binary.readTType bs := by
  unfold readTType Binary.readTType
  rw [runF_bind, runF_readByte]
  cases Binary.readByte bs with
  | ok p => obtain ⟨b, r⟩ := p; dsimp only [bindP]; cases TType.ofByte b <;> rfl
  | _ => rfl

theorem runF_readFieldBegin (e : Endian) (bs : Bytes) : runF (readFieldBegin e) bs = Binary.readFieldBegin e bs := by
  unfold readFieldBegin Binary.readFieldBegin
  rw [runF_bind, runF_readTType]
  cases Binary.readTType bs with
  | ok p =>
    obtain ⟨t, r⟩ := p
    dsimp only [bindP]
    split
    · rfl
    · rw [runF_bind, runF_readI]; cases Binary.readI e 2 r <;> rfl
  | _ => rfl

/-- payload read: on an input a slice can hold (`len ≤ isize::MAX`) the two readers accept the same
inputs with the same result. -/
theorem readBytes_iff (e : Endian) (bs : Bytes) (hb : bs.length < 2 ^ 63) (q : Bytes × Bytes) :
    runF (readBytes e) bs = .ok q ↔ Binary.readBytes e bs = .ok q := by
  simp only [readBytes, runF_bind, runF_readI, Binary.readBytes, bindP]
  cases hx : Binary.readI e 4 bs with
  | ok p =>
    obtain ⟨len, r⟩ := p
    simp only
    have hin := Binary.readI_inS e 4 (by decide) _ _ _ hx
    have hr := Binary.readI_len hx
    by_cases hneg : len < 0
    · have hbig := Binary.asUsize_of_neg len hneg hin
      have hle : ¬ (Binary.asUsize len ≤ r.length) := by omega
      simp [hneg, hle]
    · have hu := Binary.asUsize_of_nonneg len (by omega) hin
      simp only [hneg, if_false, runF, hu, Binary.takeN, Binary.splitTo]
      by_cases hle : len.toNat ≤ r.length <;> simp [hle]
  | err k => simp
  | panic m => simp
  | fuel => simp

/-! `check_container_size` (in-memory readers only): the count, read as `usize`, must not exceed the bytes left.
A negative `i32` count is a `usize` of at least `2^63`, more than any slice holds. -/

theorem checkSize_of_asUsize {n : Int} {r : Bytes} (hn : inS 4 n) (hr : r.length < 2 ^ 63)
    (hm : Binary.asUsize n ≤ r.length) : Binary.checkSize n r = .ok (Binary.asUsize n) := by
  have h0 : 0 ≤ n := Int.not_lt.mp fun h => by have := Binary.asUsize_of_neg n h hn; omega
  rw [Binary.asUsize_of_nonneg n h0 hn] at hm ⊢
  have := Binary.checkSize_ok n.toNat r hm
  rwa [Int.toNat_of_nonneg h0] at this

theorem readListBegin_of_sync {e : Endian} {bs : Bytes} {q : (TType × Nat) × Bytes}
    (h : Binary.readListBegin e bs = .ok q) : runF (readListBegin e) bs = .ok q := by
  unfold Binary.readListBegin at h
  ok_step h; rename_i hx; ok_step h; rename_i hy; ok_step h; rename_i hc
  simp only [readListBegin, runF_bind, runF_readTType, runF_readI, hx, hy, bindP, runF_ret,
    Binary.asUsize_of_checkSize (Binary.readI_inS e 4 (by decide) _ _ _ hy) hc]
  exact h

theorem sync_of_readListBegin {e : Endian} {bs : Bytes} (hb : bs.length < 2 ^ 63) {t : TType} {m : Nat} {r : Bytes}
    (h : runF (readListBegin e) bs = .ok ((t, m), r)) (hm : m ≤ r.length) :
    Binary.readListBegin e bs = .ok ((t, m), r) := by
  simp only [readListBegin, runF_bind_ok, runF_ret, Out.ok.injEq, Prod.mk.injEq] at h
  obtain ⟨_, r1, h1, n, _, h2, ⟨rfl, rfl⟩, rfl⟩ := h
  have hr := runF_lt_of_lt h2 (runF_lt_of_lt h1 hb)
  rw [runF_readTType] at h1; rw [runF_readI] at h2
  simp only [Binary.readListBegin, h1, h2, checkSize_of_asUsize (Binary.readI_inS e 4 (by decide) _ _ _ h2) hr hm]

theorem readMapBegin_of_sync {e : Endian} {bs : Bytes} {q : (TType × TType × Nat) × Bytes}
    (h : Binary.readMapBegin e bs = .ok q) : runF (readMapBegin e) bs = .ok q := by
  unfold Binary.readMapBegin at h
  ok_step h; rename_i hx; ok_step h; rename_i hx'; ok_step h; rename_i hy; ok_step h; rename_i hc
  simp only [readMapBegin, runF_bind, runF_readTType, runF_readI, hx, hx', hy, bindP, runF_ret,
    Binary.asUsize_of_checkSize (Binary.readI_inS e 4 (by decide) _ _ _ hy) hc]
  exact h

theorem sync_of_readMapBegin {e : Endian} {bs : Bytes} (hb : bs.length < 2 ^ 63) {kt vt : TType} {m : Nat} {r : Bytes}
    (h : runF (readMapBegin e) bs = .ok ((kt, vt, m), r)) (hm : m ≤ r.length) :
    Binary.readMapBegin e bs = .ok ((kt, vt, m), r) := by
  simp only [readMapBegin, runF_bind_ok, runF_ret, Out.ok.injEq, Prod.mk.injEq] at h
  obtain ⟨_, r0, h0, _, r1, h1, n, _, h2, ⟨rfl, rfl, rfl⟩, rfl⟩ := h
  have hr := runF_lt_of_lt h2 (runF_lt_of_lt h1 (runF_lt_of_lt h0 hb))
  rw [runF_readTType] at h0 h1; rw [runF_readI] at h2
  simp only [Binary.readMapBegin, h0, h1, h2, checkSize_of_asUsize (Binary.readI_inS e 4 (by decide) _ _ _ h2) hr hm]

section
variable {F : Prop}

theorem readI_sat (e : Endian) {w : Nat} (hw : 0 < w) (bs : Bytes) : Sat (readI e w) bs F fun _ r => r.length < bs.length :=
  .need fun _ _ _ => .ret (by omega)

theorem readU_sat (e : Endian) {w : Nat} (hw : 0 < w) (bs : Bytes) : Sat (readU e w) bs F fun _ r => r.length < bs.length :=
  .need fun _ _ _ => .ret (by omega)

theorem readTType_sat (bs : Bytes) : Sat readTType bs F fun _ r => r.length < bs.length :=
  (readU_sat .be Nat.one_pos bs).bind fun _ _ h => by
    split
    · exact .ret h
    · exact .fail

theorem readBytes_paid (e : Endian) (bs : Bytes) : Sat (readBytes e) bs F fun b r => 4 + b.length + r.length = bs.length :=
  Sat.bind (P := fun _ r => r.length + 4 = bs.length) (.need fun _ _ h => .ret h) fun len r h => by
    split
    · exact .fail
    · exact .need' fun b r' h2 _ => .ret (by rw [h2, List.length_append] at h; omega)

theorem readFieldBegin_sat (e : Endian) (bs : Bytes) : Sat (readFieldBegin e) bs F fun _ r => r.length < bs.length :=
  (readTType_sat bs).bind fun _ r h => by
    split
    · exact .ret h
    · exact (readI_sat e (by decide) r).bind fun _ _ h' => .ret (Nat.lt_trans h' h)

theorem readListBegin_sat (e : Endian) (bs : Bytes) : Sat (readListBegin e) bs F fun _ r => r.length < bs.length :=
  (readTType_sat bs).bind fun _ r h => (readI_sat e (by decide) r).bind fun _ _ h' => .ret (Nat.lt_trans h' h)

theorem readMapBegin_sat (e : Endian) (bs : Bytes) : Sat (readMapBegin e) bs F fun _ r => r.length < bs.length :=
  (readTType_sat bs).bind fun _ r h => (readTType_sat r).bind fun _ r' h' => (readI_sat e (by decide) r').bind fun _ _ h'' =>
    .ret (Nat.lt_trans h'' (Nat.lt_trans h' h))

end
end ABin
end Pilota.Thrift.Async
