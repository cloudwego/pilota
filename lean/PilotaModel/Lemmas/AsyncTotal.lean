import PilotaModel.Lemmas.AsyncBinRV
import PilotaModel.Lemmas.AsyncCmpRV
/-  The async interpreters' recursion budget `3·len + 3` is never the reason they stop: `Walk.safe` at the async primitives
    (compact: three units of budget to a byte and one to a pending bool, which is why a struct's fields, elements and pairs must
    start with none pending; the bound of a value has that unit to spare). -/
namespace Pilota.Thrift.Async
open Pilota Pilota.Thrift

namespace ABin

theorem readVal_total (e : Endian) (f : Nat) (t : TType) (bs : Bytes) (hf : 3 * bs.length + 3 ≤ f) :
    runF (readVal e f t) bs ≠ .fuel :=
  (readVal_eq_walk e f).1 t bs ▸ ((Walk.safe (walkPrims_safe e) f).1 t bs).not_fuel (by omega)

theorem readFields_total (e : Endian) (f : Nat) (bs : Bytes) (hf : 3 * bs.length + 2 ≤ f) : runF (readFields e f) bs ≠ .fuel :=
  (readVal_eq_walk e f).2.1 bs ▸ ((Walk.safe (walkPrims_safe e) f).2.1 bs).not_fuel (by omega)

theorem readN_total (e : Endian) (f : Nat) (et : TType) (n : Nat) (bs : Bytes) (hf : 3 * bs.length + 4 ≤ f) :
    runF (readN e f et n) bs ≠ .fuel :=
  (readVal_eq_walk e f).2.2.1 et n bs ▸ ((Walk.safe (walkPrims_safe e) f).2.2.1 et n bs).not_fuel (by omega)

theorem readPairs_total (e : Endian) (f : Nat) (kt vt : TType) (n : Nat) (bs : Bytes) (hf : 3 * bs.length + 4 ≤ f) :
    runF (readPairs e f kt vt n) bs ≠ .fuel :=
  (readVal_eq_walk e f).2.2.2 kt vt n bs ▸ ((Walk.safe (walkPrims_safe e) f).2.2.2 kt vt n bs).not_fuel (by omega)

end ABin

namespace ACmp
open Compact

theorem readVal_total (f : Nat) (t : TType) (s : CR) (bs : Bytes) (hf : 3 * bs.length + 3 ≤ f) :
    runF (readVal f t s) bs ≠ .fuel :=
  (readVal_eq_walk f).1 t s bs ▸ pack_ne_fuel (((Walk.safe walkPrims_safe f).1 t (s, bs)).not_fuel
    (by have := mu_le s; dsimp only; omega))

theorem readFields_total (f : Nat) (s : CR) (bs : Bytes) (hp : s.pendingBool = none) (hf : 3 * bs.length + 2 ≤ f) :
    runF (readFields f s) bs ≠ .fuel :=
  (readVal_eq_walk f).2.1 s bs ▸ pack_ne_fuel (((Walk.safe walkPrims_safe f).2.1 (s, bs)).not_fuel
    (by have := mu_none hp; dsimp only; omega))

theorem readN_total (f : Nat) (et : TType) (n : Nat) (s : CR) (bs : Bytes) (hp : s.pendingBool = none) (hf : 3 * bs.length + 4 ≤ f) :
    runF (readN f et n s) bs ≠ .fuel :=
  (readVal_eq_walk f).2.2.1 et n s bs ▸ pack_ne_fuel (((Walk.safe walkPrims_safe f).2.2.1 et n (s, bs)).not_fuel
    (by have := mu_none hp; dsimp only; omega))

theorem readPairs_total (f : Nat) (kt vt : TType) (n : Nat) (s : CR) (bs : Bytes) (hp : s.pendingBool = none)
    (hf : 3 * bs.length + 4 ≤ f) : runF (readPairs f kt vt n s) bs ≠ .fuel :=
  (readVal_eq_walk f).2.2.2 kt vt n s bs ▸ pack_ne_fuel (((Walk.safe walkPrims_safe f).2.2.2 kt vt n (s, bs)).not_fuel
    (by have := mu_none hp; dsimp only; omega))

end ACmp
end Pilota.Thrift.Async
