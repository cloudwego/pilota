import PilotaModel.Lemmas.ReadTotalCompact
import PilotaModel.Thrift.Skip
/-
  The skippers on EVERY input: never panic (for a non-negative depth budget), report exactly the
  bytes they consumed, and never exhaust the top-level budget `3 * len + 3`: proved once for the read-and-discard
  skipper over any primitive set (`rdSkip_safe`); the default recursive skipper is that skipper over its own
  primitives, counting (`skipVal_eq`).
-/
namespace Pilota.Thrift.Skip
open Pilota Pilota.Thrift

/-- `Walk.Prims.Safe` for the skippers' record, whose input stands beside the state, so that the measure `3 * bytes + μ state`
is written out.  A field header pays two units: it consumes a byte, three units, and may leave a bool pending, one unit back. -/
structure Prims.Good {σ : Type} (P : Prims σ) (μ : σ → Nat) : Prop where
  leaf : ∀ t s bs, (P.leaf t s bs).Safe False False fun x => 3 * x.2.length + μ x.1 + 1 ≤ 3 * bs.length + μ s
  sb : ∀ s, μ (P.structBegin s) = μ s
  se : ∀ s, (P.structEnd s).Safe False False fun s' => μ s' = μ s
  fb : ∀ s bs, (P.fieldBegin s bs).Safe False False fun x => 3 * x.2.2.length + μ x.2.1 + 2 ≤ 3 * bs.length + μ s
  lb : ∀ bs, (P.listBegin bs).Safe False False fun x => x.2.length + 1 ≤ bs.length
  mb : ∀ bs, (P.mapBegin bs).Safe False False fun x => x.2.length + 1 ≤ bs.length

section generic
variable {σ : Type} (P : Prims σ) (μ : σ → Nat) (hP : P.Good μ)
include hP

theorem rdSkip_safe : ∀ f,
    (∀ d t s bs, (rdSkip P f d t s bs).Safe (d < 0) (f < 3 * bs.length + μ s + 2) fun x =>
      3 * x.2.length + μ x.1 + 1 ≤ 3 * bs.length + μ s) ∧
    (∀ d s bs, (rdFields P f d s bs).Safe (d < 1) (f < 3 * bs.length + μ s + 1) fun x =>
      3 * x.2.length + μ x.1 + 1 ≤ 3 * bs.length + μ s) ∧
    (∀ d et n s bs, (rdN P f d et n s bs).Safe (d < 1) (f < 3 * bs.length + μ s + 3) fun x =>
      3 * x.2.length + μ x.1 ≤ 3 * bs.length + μ s) ∧
    (∀ d kt vt n s bs, (rdPairs P f d kt vt n s bs).Safe (d < 1) (f < 3 * bs.length + μ s + 3) fun x =>
      3 * x.2.length + μ x.1 ≤ 3 * bs.length + μ s) := by
  intro f
  induction f with
  | zero => refine ⟨fun _ _ _ _ => ?_, fun _ _ _ => ?_, fun _ _ _ _ _ => ?_, fun _ _ _ _ _ _ => ?_⟩ <;> exact Out.Safe.of_fuel (by omega)
  | succ f ih =>
    obtain ⟨ih1, ih2, ih3, ih4⟩ := ih
    refine ⟨fun d t s bs => ?_, fun d s bs => ?_, fun d et n s bs => ?_, fun d kt vt n s bs => ?_⟩
    · unfold rdSkip
      split
      · trivial
      · split
        · trivial
        · trivial
        · have := hP.sb s
          safe_step ih2 _ _ _
          safe_step hP.se _
          safe_ok
        · safe_step hP.lb _; safe_last ih3 _ _ _ _ _
        · safe_step hP.lb _; safe_last ih3 _ _ _ _ _
        · safe_step hP.mb _; safe_last ih4 _ _ _ _ _ _
        · safe_last hP.leaf _ _ _
    · unfold rdFields
      safe_step hP.fb _ _
      split
      · safe_ok
      · split
        · exact Out.Safe.of_panic (by omega)
        · safe_step ih1 _ _ _ _
          safe_last ih2 _ _ _
    · cases n <;> unfold rdN
      · exact Nat.le_refl _
      · split
        · exact Out.Safe.of_panic (by omega)
        · safe_step ih1 _ _ _ _
          safe_last ih3 _ _ _ _ _
    · cases n <;> unfold rdPairs
      · exact Nat.le_refl _
      · split
        · exact Out.Safe.of_panic (by omega)
        · safe_step ih1 _ _ _ _
          safe_step ih1 _ _ _ _
          safe_last ih4 _ _ _ _ _ _

end generic

theorem rdSkip_le {σ : Type} {P : Prims σ} (hP : P.Good fun _ => 0) (f : Nat) :
    (∀ {d t s bs x}, rdSkip P f d t s bs = .ok x → x.2.length ≤ bs.length) ∧
    (∀ {d s bs x}, rdFields P f d s bs = .ok x → x.2.length ≤ bs.length) ∧
    (∀ {d et n s bs x}, rdN P f d et n s bs = .ok x → x.2.length ≤ bs.length) ∧
    (∀ {d kt vt n s bs x}, rdPairs P f d kt vt n s bs = .ok x → x.2.length ≤ bs.length) :=
  have ⟨h1, h2, h3, h4⟩ := rdSkip_safe P _ hP f
  ⟨fun h => by have := (h1 ..).ok h; omega, fun h => by have := (h2 ..).ok h; omega, fun h => by have := (h3 ..).ok h; omega,
    fun h => by have := (h4 ..).ok h; omega⟩

theorem advance_ok {w bs k r} (h : advance w bs = .ok (k, r)) : k = w ∧ w ≤ bs.length ∧ r = bs.drop w := by
  unfold advance at h
  split at h
  · cases h; exact ⟨rfl, ‹_›, rfl⟩
  · cases h
theorem advance_reads {w bs} (q : Bytes) :
    Out.Beside False False (fun x => x.1 = w ∧ x.1 + x.2.length = bs.length) (Out.withTail q) (advance w bs) (advance w (bs ++ q)) := by
  unfold advance
  split
  · exact ⟨⟨rfl, by dsimp only; rw [List.length_drop]; omega⟩,
      by rw [if_pos (by rw [List.length_append]; omega), List.drop_append_of_le_length ‹_›]⟩
  · trivial

theorem skipBinary_reads {e bs} (q : Bytes) :
    Out.Beside False False (fun x => 4 ≤ x.1 ∧ x.1 + x.2.length = bs.length) (Out.withTail q) (skipBinary e bs) (skipBinary e (bs ++ q)) := by
  unfold skipBinary
  beside_step Binary.readI_reads q
  dsimp only
  split
  · exact ⟨⟨Nat.le_add_right .., by dsimp only; rw [List.length_drop]; omega⟩,
      by rw [if_pos (by rw [List.length_append]; omega), List.drop_append_of_le_length ‹_›]⟩
  · trivial

def binaryLeaf (e : Endian) (t : TType) (bs : Bytes) : Out (Nat × Bytes) :=
  match t with
  | .bool => advance 1 bs
  | .i8 => advance 1 bs
  | .i16 => advance 2 bs
  | .i32 => advance 4 bs
  | .i64 => advance 8 bs
  | .double => advance 8 bs
  | .binary => skipBinary e bs
  | .uuid => advance 16 bs
  | _ => .err .depth

def binaryPrims (e : Endian) : Prims Unit where
  leaf t _ bs := drop1 (binaryLeaf e t bs)
  structBegin s := s
  structEnd s := .ok s
  fieldBegin s bs := match Binary.readFieldBegin e bs with
    | .ok (x, r) => .ok (x, s, r)
    | .err k => .err k | .panic m => .panic m | .fuel => .fuel
  listBegin := Binary.readListBegin e
  mapBegin := Binary.readMapBegin e

theorem bp_sb (e : Endian) (s) : (binaryPrims e).structBegin s = s := rfl
theorem bp_fb (e : Endian) (s bs) : (binaryPrims e).fieldBegin s bs = (match Binary.readFieldBegin e bs with
    | .ok (x, r) => .ok (x, s, r)
    | .err k => .err k | .panic m => .panic m | .fuel => .fuel) := rfl

/-- what `skip_till_depth` reports: the bytes between the input and what is left -/
def counted (bs : Bytes) (x : Out (Unit × Bytes)) : Out (Nat × Bytes) :=
  match x with
  | .ok (_, r) => .ok (bs.length - r.length, r)
  | .err k => .err k | .panic m => .panic m | .fuel => .fuel

theorem counted_add {n r r' c : Nat} (h : c + r = n) (h' : r' ≤ r) : c + (r - r') + r' = n := by omega

theorem counted_drop1 {bs : Bytes} {x : Out (Nat × Bytes)} {N F : Prop} (h : x.Safe N F fun y => y.1 + y.2.length = bs.length) :
    x = counted bs (drop1 x) := by
  cases x with
  | ok y => exact congrArg (fun k => Out.ok (k, y.2)) (Nat.eq_sub_of_add_eq h)
  | _ => rfl

theorem binaryLeaf_reads (e : Endian) (t : TType) {bs : Bytes} (q : Bytes) :
    Out.Beside False False (fun y => y.1 + y.2.length = bs.length ∧ 1 ≤ y.1) (Out.withTail q) (binaryLeaf e t bs) (binaryLeaf e t (bs ++ q)) := by
  cases t <;> dsimp only [binaryLeaf]
  case binary => exact (skipBinary_reads q).imp fun _ h => ⟨h.2, by omega⟩
  case stop | void | struct | list | set | map => trivial
  all_goals exact (advance_reads q).imp fun _ h => ⟨h.2, by omega⟩

theorem binaryPrims_good (e : Endian) : (binaryPrims e).Good fun _ => 0 where
  leaf t s bs := by
    have := (binaryLeaf_reads e t (bs := bs) []).safe
    dsimp only [binaryPrims]
    cases hx : binaryLeaf e t bs with
    | ok y => rw [hx] at this; dsimp only [drop1, Out.Safe] at this ⊢; omega
    | err k => trivial
    | panic m => rw [hx] at this; exact this
    | fuel => rw [hx] at this; exact this
  sb _ := rfl
  se _ := rfl
  fb s bs := by
    dsimp only [binaryPrims]
    safe_step Binary.readFieldBegin_reads []
    safe_ok
  lb bs := (Binary.readListBegin_reads []).mono id id fun _ h => by omega
  mb bs := (Binary.readMapBegin_reads []).mono id id fun _ h => by omega

theorem skipVal_eq (e : Endian) : ∀ f,
    (∀ d t bs, skipVal e f d t bs = counted bs (rdSkip (binaryPrims e) f d t () bs)) ∧
    (∀ d bs, skipFields e f d bs = counted bs (rdFields (binaryPrims e) f d () bs)) ∧
    (∀ d et n bs, skipN e f d et n bs = counted bs (rdN (binaryPrims e) f d et n () bs)) ∧
    (∀ d kt vt n bs, skipPairs e f d kt vt n bs = counted bs (rdPairs (binaryPrims e) f d kt vt n () bs)) := by
  intro f
  induction f with
  | zero => exact ⟨fun _ _ _ => rfl, fun _ _ => rfl, fun _ _ _ _ => rfl, fun _ _ _ _ _ => rfl⟩
  | succ f ih =>
    obtain ⟨ih1, ih2, ih3, ih4⟩ := ih
    obtain ⟨le1, le2, le3, le4⟩ := rdSkip_le (binaryPrims_good e) f
    refine ⟨fun d t bs => ?_, fun d bs => ?_, fun d et n bs => ?_, fun d kt vt n bs => ?_⟩
    · unfold skipVal rdSkip
      split
      · rfl
      · cases t <;> dsimp only
        case stop | void => rfl
        case struct =>
          rw [ih2, bp_sb]
          cases rdFields (binaryPrims e) f d () bs <;> rfl
        case list | set =>
          show _ = counted bs (match Binary.readListBegin e bs with | .ok ((et, n), r) => _ | .err k => _ | .panic m => _ | .fuel => _)
          cases hx : Binary.readListBegin e bs with
          | ok a =>
            obtain ⟨⟨et, n⟩, r⟩ := a
            have hl := Binary.readListBegin_len hx
            dsimp only
            rw [ih3]
            cases hy : rdN (binaryPrims e) f d et n () r with
            | ok b => exact congrArg (fun k => Out.ok (k, b.2)) (Nat.eq_sub_of_add_eq (counted_add hl (le3 hy)))
            | _ => rfl
          | _ => rfl
        case map =>
          show _ = counted bs (match Binary.readMapBegin e bs with | .ok ((kt, vt, n), r) => _ | .err k => _ | .panic m => _ | .fuel => _)
          cases hx : Binary.readMapBegin e bs with
          | ok a =>
            obtain ⟨⟨kt, vt, n⟩, r⟩ := a
            have hl := Binary.readMapBegin_len hx
            dsimp only
            rw [ih4]
            cases hy : rdPairs (binaryPrims e) f d kt vt n () r with
            | ok b => exact congrArg (fun k => Out.ok (k, b.2)) (Nat.eq_sub_of_add_eq (counted_add hl (le4 hy)))
            | _ => rfl
          | _ => rfl
        case binary => exact counted_drop1 ((skipBinary_reads []).mono id id fun _ h => h.1.2)
        all_goals exact counted_drop1 ((advance_reads []).mono id id fun _ h => h.1.2)
    · unfold skipFields rdFields
      rw [bp_fb]
      cases hx : Binary.readFieldBegin e bs with
      | ok a =>
        obtain ⟨⟨t, id⟩, r⟩ := a
        have hl := (Out.Safe.ok (Binary.readFieldBegin_reads []) hx).1
        dsimp only at hl ⊢
        rcases hl with ⟨ht, hl⟩ | ⟨ht, hl⟩
        · rw [if_pos ht, if_pos ht]
          exact congrArg (fun k => Out.ok (k, r)) (Nat.eq_sub_of_add_eq hl)
        · rw [if_neg ht, if_neg ht]
          split
          · rfl
          · rw [ih1]
            cases hy : rdSkip (binaryPrims e) f (d - 1) t () r with
            | ok b =>
              dsimp only [counted]
              rw [ih2]
              cases hz : rdFields (binaryPrims e) f d () b.2 with
              | ok c => exact congrArg (fun k => Out.ok (k, c.2)) (Nat.eq_sub_of_add_eq (counted_add (counted_add hl (le1 hy)) (le2 hz)))
              | _ => rfl
            | _ => rfl
      | _ => rfl
    · cases n <;> unfold skipN rdN
      · exact congrArg (fun k => Out.ok (k, bs)) (Nat.sub_self _).symm
      · split
        · rfl
        · rw [ih1]
          cases hy : rdSkip (binaryPrims e) f (d - 1) et () bs with
          | ok b =>
            dsimp only [counted]
            rw [ih3]
            cases hz : rdN (binaryPrims e) f d et _ () b.2 with
            | ok c => exact congrArg (fun k => Out.ok (k, c.2)) (Nat.eq_sub_of_add_eq (counted_add (Nat.sub_add_cancel (le1 hy)) (le3 hz)))
            | _ => rfl
          | _ => rfl
    · cases n <;> unfold skipPairs rdPairs
      · exact congrArg (fun k => Out.ok (k, bs)) (Nat.sub_self _).symm
      · split
        · rfl
        · rw [ih1]
          cases hy : rdSkip (binaryPrims e) f (d - 1) kt () bs with
          | ok b =>
            dsimp only [counted]
            rw [ih1]
            cases hy2 : rdSkip (binaryPrims e) f (d - 1) vt () b.2 with
            | ok b2 =>
              dsimp only [counted]
              rw [ih4]
              cases hz : rdPairs (binaryPrims e) f d kt vt _ () b2.2 with
              | ok c =>
                exact congrArg (fun k => Out.ok (k, c.2))
                  (Nat.eq_sub_of_add_eq (counted_add (counted_add (Nat.sub_add_cancel (le1 hy)) (le1 hy2)) (le4 hz)))
              | _ => rfl
            | _ => rfl
          | _ => rfl

theorem counted_ok {bs : Bytes} {x : Out (Unit × Bytes)} {k : Nat} {r : Bytes} (h : counted bs x = .ok (k, r)) : x = .ok ((), r) := by
  unfold counted at h
  ok_step h; cases h; rfl

theorem counted_safe {bs : Bytes} {x : Out (Unit × Bytes)} {N F : Prop} {c : Nat} (h : x.Safe N F fun y => 3 * y.2.length + 0 + c ≤ 3 * bs.length + 0) :
    (counted bs x).Safe N F fun y => c ≤ 3 * y.1 ∧ y.1 + y.2.length = bs.length := by
  cases x with
  | ok y => dsimp only [counted, Out.Safe] at h ⊢; omega
  | _ => exact h

/-- The panic below the depth precondition is `depth - 1` on `i8::MIN`. -/
theorem skipVal_safe (e : Endian) : ∀ f,
    (∀ d t bs, (skipVal e f d t bs).Safe (d < 0) (f < 3 * bs.length + 2) fun x => 1 ≤ x.1 ∧ x.1 + x.2.length = bs.length) ∧
    (∀ d bs, (skipFields e f d bs).Safe (d < 1) (f < 3 * bs.length + 1) fun x => 1 ≤ x.1 ∧ x.1 + x.2.length = bs.length) ∧
    (∀ d et n bs, (skipN e f d et n bs).Safe (d < 1) (f < 3 * bs.length + 3) fun x => x.1 + x.2.length = bs.length) ∧
    (∀ d kt vt n bs, (skipPairs e f d kt vt n bs).Safe (d < 1) (f < 3 * bs.length + 3) fun x => x.1 + x.2.length = bs.length) := by
  intro f
  obtain ⟨e1, e2, e3, e4⟩ := skipVal_eq e f
  obtain ⟨h1, h2, h3, h4⟩ := rdSkip_safe (binaryPrims e) _ (binaryPrims_good e) f
  refine ⟨fun d t bs => ?_, fun d bs => ?_, fun d et n bs => ?_, fun d kt vt n bs => ?_⟩
  · rw [e1]; exact (counted_safe (h1 d t () bs)).mono id (fun h => by omega) fun _ h => ⟨by omega, h.2⟩
  · rw [e2]; exact (counted_safe (h2 d () bs)).mono id (fun h => by omega) fun _ h => ⟨by omega, h.2⟩
  · rw [e3]; exact (counted_safe (c := 0) (h3 d et n () bs)).mono id (fun h => by omega) fun _ h => h.2
  · rw [e4]; exact (counted_safe (c := 0) (h4 d kt vt n () bs)).mono id (fun h => by omega) fun _ h => h.2

theorem skipFields_len {e f d bs k r} (h : skipFields e f d bs = .ok (k, r)) : r.length + 1 ≤ bs.length := by
  have := ((skipVal_safe e f).2.1 d bs).ok h; dsimp only at this; omega
theorem skipN_len {e f d et n bs k r} (h : skipN e f d et n bs = .ok (k, r)) : r.length ≤ bs.length := by
  have := ((skipVal_safe e f).2.2.1 d et n bs).ok h; dsimp only at this; omega
theorem skipPairs_len {e f d kt vt n bs k r} (h : skipPairs e f d kt vt n bs = .ok (k, r)) : r.length ≤ bs.length := by
  have := ((skipVal_safe e f).2.2.2 d kt vt n bs).ok h; dsimp only at this; omega

theorem skipVal_nofuel (e : Endian) : ∀ f,
    (∀ d t bs, 3 * bs.length + 2 ≤ f → skipVal e f d t bs ≠ .fuel) ∧
    (∀ d bs, 3 * bs.length + 1 ≤ f → skipFields e f d bs ≠ .fuel) ∧
    (∀ d et n bs, 3 * bs.length + 3 ≤ f → skipN e f d et n bs ≠ .fuel) ∧
    (∀ d kt vt n bs, 3 * bs.length + 3 ≤ f → skipPairs e f d kt vt n bs ≠ .fuel) :=
  fun f => have ⟨h1, h2, h3, h4⟩ := skipVal_safe e f
  ⟨fun d t bs hf => (h1 d t bs).not_fuel (by omega), fun d bs hf => (h2 d bs).not_fuel (by omega),
    fun d et n bs hf => (h3 d et n bs).not_fuel (by omega), fun d kt vt n bs hf => (h4 d kt vt n bs).not_fuel (by omega)⟩

end Pilota.Thrift.Skip
