import PilotaModel.Lemmas.SpecBin
import PilotaModel.Lemmas.SpecCmp
import PilotaModel.Thrift.Msg
/-  Message envelopes and the TApplicationException struct against the reference. -/
namespace Pilota.Thrift.Msg
open Pilota Pilota.Thrift Pilota.Thrift.Spec

theorem mt_cases (mt : Nat) (h : 1 ≤ mt ∧ mt ≤ 4) : mt = 1 ∨ mt = 2 ∨ mt = 3 ∨ mt = 4 := by omega

theorem write_bin (name : Bytes) (mt : Nat) (seq : Int) (hm : 1 ≤ mt ∧ mt ≤ 4) (hn : name.length < 2 ^ 31) (hs : inS 4 seq) :
    Binary.wOp .be (.msgBegin name mt seq) = SpecBin.message name mt seq := by
  simp only [Binary.wOp, SpecBin.message, be_len _ hn, be_twos 4 seq hs, be_eq]
  rcases mt_cases mt hm with rfl | rfl | rfl | rfl <;> rfl

theorem readI_natToBE (w n : Nat) (r : Bytes) : Binary.readI .be w (natToBE w n ++ r) = .ok (toS w (n % 256 ^ w), r) := by
  simp only [Binary.readI, show natToBE w n = encFixed .be w n from rfl, Binary.readU_enc]

/-- the version word `0x8001_00tt` read as an i32: negative, type in the low nibble, version in the high half. -/
theorem version_word (mt : Nat) (hm : 1 ≤ mt ∧ mt ≤ 4) :
    ¬ toS 4 (0x80010000 + mt) > 0 ∧ toU 4 (toS 4 (0x80010000 + mt)) % 16 = mt ∧
      toU 4 (toS 4 (0x80010000 + mt)) / 65536 * 65536 = version .be := by
  rcases mt_cases mt hm with rfl | rfl | rfl | rfl <;> decide

theorem read_bin (name : Bytes) (mt : Nat) (seq : Int) (hm : 1 ≤ mt ∧ mt ≤ 4) (hn : name.length < 2 ^ 31) (hs : inS 4 seq)
    (r : Bytes) : readBeginBin .be (SpecBin.message name mt seq ++ r) = .ok ((name, mt, seq), r) := by
  obtain ⟨h1, h2, h3⟩ := version_word mt hm
  have hb := Binary.readBytes_enc .be name (Binary.i .be 4 seq ++ r) hn
  simp only [readBeginBin, SpecBin.message, List.append_assoc, be_eq 4 (0x80010000 + mt), readI_natToBE,
    Nat.mod_eq_of_lt (show 0x80010000 + mt < 256 ^ 4 by omega), if_neg h1, h2, h3, be_len _ hn, be_twos 4 seq hs, hb,
    Binary.readI_i .be 4 (by decide) seq hs, if_neg (not_or.mpr ⟨Nat.not_lt.mpr hm.1, Nat.not_lt.mpr hm.2⟩), ne_eq, not_true, if_false]

theorem write_cmp (s : Compact.CW) (name : Bytes) (mt : Nat) (seq : Int) (hm : 1 ≤ mt ∧ mt ≤ 4) (hn : name.length < 2 ^ 31)
    (hs : inS 4 seq) : Compact.wStep s (.msgBegin name mt seq) = .ok (s, SpecCmp.message name mt seq) := by
  simp only [Compact.wStep, SpecCmp.message, len_mod _ hn, twos_eq 4 seq hs]
  rcases mt_cases mt hm with rfl | rfl | rfl | rfl <;> rfl

/-- the byte `ttt vvvvv` with version 1. -/
theorem type_byte (mt : Nat) (hm : 1 ≤ mt ∧ mt ≤ 4) : mt * 32 + 1 < 256 ∧ (mt * 32 + 1) % 32 = 1 ∧ (mt * 32 + 1) / 32 = mt := by
  rcases mt_cases mt hm with rfl | rfl | rfl | rfl <;> decide

theorem read_cmp (name : Bytes) (mt : Nat) (seq : Int) (hm : 1 ≤ mt ∧ mt ≤ 4) (hn : name.length < 2 ^ 31) (hs : inS 4 seq)
    (r : Bytes) : readBeginCmp (SpecCmp.message name mt seq ++ r) = .ok ((name, mt, seq), r) := by
  obtain ⟨h1, h2, h3⟩ := type_byte mt hm
  have hq := readVarU4_encVar (twos 4 seq) (twos_lt 4 seq hs) (uleb name.length ++ (name ++ r))
  have hseq : toS 4 (twos 4 seq) = seq := by rw [twos_eq 4 seq hs]; exact toS_toU 4 (by decide) seq hs
  simp only [readBeginCmp, SpecCmp.message, Compact.readByte, Binary.readByte, List.cons_append, List.nil_append, List.append_assoc,
    u8_toNat_ofNat_lt _ h1, h2, h3, hq, SpecCmp.readBytes_of_length name r hn, hseq,
    if_neg (not_or.mpr ⟨Nat.not_lt.mpr hm.1, Nat.not_lt.mpr hm.2⟩)]
  rfl

theorem appOps_eq (msg : Bytes) (kind : Int) : appOps msg kind = (appVal msg kind).ops := rfl

theorem appVal_wt (msg : Bytes) (kind : Int) (hm : msg.length < 2 ^ 31) (hk : inS 4 kind) : (appVal msg kind).wt = true := by
  simp [appVal, TVal.wt, TFields.wt, hm, hk]; decide

theorem appDecodeBin_msg {e f msg kind bs t r m r'} (h1 : Binary.readFieldBegin e bs = .ok ((t, 1), r)) (ht : t ≠ .stop)
    (h2 : Binary.readBytes e r = .ok (m, r')) : appDecodeBin e (f+1) (msg, kind) bs = appDecodeBin e f (m, kind) r' := by
  simp only [appDecodeBin, h1, if_neg ht, if_true, h2]

theorem appDecodeBin_kind {e f msg kind bs t r k r'} (h1 : Binary.readFieldBegin e bs = .ok ((t, 2), r)) (ht : t ≠ .stop)
    (h2 : Binary.readI e 4 r = .ok (k, r')) : appDecodeBin e (f+1) (msg, kind) bs = appDecodeBin e f (msg, k) r' := by
  simp only [appDecodeBin, h1, if_neg ht, if_neg (show ¬ (2 : Int) = 1 by decide), if_true, h2]

theorem appDecodeBin_stop {e f d bs id r} (h1 : Binary.readFieldBegin e bs = .ok ((.stop, id), r)) :
    appDecodeBin e (f+1) d bs = .ok (d, r) := by
  simp only [appDecodeBin, h1, if_true]

/-- the budget 3 (here and in `appDecode_cmp`): one turn of `decode`'s loop each for field 1, field 2 and STOP. -/
theorem appDecode_bin (msg : Bytes) (kind : Int) (bs : Bytes) (h : SpecBin.Enc (appVal msg kind) bs) (f : Nat) (hf : 3 ≤ f)
    (d : Bytes × Int) (r : Bytes) : appDecodeBin .be f d (bs ++ r) = .ok ((msg, kind), r) := by
  obtain ⟨f, rfl⟩ : ∃ g, f = g + 3 := ⟨f - 3, by omega⟩
  cases h with
  | struct _ _ hfs =>
  cases hfs with
  | cons _ _ _ c1 a1 b1 hid1 hc1 hv1 hr1 =>
  cases hr1 with
  | cons _ _ _ c2 a2 b2 hid2 hc2 hv2 hr2 =>
  cases hr2 with
  | nil =>
  cases hv1 with
  | bin _ hm =>
  cases hv2 with
  | i32 _ hk =>
  simp only [List.cons_append, List.append_assoc, List.nil_append]
  rw [appDecodeBin_msg (SpecBin.readFieldBegin_of .binary c1 hc1 1 hid1 _) nofun (be_len _ hm ▸ Binary.readBytes_enc .be msg _ hm),
    appDecodeBin_kind (SpecBin.readFieldBegin_of .i32 c2 hc2 2 hid2 _) nofun
      (be_twos 4 kind hk ▸ Binary.readI_i .be 4 (by decide) kind hk _),
    appDecodeBin_stop (id := 0) rfl]

theorem cmpCode_bin : cmpCode TType.binary = some 8 := rfl
theorem cmpCode_i32 : cmpCode TType.i32 = some 5 := rfl

theorem appDecodeCmpLoop_msg {f msg kind s bs t s' r m r'} (h1 : Compact.readFieldBegin s bs = .ok ((t, 1), s', r)) (ht : t ≠ .stop)
    (h2 : Compact.readBytes r = .ok (m, r')) : appDecodeCmpLoop (f+1) (msg, kind) s bs = appDecodeCmpLoop f (m, kind) s' r' := by
  simp only [appDecodeCmpLoop, h1, if_neg ht, if_true, h2]

theorem appDecodeCmpLoop_kind {f msg kind s bs t s' r k r'} (h1 : Compact.readFieldBegin s bs = .ok ((t, 2), s', r)) (ht : t ≠ .stop)
    (h2 : readVarS 4 r = .ok (k, r')) : appDecodeCmpLoop (f+1) (msg, kind) s bs = appDecodeCmpLoop f (msg, k) s' r' := by
  simp only [appDecodeCmpLoop, h1, if_neg ht, if_neg (show ¬ (2 : Int) = 1 by decide), if_true, h2]

theorem appDecodeCmpLoop_stop {f d s bs id s' r} (h1 : Compact.readFieldBegin s bs = .ok ((.stop, id), s', r)) :
    appDecodeCmpLoop (f+1) d s bs = .ok (d, s', r) := by
  simp only [appDecodeCmpLoop, h1, if_true]

theorem appDecode_cmp (msg : Bytes) (kind : Int) (bs : Bytes) (h : SpecCmp.Enc (appVal msg kind) bs) (f : Nat) (hf : 3 ≤ f)
    (s : Compact.CR) (r : Bytes) : appDecodeCmp f s (bs ++ r) = .ok ((msg, kind), s, r) := by
  obtain ⟨f, rfl⟩ : ∃ g, f = g + 3 := ⟨f - 3, by omega⟩
  cases h with
  | struct _ _ hfs =>
  cases hfs with
  | cons _ _ _ _ c1 hd1 a1 b1 hid1 hc1 hh1 hv1 hr1 =>
  cases hr1 with
  | cons _ _ _ _ c2 hd2 a2 b2 hid2 hc2 hh2 hv2 hr2 =>
  cases hr2 with
  | nil =>
  cases hv1 with
  | bin _ hm =>
  cases hv2 with
  | i32 _ hk =>
  simp only [appDecodeCmp, List.cons_append, List.append_assoc, List.nil_append]
  rw [appDecodeCmpLoop_msg (SpecCmp.readFieldBegin_val (Compact.readStructBegin s) c1 .binary hc1 1 hid1 hd1 hh1 _) nofun
      (SpecCmp.readBytes_of_length msg _ hm),
    appDecodeCmpLoop_kind (SpecCmp.readFieldBegin_val _ c2 .i32 hc2 2 hid2 hd2 hh2 _) nofun
      (readVarS_zigzag 4 (Or.inr (Or.inl rfl)) kind hk _),
    appDecodeCmpLoop_stop (Compact.readFieldBegin_stop _ _)]
  rfl

end Pilota.Thrift.Msg
