import PilotaModel.Lemmas.PbLen
/-
  The canonical default of a type (`isDefE`): what the decoder starts from, and so what a field
  reads as when a conforming encoding (`Spec.Enc`) omits it.  It is bit-for-bit default, a value of the type and
  unique (`isDefE_canonical`); `defaultE` of a well-formed schema is it (`isDef_defaultE`), which is where the
  shape of a default comes from (PbDefault).
-/
namespace Pilota.Proto
open Pilota

theorem Codec.default_exact (c : Codec) : c.default.exactDefault = true := by cases c <;> rfl

theorem defaultE_msg (s : Schema) (i : Nat) : defaultE s (.msg i) = .msg (defaultMsg s i) := by
  unfold defaultMsg defaultE; cases s.length <;> rfl

theorem defaultMsg_of_ge (s : Schema) (i : Nat) (hi : s.length ≤ i) : defaultMsg s i = .nil := by
  unfold defaultMsg defaultE
  cases s.length with
  | zero => rfl
  | succ n => simp [defaultTy, EVal.fields, decls_of_ge s i hi, defaultSlotsWith]

/-- a canonical default slot is what `Default::default()` puts there, for some choice of the defaults
of the plain singular fields. -/
theorem isDefSlot_eq {s : Schema} {d : FieldDecl} {v : Slot} (h : isDefSlot s d v = true) :
    ∃ dty, v = defaultSlotWith dty d ∧ ∀ t ty, d = .single t ty false → isDefE s ty (dty ty) = true := by
  revert h
  fun_cases isDefSlot s d v <;> intro h
  · rename_i a; exact ⟨fun _ => a, rfl, fun _ _ e => by cases e; exact h⟩
  · exact ⟨defaultE s, rfl, fun _ _ e => nomatch e⟩
  · exact ⟨defaultE s, rfl, fun _ _ e => nomatch e⟩
  · exact ⟨defaultE s, rfl, fun _ _ e => nomatch e⟩
  · exact ⟨defaultE s, rfl, fun _ _ e => nomatch e⟩
  · cases h

mutual
theorem isDefE_canonical (s : Schema) (ty : FTy) (v : EVal) (h : isDefE s ty v = true) :
    (v.exactDefault = true ∧ shapeE s ty v = true) ∧ ∀ w, isDefE s ty w = true → v = w := by
  cases v with
  | s x =>
    cases ty with
    | scalar c =>
      refine of_decide_eq_true h ▸ ⟨⟨Codec.default_exact c, rfl⟩, fun w hw => ?_⟩
      cases w with
      | s y => rw [of_decide_eq_true hw]
      | msg gs => cases hw
    | msg i => cases h
  | msg fs =>
    cases ty with
    | scalar c => cases h
    | msg i =>
      refine ⟨(isDefSlots_canonical s (decls s i) fs h).1, fun w hw => ?_⟩
      cases w with
      | s y => cases hw
      | msg gs => exact congrArg EVal.msg ((isDefSlots_canonical s (decls s i) fs h).2 gs hw)
theorem isDefSlot_canonical (s : Schema) (d : FieldDecl) (v : Slot) (h : isDefSlot s d v = true) :
    (v.exactDefault = true ∧ shapeSlot s d v = true) ∧ ∀ w, isDefSlot s d w = true → v = w := by
  cases d with
  | single t ty opt =>
    cases opt with
    | false =>
      cases v with
      | req a =>
        refine ⟨(isDefE_canonical s ty a h).1, fun w hw => ?_⟩
        obtain ⟨dty, rfl, hb⟩ := isDefSlot_eq hw
        exact congrArg Slot.req ((isDefE_canonical s ty a h).2 _ (hb t ty rfl))
      | _ => cases h
    | true =>
      obtain ⟨_, rfl, _⟩ := isDefSlot_eq h
      exact ⟨⟨rfl, rfl⟩, fun w hw => by obtain ⟨_, rfl, _⟩ := isDefSlot_eq hw; rfl⟩
  | _ =>
    obtain ⟨_, rfl, _⟩ := isDefSlot_eq h
    exact ⟨⟨rfl, rfl⟩, fun w hw => by obtain ⟨_, rfl, _⟩ := isDefSlot_eq hw; rfl⟩
theorem isDefSlots_canonical (s : Schema) (ds : List FieldDecl) (vs : Slots) (h : isDefSlots s ds vs = true) :
    (vs.exactDefault = true ∧ shapeSlots s ds vs = true) ∧ ∀ ws, isDefSlots s ds ws = true → vs = ws := by
  cases vs with
  | nil =>
    cases ds with
    | nil => exact ⟨⟨rfl, rfl⟩, fun ws hw => by cases ws <;> first | rfl | cases hw⟩
    | cons d ds => cases h
  | cons v r =>
    cases ds with
    | nil => cases h
    | cons d ds =>
      have h := Bool.and_eq_true_iff.mp h
      have h1 := isDefSlot_canonical s d v h.1
      have h2 := isDefSlots_canonical s ds r h.2
      refine ⟨⟨Bool.and_eq_true_iff.mpr ⟨h1.1.1, h2.1.1⟩, Bool.and_eq_true_iff.mpr ⟨h1.1.2, h2.1.2⟩⟩, fun ws hw => ?_⟩
      cases ws with
      | nil => cases hw
      | cons w r' =>
        have hw := Bool.and_eq_true_iff.mp hw
        rw [h1.2 w hw.1, h2.2 r' hw.2]
end

theorem isDefE_exact (s : Schema) : ∀ (ty : FTy) (v : EVal), isDefE s ty v = true → v.exactDefault = true ∧ shapeE s ty v = true :=
  fun ty v h => (isDefE_canonical s ty v h).1
theorem isDefSlot_exact (s : Schema) : ∀ (d : FieldDecl) (v : Slot), isDefSlot s d v = true → v.exactDefault = true ∧ shapeSlot s d v = true :=
  fun d v h => (isDefSlot_canonical s d v h).1
theorem isDefSlots_exact (s : Schema) : ∀ (ds : List FieldDecl) (vs : Slots), isDefSlots s ds vs = true → vs.exactDefault = true ∧ shapeSlots s ds vs = true :=
  fun ds vs h => (isDefSlots_canonical s ds vs h).1
theorem isDefSlots_unique (s : Schema) : ∀ (ds : List FieldDecl) (vs ws : Slots), isDefSlots s ds vs = true → isDefSlots s ds ws = true → vs = ws :=
  fun ds vs ws h1 h2 => (isDefSlots_canonical s ds vs h1).2 ws h2

/-- the value is the zero of its constructor, and the module is one whose Rust type has that zero. -/
theorem scalar_exact_default (c : Codec) (x : SVal) (hok : c.ok x = true) (he : x.exactDefault = true) : x = c.default := by
  cases x with
  | int n => cases of_decide_eq_true he; cases c <;> cases hok <;> rfl
  | f32 b => cases of_decide_eq_true he; cases c <;> cases hok <;> rfl
  | f64 b => cases of_decide_eq_true he; cases c <;> cases hok <;> rfl
  | bool b =>
    cases b with
    | false => cases c <;> cases hok <;> rfl
    | true => cases he
  | bs b =>
    cases b with
    | nil => cases c <;> cases hok <;> rfl
    | cons a b => cases he

mutual
theorem ok_exact_isDefE (s : Schema) (flag : Bool) (ty : FTy) (v : EVal) (h : okE s flag ty v = true) (he : v.exactDefault = true) :
    isDefE s ty v = true := by
  cases v with
  | s x =>
    cases ty with
    | scalar c => exact decide_eq_true (scalar_exact_default c x (Bool.and_eq_true_iff.mp h).1 he)
    | msg i => cases h
  | msg fs =>
    cases ty with
    | scalar c => cases h
    | msg i => exact ok_exact_isDefSlots s flag (decls s i) fs (Bool.and_eq_true_iff.mp h).1 he
theorem ok_exact_isDefSlot (s : Schema) (flag : Bool) (d : FieldDecl) (v : Slot) (h : okSlot s flag d v = true) (he : v.exactDefault = true) :
    isDefSlot s d v = true := by
  cases v with
  | req a => obtain ⟨t, ty, rfl, h⟩ := okSlot_req h; exact ok_exact_isDefE s flag ty a h he
  | none => rcases okSlot_none h with ⟨t, ty, rfl⟩ | ⟨vs, rfl⟩ <;> rfl
  | some a => cases he
  | rep xs => obtain ⟨t, ty, rfl, _⟩ := okSlot_rep h; cases xs <;> first | rfl | cases he
  | map kvs => obtain ⟨t, kc, vty, rfl, _⟩ := okSlot_map h; cases kvs <;> first | rfl | cases he
  | one t a => cases he
theorem ok_exact_isDefSlots (s : Schema) (flag : Bool) : ∀ (ds : List FieldDecl) (vs : Slots), okSlots s flag ds vs = true →
    vs.exactDefault = true → isDefSlots s ds vs = true := by
  intro ds vs h he
  cases vs with
  | nil => cases ds <;> first | rfl | cases h
  | cons v r =>
    cases ds with
    | nil => cases h
    | cons d ds =>
      have h := Bool.and_eq_true_iff.mp h
      have he := Bool.and_eq_true_iff.mp he
      exact Bool.and_eq_true_iff.mpr ⟨ok_exact_isDefSlot s flag d v h.1 he.1, ok_exact_isDefSlots s flag ds r h.2 he.2⟩
end

theorem isDef_defaultMsg (s : Schema) (hs : WFSchema s = true) (i : Nat) : isDefSlots s (decls s i) (defaultMsg s i) = true := by
  by_cases hi : i < s.length
  · simp only [WFSchema, Bool.and_eq_true, List.all_eq_true, List.mem_range] at hs
    exact hs.2.2 i hi
  · rw [decls_of_ge s i (by omega), defaultMsg_of_ge s i (by omega)]; rfl

theorem isDef_defaultE (s : Schema) (hs : WFSchema s = true) (ty : FTy) : isDefE s ty (defaultE s ty) = true := by
  cases ty with
  | scalar c => simp [defaultE, defaultTy, isDefE]
  | msg i => rw [defaultE_msg]; exact isDef_defaultMsg s hs i

end Pilota.Proto
