import PilotaModel.Lemmas.AsyncBin
/-  `TAsyncCompactProtocol` primitives on flat bytes vs. the in-memory `TCompactInputProtocol`. -/
namespace Pilota.Thrift.Async
open Pilota Pilota.Thrift Pilota.Thrift.Compact

namespace ACmp
open ABin (runF_ret runF_fail)

def pack {α} : Out (α × CR × Bytes) → Out ((α × CR) × Bytes)
  | .ok (a, s, r) => .ok ((a, s), r)
  | .err k => .err k | .panic m => .panic m | .fuel => .fuel

theorem pack_ok {α} (x : Out (α × CR × Bytes)) (a : α) (s : CR) (r : Bytes) :
    pack x = .ok ((a, s), r) ↔ x = .ok (a, s, r) := by
  cases x with
  | ok p => exact ⟨fun h => by cases h; rfl, fun h => by cases h; rfl⟩
  | _ => exact ⟨nofun, nofun⟩

theorem pack_ne_fuel {α} {x : Out (α × CR × Bytes)} (h : x ≠ .fuel) : pack x ≠ .fuel := by
  cases x with
  | fuel => exact absurd rfl h
  | _ => exact nofun

theorem runF_readByte (bs : Bytes) : runF readByte bs = Compact.readByte bs := ABin.runF_readByte bs

theorem ttypeOfCompact_ne_void (n : Nat) : ttypeOfCompact n ≠ some .void := by
  unfold ttypeOfCompact; split <;> nofun

theorem runF_gatherVar (m : Nat) (bs : Bytes) : runF (gatherVar m) bs = Pilota.gatherVar m bs := by
  induction m generalizing bs with
  | zero => cases bs <;> rfl
  | succ m ih =>
    cases bs with
    | nil => rfl
    | cons b r =>
      simp only [gatherVar, runF, Pilota.gatherVar, Binary.takeN, List.length_cons, Nat.le_add_left, if_true,
        List.take_succ_cons, List.take_zero, List.drop_succ_cons, List.drop_zero, List.headD_cons]
      by_cases hb : b.toNat < 128
      · simp [hb]
      · simp only [hb, if_false, runF_bind, ih, bindP]
        cases Pilota.gatherVar m r <;> rfl

theorem runF_readVarU (w : Nat) (bs : Bytes) : runF (readVarU w) bs = Pilota.readVarU w bs := by
  unfold readVarU Pilota.readVarU
  rw [runF_bind, runF_gatherVar]
  cases Pilota.gatherVar (varMaxSize w) bs <;> rfl

theorem runF_readVarS (w : Nat) (bs : Bytes) : runF (readVarS w) bs = Pilota.readVarS w bs := by
  unfold readVarS Pilota.readVarS
  rw [runF_bind, runF_gatherVar]
  cases Pilota.gatherVar (varMaxSize w) bs <;> rfl

theorem runF_readFieldBegin (s : CR) (bs : Bytes) : runF (readFieldBegin s) bs = pack (Compact.readFieldBegin s bs) := by
  unfold readFieldBegin Compact.readFieldBegin
  rw [runF_bind, runF_readByte]
  cases Compact.readByte bs with
  | ok p =>
    obtain ⟨b, r⟩ := p
    dsimp only [bindP]
    generalize (if b % 16 = 1 then ({ s with pendingBool := some true } : CR)
      else if b % 16 = 2 then { s with pendingBool := some false } else s) = s1
    cases ttypeOfCompact (b % 16) with
    | none => rfl
    | some t =>
      -- decide the header's conditions first: then every wire type is closed by computation
      by_cases hd : b / 16 ≠ 0
      · by_cases hid : s1.last + ((b / 16 : Nat) : Int) ≤ 32767
        · simp only [if_pos hd, if_pos hid]; cases t <;> rfl
        · simp only [if_pos hd, if_neg hid]; cases t <;> rfl
      · simp only [if_neg hd]
        cases t
        case stop => rfl
        all_goals (dsimp only; rw [runF_bind, runF_readVarS]; cases Pilota.readVarS 2 r <;> rfl)
  | _ => rfl

theorem runF_readBool (s : CR) (bs : Bytes) : runF (readBool s) bs = pack (Compact.readBool s bs) := by
  unfold readBool Compact.readBool
  cases s.pendingBool with
  | some b => rfl
  | none =>
    dsimp only
    rw [runF_bind, runF_readByte]
    cases Compact.readByte bs with
    | ok p =>
      obtain ⟨b, r⟩ := p
      dsimp only [bindP]
      split
      · rfl
      · split <;> rfl
    | _ => rfl

theorem runF_readBytes (bs : Bytes) : runF readBytes bs = Compact.readBytes bs := by
  unfold readBytes Compact.readBytes
  rw [runF_bind, runF_readVarU]
  cases Pilota.readVarU 4 bs with
  | ok p =>
    obtain ⟨n, r⟩ := p
    simp only [bindP, runF, Binary.takeN, Binary.splitTo]
    by_cases h : n ≤ r.length <;> simp [h]
  | _ => rfl

theorem runF_readStructEnd (s : CR) (bs : Bytes) :
    runF (readStructEnd s) bs = (match Compact.readStructEnd s with
      | .ok s' => .ok (s', bs) | .err k => .err k | .panic m => .panic m | .fuel => .fuel) := by
  unfold readStructEnd Compact.readStructEnd
  cases s.stack <;> rfl

/-! ### collection and map headers: the async reader's are the in-memory reader's without the check of the count against the
remaining bytes (`Skip.rawCollBegin`, `Skip.rawCMapBegin`) -/

theorem runF_readCollBegin (bs : Bytes) : runF readCollBegin bs = Skip.rawCollBegin bs := by
  unfold readCollBegin Skip.rawCollBegin
  rw [runF_bind, runF_readByte]
  cases Compact.readByte bs with
  | ok p =>
    obtain ⟨h, r⟩ := p
    dsimp only [bindP]
    cases ttypeOfCompact (h % 16) with
    | none => rfl
    | some et =>
      dsimp only
      split
      · rfl
      · simp only [readSize, runF_bind, runF_readVarU]
        cases Pilota.readVarU 4 r <;> rfl
  | _ => rfl

theorem runF_readMapBegin (bs : Bytes) : runF readMapBegin bs = Skip.rawCMapBegin bs := by
  unfold readMapBegin Skip.rawCMapBegin
  rw [runF_bind, runF_readVarU]
  cases Pilota.readVarU 4 bs with
  | ok p =>
    obtain ⟨n, r⟩ := p
    dsimp only [bindP]
    split
    · rfl
    · rw [runF_bind, runF_readByte]
      cases Compact.readByte r with
      | ok p => obtain ⟨h, r'⟩ := p; dsimp only [bindP]; cases ttypeOfCompact (h / 16) <;> cases ttypeOfCompact (h % 16) <;> rfl
      | _ => rfl
  | _ => rfl

theorem readCollBegin_of_sync {bs : Bytes} {q : (TType × Nat) × Bytes}
    (h : Compact.readCollBegin bs = .ok q) : runF readCollBegin bs = .ok q :=
  (runF_readCollBegin bs).trans (Skip.rawCollBegin_of_read h)

theorem readMapBegin_of_sync {bs : Bytes} {q : (TType × TType × Nat) × Bytes}
    (h : Compact.readMapBegin bs = .ok q) : runF readMapBegin bs = .ok q :=
  (runF_readMapBegin bs).trans (Skip.rawCMapBegin_of_read h)

theorem read_of_rawCollBegin {bs : Bytes} {x : TType × Nat} {r : Bytes} (hb : bs.length < 2 ^ 63)
    (h : Skip.rawCollBegin bs = .ok (x, r)) (hm : x.2 ≤ r.length) : Compact.readCollBegin bs = .ok (x, r) := by
  unfold Skip.rawCollBegin at h
  unfold Compact.readCollBegin
  ok_step h; rename_i hx
  have := Compact.readByte_len hx
  simp only [hx]
  split at h
  · cases h
  · rename_i ht
    simp only [ht]
    split at h
    · cases h
      rw [if_pos ‹_›, Binary.checkSize_ok _ _ hm]
    · ok_step h; rename_i n r2 hy; cases h
      have := Pilota.readVarU_len hy
      simp only [if_neg ‹_›, hy, ABin.checkSize_of_asUsize (inS_toS 4 (by decide) n) (by omega) hm]

theorem read_of_rawCMapBegin {bs : Bytes} {x : TType × TType × Nat} {r : Bytes} (hb : bs.length < 2 ^ 63)
    (h : Skip.rawCMapBegin bs = .ok (x, r)) (hm : x.2.2 ≤ r.length) : Compact.readMapBegin bs = .ok (x, r) := by
  unfold Skip.rawCMapBegin at h
  unfold Compact.readMapBegin
  ok_step h; rename_i n r1 hx
  have := Pilota.readVarU_len hx
  have hin := inS_toS 4 (by decide) n
  simp only [hx]
  split at h
  · rename_i hz
    cases h
    rw [hz, show Binary.checkSize 0 r = .ok 0 from Binary.checkSize_ok 0 r (Nat.zero_le _)]; rfl
  · rename_i hz
    ok_step h; rename_i hd r2 hy
    have := Compact.readByte_len hy
    split at h
    · rename_i hk hv
      cases h
      have hc := ABin.checkSize_of_asUsize hin (by omega : r1.length < 2 ^ 63) (Nat.le_trans hm (by omega))
      have hnz : ¬ Binary.asUsize (toS 4 n) = 0 := fun h0 => hz (by
        have := (Binary.checkSize_inv hc).2.2; rw [h0] at this; have := (Binary.checkSize_inv hc).2.1; omega)
      simp only [hc, if_neg hnz, hy, hk, hv]
    · cases h

end ACmp
end Pilota.Thrift.Async
