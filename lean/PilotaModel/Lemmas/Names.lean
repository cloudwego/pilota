import PilotaModel.Build.Names
namespace Pilota.Build
open Pilota.Gen.Tables

/-- The UTF-8 bytes of a string: what a literal reduces to in the kernel, and what `++` concatenates. -/
def bytes (s : String) : List UInt8 := s.toByteArray.data.toList

theorem bytes_append (s t : String) : bytes (s ++ t) = bytes s ++ bytes t := by
  simp [bytes]

theorem no_keyword_is_raw : ∀ k ∈ keywords ++ pathSegmentKeywords, ¬ bytes "r#" <+: bytes k := by
  decide +kernel

theorem raw_fresh (s : String) :
    keywords.contains ("r#" ++ s) = false ∧ pathSegmentKeywords.contains ("r#" ++ s) = false := by
  have h : "r#" ++ s ∉ keywords ++ pathSegmentKeywords := fun h =>
    no_keyword_is_raw _ h (bytes_append .. ▸ List.prefix_append ..)
  simpa using h

theorem underscore_fresh : ∀ k ∈ pathSegmentKeywords,
    keywords.contains (k ++ "_") = false ∧ pathSegmentKeywords.contains (k ++ "_") = false := by
  decide +kernel

theorem display_fresh (s : String) :
    keywords.contains (display s) = false ∧ pathSegmentKeywords.contains (display s) = false := by
  unfold display
  split
  · exact underscore_fresh s (List.contains_iff_mem.mp ‹_›)
  · split
    · exact raw_fresh s
    · simp_all

theorem take_commonPrefix (p1 p2 : List String) : p1.take (commonPrefix p1 p2) = p2.take (commonPrefix p1 p2) := by
  induction p1 generalizing p2 with
  | nil => simp [commonPrefix]
  | cons a as ih =>
    cases p2 with
    | nil => simp [commonPrefix]
    | cons b bs =>
      simp only [commonPrefix]
      split
      · rename_i h; subst h; simp [ih bs]
      · simp

/-- one `super` per segment pops a suffix; `resolve` pops from the end, so the suffix is given last segment first -/
theorem resolve_supers (pre suf : List String) (rest : List Seg) :
    resolve (pre ++ suf.reverse) (List.replicate suf.length Seg.super ++ rest) = resolve pre rest := by
  induction suf with
  | nil => simp
  | cons x suf ih => simpa [List.replicate_succ, resolve, ← List.append_assoc] using ih

theorem resolve_idents (cur : List String) (xs : List String) : resolve cur (xs.map Seg.ident) = some (cur ++ xs) := by
  induction xs generalizing cur with
  | nil => simp [resolve]
  | cons x xs ih => simp [resolve, ih]

end Pilota.Build
