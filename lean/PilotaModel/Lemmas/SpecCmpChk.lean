import PilotaModel.Lemmas.SpecCmp
/-  The executable membership test of the compact relation is sound. -/
namespace Pilota.Thrift.SpecCmp
open Pilota Pilota.Thrift Pilota.Thrift.Spec

theorem u8_split (b : UInt8) : UInt8.ofNat (b.toNat / 16 * 16 + b.toNat % 16) = b := by
  rw [Nat.div_add_mod']; exact UInt8.ofNat_toNat

theorem nib_lt (b : UInt8) : b.toNat / 16 < 16 := Nat.div_lt_of_lt_mul (b.toNat_lt : b.toNat < 16 * 16)

theorem chkHdr_sound (last : Int) (c : Nat) (id : Int) (bs r : Bytes) (h : chkHdr last c id bs = some r) :
    ∃ hd, bs = hd ++ r ∧ Hdr last c id hd := by
  cases bs with
  | nil => cases h
  | cons b rest =>
    obtain ⟨hc, h⟩ := nguard_some h
    have hb := u8_split b
    rw [Decidable.not_not.mp hc] at hb
    by_cases hd : b.toNat / 16 = 0
    · rw [if_pos hd] at h
      rw [hd, Nat.zero_mul, Nat.zero_add] at hb
      exact ⟨_, hb ▸ congrArg (UInt8.ofNat c :: ·) (stripPrefix_some _ _ _ h), Hdr.long⟩
    · rw [if_neg hd] at h
      obtain ⟨hid, h⟩ := guard_some h
      cases h
      exact ⟨[b], rfl, hb ▸ Hdr.short _ (Nat.pos_of_ne_zero hd) (Nat.le_of_lt_succ (nib_lt b)) hid⟩

theorem chkCollHdr_sound (c n : Nat) (bs r : Bytes) (h : chkCollHdr c n bs = some r) : ∃ hd, bs = hd ++ r ∧ CollHdr c n hd := by
  cases bs with
  | nil => cases h
  | cons b rest =>
    obtain ⟨hc, h⟩ := nguard_some h
    have hb := u8_split b
    rw [Decidable.not_not.mp hc] at hb
    by_cases h15 : b.toNat / 16 = 15
    · rw [if_pos h15] at h
      obtain ⟨hn, h⟩ := guard_some h
      rw [h15] at hb
      exact ⟨_, hb ▸ congrArg (UInt8.ofNat (0xF0 + c) :: ·) (stripPrefix_some _ _ _ h), CollHdr.long hn⟩
    · rw [if_neg h15] at h
      obtain ⟨hn, h⟩ := guard_some h
      cases h
      rw [hn] at hb
      exact ⟨_, congrArg (· :: r) hb.symm,
        CollHdr.short (Nat.le_of_lt_succ (Nat.lt_of_le_of_ne (Nat.le_of_lt_succ (hn ▸ nib_lt b)) (hn ▸ h15)))⟩

mutual
theorem chk_sound (v : TVal) (bs r : Bytes) (h : chk v bs = some r) : ∃ a, bs = a ++ r ∧ Enc v a := by
  cases v with
  | bool b => cases b <;> exact ⟨_, stripPrefix_some _ _ _ h, by constructor⟩
  | i8 n | i16 n | i32 n | i64 n | dbl n | bin n | uuid n =>
    obtain ⟨hn, h⟩ := guard_some h
    exact ⟨_, stripPrefix_some _ _ _ h, by constructor; exact hn⟩
  | struct fs =>
    obtain ⟨a, ha, he⟩ := chkFields_sound 0 fs bs r h
    exact ⟨a, ha, Enc.struct fs a he⟩
  | list et xs | set et xs =>
    cases bs with
    | nil => cases h
    | cons b rest =>
      obtain ⟨hc, h⟩ := guard_some h
      obtain ⟨_, hbs, hd, a, rfl, hh, he⟩ := bind_sound h (chkCollHdr_sound _ _ _) (chkVals_sound et xs · r)
      refine ⟨_, hbs, ?_⟩
      constructor
      · exact (Bool.and_eq_true_iff.mp hc).1
      · exact of_decide_eq_true (Bool.and_eq_true_iff.mp hc).2
      · exact hh
      · exact he
  | map kt vt kvs =>
    cases kvs with
    | nil =>
      obtain ⟨hc, h⟩ := guard_some h
      exact ⟨[0], stripPrefix_some _ _ _ h, Enc.mapEmpty kt vt (Bool.and_eq_true_iff.mp hc).1 (Bool.and_eq_true_iff.mp hc).2⟩
    | cons k v rest =>
      obtain ⟨hl, h⟩ := guard_some h
      split at h
      · rename_i hb r1 hsp
        obtain ⟨hc, h⟩ := guard_some h
        obtain ⟨a, rfl, he⟩ := chkPairs_sound kt vt _ r1 r h
        refine ⟨_, ?_, Enc.map kt vt _ _ k v rest a (Bool.and_eq_true_iff.mp hc).1 (Bool.and_eq_true_iff.mp hc).2 hl he⟩
        rw [stripPrefix_some _ _ _ hsp, u8_split, List.append_assoc]; rfl
      · cases h
theorem chkVals_sound (et : TType) (xs : TVals) (bs r : Bytes) (h : chkVals et xs bs = some r) : ∃ a, bs = a ++ r ∧ EncVals et xs a := by
  cases xs with
  | nil => cases h; exact ⟨[], rfl, EncVals.nil et⟩
  | cons v vs =>
    obtain ⟨ht, h⟩ := guard_some h
    obtain ⟨_, rfl, a, b, rfl, he, hr⟩ := bind_sound h (chk_sound v bs) (chkVals_sound et vs · r)
    exact ⟨_, rfl, EncVals.cons et v vs a b ht he hr⟩
theorem chkFields_sound (last : Int) (fs : TFields) (bs r : Bytes) (h : chkFields last fs bs = some r) :
    ∃ a, bs = a ++ r ∧ EncFields last fs a := by
  cases fs with
  | nil => exact ⟨[0], stripPrefix_some _ _ _ h, EncFields.nil last⟩
  | cons id v rest =>
    by_cases hb : ∃ b, v = .bool b
    · obtain ⟨b, rfl⟩ := hb
      obtain ⟨hid, h⟩ := guard_some h
      obtain ⟨_, rfl, hd, a, rfl, hh, hr⟩ := bind_sound h (chkHdr_sound _ _ _ _) (chkFields_sound id rest · r)
      exact ⟨_, rfl, EncFields.bool last id b rest hd a hid hh hr⟩
    · have hb : ∀ b, v ≠ .bool b := fun b e => hb ⟨b, e⟩
      simp only [chkFields] at h
      split at h
      · cases h
      · rename_i c hc
        obtain ⟨hid, h⟩ := guard_some h
        obtain ⟨_, rfl, _, b, rfl, ⟨hd, a, rfl, hh, he⟩, hr⟩ :=
          bind_sound h (fun r2 h2 => bind_sound h2 (chkHdr_sound _ _ _ _) (chk_sound v · r2)) (chkFields_sound id rest · r)
        exact ⟨_, by simp only [List.append_assoc], EncFields.cons last id v rest c hd a b hid hc hh he hr⟩
theorem chkPairs_sound (kt vt : TType) (kvs : TPairs) (bs r : Bytes) (h : chkPairs kt vt kvs bs = some r) :
    ∃ a, bs = a ++ r ∧ EncPairs kt vt kvs a := by
  cases kvs with
  | nil => cases h; exact ⟨[], rfl, EncPairs.nil kt vt⟩
  | cons k v rest =>
    obtain ⟨ht, h⟩ := guard_some h
    obtain ⟨_, rfl, _, c, rfl, ⟨a, b, rfl, he, he2⟩, hr⟩ :=
      bind_sound h (fun r2 h2 => bind_sound h2 (chk_sound k bs) (chk_sound v · r2)) (chkPairs_sound kt vt rest · r)
    exact ⟨_, by simp only [List.append_assoc], EncPairs.cons kt vt k v rest a b c ht.1 ht.2 he he2 hr⟩
end

theorem check_sound (v : TVal) (bs : Bytes) (h : check v bs = true) : Enc v bs := by
  obtain ⟨a, ha, he⟩ := chk_sound v bs [] (beq_iff_eq.mp h)
  rwa [ha, List.append_nil]

end Pilota.Thrift.SpecCmp
