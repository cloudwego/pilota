import PilotaModel.Lemmas.IdlService
namespace Pilota.Idl

/-- true of every item (`item_supported`); the hypothesis of `item_rt` that asks for it always holds -/
def Item.supported : Item → Bool
  | .include _ | .cppInclude _ | .namespace _ | .typedef _ | .enum _ => true
  | .constant c => c.value.supported
  | .struct s | .union s | .exception s => s.supported
  | .service s => s.supported

theorem field_supported (f : Field) : f.supported = true := by
  unfold Field.supported; cases f.dflt with
  | none => rfl
  | some v => exact cv_supported v

theorem item_supported (it : Item) : it.supported = true := by
  match it with
  | .include _ | .cppInclude _ | .namespace _ | .typedef _ | .enum _ => rfl
  | .constant c => exact cv_supported c.value
  | .struct s | .union s | .exception s =>
    simp only [Item.supported, StructLike.supported, List.all_eq_true]; intro f _; exact field_supported f
  | .service s =>
    simp only [Item.supported, Service.supported, Function.supported, List.all_eq_true, Bool.and_eq_true]
    intro f _; exact ⟨fun a _ => field_supported a, fun a _ => field_supported a⟩

def Item.depth : Item → Nat
  | .typedef t => t.ty.depth
  | .constant c => c.depth
  | .struct s | .union s | .exception s => s.depth
  | .service s => s.depth
  | _ => 0

def File.depth (f : File) : Nat := (f.items.map Item.depth).foldl max 0

theorem itemKeyword_rt {k0 : Char} {ks r : List Char} (h0 : k0.isAlpha = true) (hks : ∀ c ∈ ks, isIdentChar c = true)
    (hr : hdP (fun c => !isIdentChar c) r = true) : itemKeyword (k0 :: ks ++ r) = .ok (k0 :: ks) (k0 :: ks ++ r) := by
  unfold itemKeyword peek
  rw [word_rt h0 hks hr]; rfl

/-- `Item::parse` on a text that begins with a keyword and a non-empty blank goes to `q`, the arm of that
keyword (`hq` holds by evaluating the chain of comparisons) -/
theorem Reads.dispatch {r : R} {F : List Char → Prop} {Q : Item → List Char → Prop} {k0 : Char} {ks : List Char}
    (h0 : k0.isAlpha = true) (hks : ∀ c ∈ ks, isIdentChar c = true) {f : List Char → P Item} {q : P Item}
    (hq : f (k0 :: ks) = q) (h : Reads q (rLit (k0 :: ks) +> rB1 +> r) F Q) :
    Reads (andThen itemKeyword f) (rLit (k0 :: ks) +> rB1 +> r) F Q := fun l x hx => by
  obtain ⟨a, g, hq', hg, e⟩ := h l x hx
  refine ⟨a, g, hq', hg, ?_⟩
  simp only [rSeq_fst, rLit_fst, rLit_snd, List.append_assoc] at e ⊢
  rw [andThen_of_ok (itemKeyword_rt h0 hks ((rB1_BT l).sep_append (Or.inl (rB1_ne l))).noIdent), hq, e]

theorem item_reads {it : Item} (hw : it.wf = true) {d : Nat} (hd : it.depth < d) (last : Bool) :
    Reads (Item.parse d) (rItem it last) (ItemAfter last) (UpToBlank it) := by
  unfold Item.parse
  match it, hw, hd with
  | .include p, hw, _ => exact .dispatch (by decide) (by decide) rfl (.map (include_reads cs!"include" (q := Include.parse) rfl hw last))
  | .cppInclude p, hw, _ =>
    exact .dispatch (by decide) (by decide) rfl (.map (include_reads cs!"cpp_include" (q := CppInclude.parse) rfl hw last))
  | .namespace n, hw, _ =>
    rw [rItem, rNamespace_eq]
    exact .dispatch (by decide) (by decide) rfl
      (.map ((rNamespace_eq n last ▸ namespace_reads hw last).mono (fun _ h => h) fun _ _ h => ⟨h.1, h.2 ▸ .nil⟩))
  | .typedef t, hw, hd => exact .dispatch (by decide) (by decide) rfl (.map (typedef_reads hw hd last))
  | .constant c, hw, hd => exact .dispatch (by decide) (by decide) rfl (.map (constant_reads hw hd last))
  | .enum e, hw, _ =>
    rw [rItem, rEnum, rSeq_assoc, rSeq_assoc]
    exact .dispatch (by decide) (by decide) rfl
      (.map ((rSeq_assoc .. ▸ rSeq_assoc .. ▸ enum_reads (e := e) hw (b := rB0)).mono (fun _ h => h.1) fun _ _ h => h))
  | .struct s, hw, hd | .union s, hw, hd | .exception s, hw, hd =>
    exact .dispatch (by decide) (by decide) rfl (.map (.lit <| .blank1 (rStructLike_starts hw last).follows <| (structLike_reads hw hd last).mono (fun _ h => h.1) fun _ _ h => h))
  | .service s, hw, hd =>
    rw [rItem, rService_ext]
    exact .dispatch (by decide) (by decide) rfl
      (.map ((rService_ext s last ▸ service_reads hw hd last).mono (fun _ h => h.1) fun _ _ h => h))

theorem item_rt {it : Item} (hw : it.wf = true) (hs : it.supported = true) {d : Nat} (hd : it.depth < d)
    (last : Bool) (l : Layout) {R : List Char} (hlast : last = true → R = []) (hR : ItemStart R) :
    ∃ g, BT g ∧ Item.parse d ((rItem it last l).1 ++ R) = .ok it (g ++ R) :=
  (item_reads hw hd last).upToBlank l ⟨hR, fun h => hlast h ▸ rfl⟩

theorem rItem_start (it : Item) (last : Bool) (l : Layout) (R : List Char) :
    ItemStart ((rItem it last l).1 ++ R) ∧ (rItem it last l).1 ≠ [] := by
  cases it <;> exact ⟨rfl, List.cons_ne_nil _ _⟩

/-- `tuple((opt(blank), Item::parse, opt(blank)))` -/
def slotP (d : Nat) : P Item :=
  andThen (opt blank) fun _ => andThen (Item.parse d) fun item => andThen (opt blank) fun _ => ret item

theorem slot_rt {it : Item} (hw : it.wf = true) {d : Nat} (hd : it.depth < d)
    (last : Bool) (l : Layout) {bl R : List Char} (hbl : BT bl) (hlast : last = true → R = []) (hR : ItemStart R) :
    slotP d (bl ++ ((rItem it last l).1 ++ R)) = .ok it R := by
  obtain ⟨g, hg, h⟩ := (item_reads hw hd last).upToBlank l ⟨hR, fun h => hlast h ▸ rfl⟩
  unfold slotP
  rw [andThen_optBlank hbl (rItem_start it last l R).1.nb, andThen_of_ok h, andThen_optBlank hg hR.nb]
  rfl

theorem fileD_rt {f : File} (hw : f.wf = true) {d : Nat} (hd : f.depth < d) (l : Layout) : File.parseD d (render l f) = .ok f [] := by
  obtain ⟨pkg, items⟩ := f
  simp only [File.wf, Bool.and_eq_true, List.all_eq_true] at hw
  have htext : render l ⟨pkg, items⟩ = (rB0 l).1 ++ (rSlots rItem items (rB0 l).2).1 := by
    simp [render, rFile]
  rw [htext]
  have hpkg : (File.mk (packageOf items) items) = ⟨pkg, items⟩ := by
    have hp := hw.2
    congr 1
    cases pkg with
    | none =>
      cases h : packageOf items with
      | none => rfl
      | some b => rw [h] at hp; simp at hp
    | some a =>
      cases h : packageOf items with
      | none => rw [h] at hp; simp at hp
      | some b => rw [h] at hp; simp at hp; rw [hp]
  have hnb : NB (rSlots rItem items (rB0 l).2).1 := by
    cases items with
    | nil => rfl
    | cons it its =>
      rw [rSlots_cons]
      exact (rItem_start it _ _ _).1.nb
  unfold File.parseD
  rw [andThen_optBlank (rB0_BT l) hnb]
  by_cases hne : items = []
  · subst hne
    rw [← hpkg]
    rfl
  · have hloop := manyTillF_slots (slotP d) rItem (fun it => it.wf = true ∧ it.depth < d)
      (fun R => ItemStart R)
      (by
        intro x last l bl R hx hbl hlast hmid
        have hR : ItemStart R := by
          cases last with
          | true => rw [hlast rfl]; rfl
          | false => exact hmid rfl
        exact ⟨(rItem_start x last l R).2, slot_rt hx.1 hx.2 last l hbl hlast hR⟩)
      (by intro y last l R _; exact (rItem_start y last l R).1)
      items (rB0 l).2 [] _ hne
      (by
        intro x hx
        exact ⟨hw.1 x hx, Nat.lt_of_le_of_lt ((foldl_max_le _ 0).2 _ (List.mem_map_of_mem hx)) hd⟩)
      BT.nil (Nat.lt_succ_self _)
    simp only [List.nil_append] at hloop
    unfold manyTill pmap
    have hloop' : manyTillF (andThen (opt blank) fun _ => andThen (Item.parse d) fun item =>
        andThen (opt blank) fun _ => ret item) eof ((rSlots rItem items (rB0 l).2).1.length + 1)
        (rSlots rItem items (rB0 l).2).1 = .ok (items, ()) [] := hloop
    simp only [hloop', PR.map, PR.bind]
    rw [hpkg]

/-- from every sufficient budget to `File.parse`'s own budget -/
theorem file_parse_of_fileD {f : File} {s : List Char} (h : ∀ d, f.depth < d → File.parseD d s = .ok f []) :
    File.parse s = .ok f [] := by
  have h1 := h (max (f.depth + 1) (s.length + 2)) (by omega)
  have := ext_fileD (d := s.length + 2) (d' := max (f.depth + 1) (s.length + 2)) (by omega) s (file_parse_no_fuel s)
  unfold File.parse
  rw [← this, h1]

end Pilota.Idl
