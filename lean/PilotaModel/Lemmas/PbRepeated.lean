import PilotaModel.Lemmas.PbScalar
/-
  Repeated and packed forms of the scalar modules; `merge_loop` behind a length prefix is the
  loop over the delimited region (`mergeLoop_exact`).
-/
namespace Pilota.Proto
open Pilota

theorem loop_done {σ : Type} (step : σ → Bytes → Out (σ × Bytes)) (f : Nat) (m : σ) (B : Bytes) :
    mergeLoopGo step (f + 1) m B B.length = .ok (m, B) := by
  simp [mergeLoopGo]

theorem mergeLoop_exact {σ : Type} (step : σ → Bytes → Out (σ × Bytes)) (s : σ) (body rest : Bytes) (hlen : body.length < 2 ^ 64) :
    mergeLoop step s (encodeVarint body.length ++ (body ++ rest))
      = mergeLoopGo step ((body ++ rest).length + 1) s (body ++ rest) rest.length := by
  unfold mergeLoop
  rw [decodeVarint_encode _ hlen]
  simp only [List.length_append, Nat.add_sub_cancel_left]
  rw [if_neg (by omega)]

namespace Codec

theorem shape_fixed_pos (c : Codec) (w : Nat) (h : c.shape = .fixed w) : 0 < w := by
  cases c <;> simp [shape] at h <;> omega

theorem encPayload_pos (c : Codec) (v : SVal) (hn : c.isNumeric = true) : 0 < (c.encPayload v).length := by
  unfold encPayload
  cases hs : c.shape with
  | varint => exact encVar_pos _
  | fixed w =>
    simp only [natToLE_length]
    exact shape_fixed_pos c w hs
  | lenDelim => simp [isNumeric, hs] at hn

def allOk (c : Codec) (vs : List SVal) : Prop := ∀ v ∈ vs, c.ok v = true ∧ lenOk v

theorem mergeLoopGo_packed (c : Codec) (hn : c.isNumeric = true) (vs : List SVal) (hv : allOk c vs) (r : Bytes) :
    ∀ (acc : List SVal) (f : Nat), (vs.flatMap c.encPayload ++ r).length ≤ f →
    mergeLoopGo c.packedStep (f + 1) acc (vs.flatMap c.encPayload ++ r) r.length = .ok (acc ++ vs, r) := by
  induction vs with
  | nil => intro acc f _; simp [mergeLoopGo]
  | cons v vs ih =>
    intro acc f hf
    have hp := encPayload_pos c v hn
    have hv1 := hv v (by simp)
    rw [List.flatMap_cons, List.append_assoc] at hf ⊢
    simp only [List.length_append] at hf
    obtain ⟨f, rfl⟩ : ∃ g, f = g + 1 := ⟨f - 1, by omega⟩
    rw [mergeLoopGo, if_pos (by simp only [List.length_append]; omega)]
    simp only [packedStep, merge_enc c v hv1.1 hv1.2]
    rw [ih (fun x hx => hv x (by simp [hx])) (acc ++ [v]) f (by simp only [List.length_append]; omega)]
    simp

theorem flatMap_payload_length (c : Codec) (vs : List SVal) (hv : ∀ v ∈ vs, lenOk v) :
    (vs.flatMap c.encPayload).length = c.payloadLenSum vs := by
  induction vs with
  | nil => rfl
  | cons v vs ih =>
    simp only [List.flatMap_cons, List.length_append, payloadLenSum, List.map_cons, List.sum_cons]
    rw [payloadLen_eq c v (hv v (by simp)), ih (fun x hx => hv x (by simp [hx]))]
    rfl

theorem mergeRepeated_packed (c : Codec) (hn : c.isNumeric = true) (vs : List SVal) (hv : allOk c vs)
    (hlen : c.payloadLenSum vs < 2 ^ 64) (acc : List SVal) (r : Bytes) :
    c.mergeRepeated .len acc (encodeVarint (c.payloadLenSum vs) ++ (vs.flatMap c.encPayload ++ r)) = .ok (acc ++ vs, r) := by
  rw [← flatMap_payload_length c vs (fun v h => (hv v h).2)] at hlen ⊢
  simp only [mergeRepeated, hn, Bool.true_and, decide_true, if_true, mergeLoop_exact _ _ _ _ hlen]
  exact mergeLoopGo_packed c hn vs hv r acc _ (Nat.le_refl _)

theorem mergeRepeated_one (c : Codec) (v : SVal) (hv : c.ok v = true) (hl : lenOk v) (acc : List SVal) (r : Bytes) :
    c.mergeRepeated c.wt acc (c.encPayload v ++ r) = .ok (acc ++ [v], r) := by
  unfold mergeRepeated
  by_cases h : (c.isNumeric && decide (c.wt = .len)) = true
  · exfalso
    simp only [Bool.and_eq_true, decide_eq_true_eq] at h
    obtain ⟨h1, h2⟩ := h
    cases c <;> simp [isNumeric, shape] at h1 <;> simp [wt, shape] at h2
  · simp only [h]
    simp [checkWireType, merge_enc c v hv hl r]

theorem encodeRepeated_cons (c : Codec) (tag : Nat) (v : SVal) (vs : List SVal) :
    c.encodeRepeated tag (v :: vs) = c.encode tag v ++ c.encodeRepeated tag vs := by
  simp [encodeRepeated]

theorem encode_pos (c : Codec) (tag : Nat) (v : SVal) : 0 < (c.encode tag v).length := by
  have := keyBytes_pos tag c.wt
  simp only [encode, List.length_append]; omega

theorem mergeAll_key (c : Codec) (f : Nat) (acc : List SVal) (tag : Nat) (wt : WireType) (h1 : minTag ≤ tag) (h2 : tag ≤ maxTag)
    (rest : Bytes) (acc' : List SVal) (r' : Bytes) (h : c.mergeRepeated wt acc rest = .ok (acc', r')) :
    c.mergeAll (f + 1) acc (keyBytes tag wt ++ rest) = c.mergeAll f acc' r' := by
  have hne : (keyBytes tag wt ++ rest).isEmpty = false := by
    have := keyBytes_pos tag wt
    cases hk : keyBytes tag wt with
    | nil => simp [hk] at this
    | cons a b => rfl
  simp only [mergeAll, hne, Bool.false_eq_true, if_false, decodeKey_keyBytes tag wt h1 h2, h]

theorem mergeAll_repeated (c : Codec) (tag : Nat) (h1 : minTag ≤ tag) (h2 : tag ≤ maxTag) (vs : List SVal) (hv : allOk c vs) :
    ∀ (acc : List SVal) (f : Nat), (c.encodeRepeated tag vs).length < f → c.mergeAll f acc (c.encodeRepeated tag vs) = .ok (acc ++ vs) := by
  induction vs with
  | nil =>
    intro acc f hf
    obtain ⟨f, rfl⟩ : ∃ g, f = g + 1 := ⟨f - 1, by omega⟩
    simp [mergeAll, encodeRepeated]
  | cons v vs ih =>
    intro acc f hf
    obtain ⟨f, rfl⟩ : ∃ g, f = g + 1 := ⟨f - 1, by omega⟩
    have hv1 := hv v (by simp)
    have hp := keyBytes_pos tag c.wt
    rw [encodeRepeated_cons, encode, List.append_assoc] at hf ⊢
    simp only [List.length_append] at hf
    rw [mergeAll_key c f acc tag c.wt h1 h2 _ _ _ (mergeRepeated_one c v hv1.1 hv1.2 acc _),
      ih (fun x hx => hv x (by simp [hx])) (acc ++ [v]) f (by omega)]
    simp

/-- the packed form, read back by the `Message::merge` loop: one iteration for the record, one to see
the input is empty (hence a budget of 2; the empty list writes nothing and needs 1). -/
theorem mergeAll_packed (c : Codec) (hn : c.isNumeric = true) (tag : Nat) (h1 : minTag ≤ tag) (h2 : tag ≤ maxTag)
    (vs : List SVal) (hv : allOk c vs) (hlen : c.payloadLenSum vs < 2 ^ 64) (f : Nat) (hf : 2 ≤ f) :
    c.mergeAll f [] (c.encodePacked tag vs) = .ok vs := by
  obtain ⟨f, rfl⟩ : ∃ g, f = g + 2 := ⟨f - 2, by omega⟩
  unfold encodePacked
  split
  · rename_i he
    cases vs with
    | nil => rfl
    | cons v vs => cases he
  · have := mergeRepeated_packed c hn vs hv hlen [] []
    rw [List.append_nil] at this
    rw [List.append_assoc, mergeAll_key c (f + 1) [] tag .len h1 h2 _ _ _ this]
    rfl

theorem encodedLenRepeated_eq (c : Codec) (tag : Nat) (h2 : tag ≤ maxTag) (vs : List SVal)
    (hv : ∀ v ∈ vs, lenOk v) : c.encodedLenRepeated tag vs = (c.encodeRepeated tag vs).length := by
  induction vs with
  | nil => simp [encodedLenRepeated, encodeRepeated, payloadLenSum]; split <;> simp
  | cons v vs ih =>
    have ih := ih (fun x hx => hv x (by simp [hx]))
    have e := encodedLen_eq c tag h2 v (hv v (by simp))
    rw [encodeRepeated_cons, List.length_append, ← ih, ← e]
    unfold encodedLenRepeated encodedLen payloadLenSum
    cases hs : c.shape with
    | fixed w => simp [payloadLen, hs, Nat.mul_add]; omega
    | _ => simp [Nat.mul_add]; omega

theorem payloadLenSum_fixed (c : Codec) (w : Nat) (hs : c.shape = .fixed w) (vs : List SVal) :
    c.payloadLenSum vs = w * vs.length := by
  induction vs with
  | nil => simp [payloadLenSum]
  | cons v vs ih =>
    simp only [payloadLenSum, List.map_cons, List.sum_cons, List.length_cons] at *
    rw [ih]; simp [payloadLen, hs, Nat.mul_add]; omega

theorem encodedLenPacked_eq (c : Codec) (tag : Nat) (h2 : tag ≤ maxTag) (vs : List SVal)
    (hv : ∀ v ∈ vs, lenOk v) (hlen : c.payloadLenSum vs < 2 ^ 64) :
    c.encodedLenPacked tag vs = (c.encodePacked tag vs).length := by
  unfold encodedLenPacked encodePacked
  split
  · rfl
  · have hl := flatMap_payload_length c vs hv
    have hk := keyLen_eq tag .len h2
    have hev := encodedLenVarint_eq _ hlen
    cases hs : c.shape with
    | fixed w =>
      have hf := payloadLenSum_fixed c w hs vs
      simp only [List.length_append, hl, encodeVarint, encVar_length]
      rw [hf] at hev ⊢
      omega
    | _ =>
      simp only [List.length_append, hl, encodeVarint, encVar_length]
      omega

end Codec
end Pilota.Proto
