import PilotaModel.Lemmas.IdlConst
/-
  C15: `double_rt`.  A `DoubleConstant` keeps its source text; `doubleOk t` says that
  `DoubleConstant::parse` recognises exactly `t`.  The number parsers are *stable*: appending a text
  that begins with a separator character changes neither what they consume nor whether they fail.
-/
namespace Pilota.Idl

def SepStable {α} (p : P α) : Prop :=
  ∀ s r, Sep r → (∀ a s', p s = .ok a s' → p (s ++ r) = .ok a (s' ++ r)) ∧ (p s = .err → p (s ++ r) = .err)

/-- `y` repeats a success or an error of `x`, with `r` appended to what is left.
`SepStable p` unfolds to `∀ s r, Sep r → PR.Stable r (p s) (p (s ++ r))`, and is proved in that form. -/
def PR.Stable {α} (r : List Char) (x y : PR α) : Prop :=
  (∀ a s', x = .ok a s' → y = .ok a (s' ++ r)) ∧ (x = .err → y = .err)

namespace PR.Stable
variable {α β : Type} {r : List Char}

theorem ok (a : α) (s : List Char) : PR.Stable r (.ok a s) (.ok a (s ++ r)) :=
  ⟨fun _ _ h => by cases h; rfl, fun h => nomatch h⟩
theorem err : PR.Stable r (.err : PR α) .err := ⟨fun _ _ h => (nomatch h), fun _ => rfl⟩

theorem handle {x y : PR α} {A A' : α → List Char → PR β} {B B' : PR β}
    (hx : PR.Stable r x y) (hA : ∀ a s', x = .ok a s' → PR.Stable r (A a s') (A' a (s' ++ r))) (hB : PR.Stable r B B') :
    PR.Stable r (x.handle A B) (y.handle A' B') := by
  cases x with
  | ok a s' => rw [hx.1 a s' rfl]; exact hA a s' rfl
  | err => rw [hx.2 rfl]; exact hB
  | _ => exact ⟨fun _ _ h => (nomatch h), fun h => nomatch h⟩

end PR.Stable

namespace SepStable
variable {α β : Type}

theorem ret (a : α) : SepStable (ret a) := fun s _ _ => PR.Stable.ok a s

theorem andThen {p : P α} {f : α → P β} (hp : SepStable p) (hf : ∀ a, SepStable (f a)) : SepStable (andThen p f) :=
  fun s r hr => PR.Stable.handle (hp s r hr) (fun a s' _ => hf a s' r hr) .err

theorem skip {p : P α} {q : P β} (hp : SepStable p) (hq : SepStable q) : SepStable (skip p q) :=
  andThen hp (fun _ => hq)

theorem opt {p : P α} (hp : SepStable p) : SepStable (opt p) :=
  fun s r hr => PR.Stable.handle (hp s r hr) (fun _ _ _ => .ok _ _) (.ok _ _)

theorem alt_nil : SepStable (alt ([] : List (P α))) := fun _ _ _ => PR.Stable.err

theorem alt_cons {p : P α} {ps : List (P α)} (hp : SepStable p) (hps : SepStable (alt ps)) : SepStable (alt (p :: ps)) :=
  fun s r hr => by
  rw [alt_cons_eq, alt_cons_eq]; exact PR.Stable.handle (hp s r hr) (fun _ _ _ => .ok _ _) (hps s r hr)

theorem mapRes {p : P α} (f : α → Option β) (hp : SepStable p) : SepStable (mapRes p f) := fun s r hr =>
  PR.Stable.handle (hp s r hr) (fun a s' _ => by
    cases f a with
    | none => exact .err
    | some b => exact .ok _ _) .err

theorem pmapChecked {p : P α} (f : α → Except String β) (hp : SepStable p) : SepStable (pmapChecked f p) := fun s r hr =>
  PR.Stable.handle (hp s r hr) (fun a s' _ => by
    cases f a with
    | error m => exact ⟨fun _ _ h => (nomatch h), fun h => nomatch h⟩
    | ok b => exact .ok _ _) .err

theorem recognize {p : P α} (hp : SepStable p) (hsuf : ∀ s a s', p s = .ok a s' → s' <:+ s) : SepStable (recognize p) := by
  intro s r hr
  refine PR.Stable.handle (hp s r hr) (fun a s1 e => ?_) .err
  have hle := (hsuf s a s1 e).length_le
  have : (s ++ r).length - (s1 ++ r).length = s.length - s1.length := by simp; omega
  rw [this, List.take_append_of_le_length (by omega)]
  exact .ok _ _

end SepStable

theorem stable_tag {t : List Char} (ht : ∀ c ∈ t, isSepChar c = false) : SepStable (tag t) := by
  intro s r hr
  refine ⟨?_, ?_⟩
  · intro a s' h
    unfold tag at h ⊢
    cases e : stripPrefix t s with
    | none => rw [e] at h; cases h
    | some s1 =>
      rw [e] at h; simp only [PR.ok.injEq] at h; obtain ⟨rfl, rfl⟩ := h
      have := stripPrefix_eq e
      rw [this, List.append_assoc, stripPrefix_append]
  · intro h
    unfold tag at h ⊢
    cases e : stripPrefix t s with
    | some s1 => rw [e] at h; cases h
    | none =>
      have : stripPrefix t (s ++ r) = none := by
        clear h
        induction t generalizing s with
        | nil => simp [stripPrefix] at e
        | cons c t ih =>
          cases s with
          | nil =>
            cases r with
            | nil => rfl
            | cons x r =>
              have hx : isSepChar x = true := hr
              have hc := ht c (by simp)
              have : c ≠ x := by intro e'; subst e'; rw [hx] at hc; cases hc
              simp [stripPrefix, this]
          | cons y s =>
            simp only [stripPrefix, List.cons_append] at e ⊢
            split
            · rename_i hcy; simp only [hcy, if_true] at e; exact ih (fun c hc => ht c (by simp [hc])) s e
            · rfl
      rw [this]

theorem stable_takeWhile1 {f : Char → Bool} (hf : sepChars.all (fun c => !f c) = true) : SepStable (takeWhile1 f) := by
  intro s r hr
  have hstop : hdP (fun c => !f c) r = true := sep_not hf hr
  refine ⟨?_, ?_⟩
  · intro a s' h
    unfold takeWhile1 at h ⊢
    cases s with
    | nil => cases h
    | cons c s =>
      by_cases hc : f c
      · simp only [hc, if_true, PR.ok.injEq] at h
        obtain ⟨rfl, rfl⟩ := h
        simp only [List.cons_append, hc, if_true, PR.ok.injEq]
        exact span_append_stop (c :: s) hstop
      · simp [hc] at h
  · intro h
    unfold takeWhile1 at h ⊢
    cases s with
    | nil =>
      cases r with
      | nil => rfl
      | cons x r => have := hstop; simp only [hdP_cons, Bool.not_eq_true'] at this; simp [this]
    | cons c s =>
      by_cases hc : f c
      · simp [hc] at h
      · simp [hc]

theorem stable_digit1 : SepStable digit1 := stable_takeWhile1 (by decide)
theorem stable_hexDigit1 : SepStable hexDigit1 := stable_takeWhile1 (by decide)

theorem stable_tagNoCase_e : SepStable (tagNoCase ['e']) := by
  intro s r hr
  refine ⟨?_, ?_⟩
  · intro a s' h
    cases s with
    | nil => simp [tagNoCase, stripPrefixNoCase] at h
    | cons c s =>
      simp only [tagNoCase, stripPrefixNoCase, List.cons_append] at h ⊢
      by_cases hc : lowerEq c 'e' = true
      · simp only [hc, if_true] at h ⊢
        by_cases hu : utf8Len [c] = utf8Len ['e']
        · simp only [hu, if_true, PR.ok.injEq] at h ⊢; obtain ⟨rfl, rfl⟩ := h; exact ⟨rfl, rfl⟩
        · simp [hu] at h
      · simp [hc] at h
  · intro h
    cases s with
    | nil => rw [List.nil_append]; exact First.err _ (sep_not (by decide) hr)
    | cons c s =>
      simp only [tagNoCase, stripPrefixNoCase, List.cons_append] at h ⊢
      by_cases hc : lowerEq c 'e' = true
      · simp only [hc, if_true] at h ⊢
        by_cases hu : utf8Len [c] = utf8Len ['e']
        · simp [hu] at h
        · simp [hu] at h
      · simp [hc]

theorem stable_unsigned : SepStable IntConstant.unsigned := by
  unfold IntConstant.unsigned
  exact SepStable.alt_cons (SepStable.skip (stable_tag (by decide)) (SepStable.mapRes _ stable_hexDigit1))
    (SepStable.alt_cons (SepStable.mapRes _ stable_digit1) SepStable.alt_nil)

theorem stable_intConstant : SepStable IntConstant.parse := by
  unfold IntConstant.parse
  exact SepStable.alt_cons (SepStable.skip (stable_tag (by decide)) (SepStable.pmapChecked _ stable_unsigned))
    (SepStable.alt_cons stable_unsigned SepStable.alt_nil)

theorem stable_exponent : SepStable exponent :=
  SepStable.andThen stable_tagNoCase_e (fun _ => SepStable.andThen stable_intConstant (fun _ => SepStable.ret _))

theorem stable_doubleBody : SepStable doubleBody := by
  unfold doubleBody
  have hd := stable_digit1
  have hdot : SepStable (tag ['.']) := stable_tag (by decide)
  have he := stable_exponent
  exact SepStable.alt_cons
    (SepStable.andThen hd fun _ => SepStable.andThen hdot fun _ => SepStable.andThen (SepStable.opt hd) fun _ =>
      SepStable.andThen (SepStable.opt he) fun _ => SepStable.ret _)
    (SepStable.alt_cons
      (SepStable.andThen (SepStable.opt hd) fun _ => SepStable.andThen hdot fun _ => SepStable.andThen hd fun _ =>
        SepStable.andThen (SepStable.opt he) fun _ => SepStable.ret _)
      (SepStable.alt_cons (SepStable.andThen hd fun _ => he) SepStable.alt_nil))

theorem stable_double : SepStable DoubleConstant.parse := by
  have hinner : SepStable doubleSigned :=
    SepStable.andThen (SepStable.opt (stable_tag (by decide))) fun _ =>
      SepStable.andThen (SepStable.opt (stable_tag (by decide))) fun _ => stable_doubleBody
  rw [double_of_body]
  exact SepStable.mapRes _ (SepStable.recognize hinner fun s a s' h => (reg_doubleSigned (w := 0)).good.suffix h)

theorem double_rt {t r : List Char} (h : doubleOk t = true) (hr : Sep r) :
    DoubleConstant.parse (t ++ r) = .ok t r := by
  unfold doubleOk at h
  cases e : DoubleConstant.parse t with
  | ok t' s' =>
    rw [e] at h
    cases s' with
    | cons _ _ => simp at h
    | nil =>
      simp only [decide_eq_true_eq] at h
      subst h
      have := (stable_double t' r hr).1 t' [] e
      simpa using this
  | _ => rw [e] at h; cases h

theorem double_head {t : List Char} (h : doubleOk t = true) :
    ∃ c x, t = c :: x ∧ (c = '-' ∨ c = '+' ∨ c = '.' ∨ isDecDigit c = true) := by
  unfold doubleOk at h
  cases e : DoubleConstant.parse t with
  | ok a r =>
    obtain ⟨c, x, rfl, hc⟩ := First.head e
    refine ⟨c, x, rfl, ?_⟩
    simp only [Bool.or_eq_true, beq_iff_eq] at hc
    rcases hc with h | h | h | (h | h) | h <;> simp [h]
  | _ => rw [e] at h; cases h

end Pilota.Idl
