import PilotaModel.Lemmas.OutSafe
import PilotaModel.Thrift.Types
import PilotaModel.Thrift.Weight
/-
  The one recursion behind every reading interpreter of the model (`Binary.readVal`, `Compact.readVal`,
  `Unsafe.readVal`, the async interpreters run on flat bytes): a value walker over a record of reader primitives.  Each
  interpreter is proved equal to the walker at its own primitives, once (`readVal_eq_walk`); what holds of all of them
  is proved of the walker, here and in `WalkSkip`, where this namespace goes on.
-/
namespace Pilota.Thrift.Walk
open Pilota Pilota.Thrift

/-- the wire types of values without parts: the only ones a reader's `leaf` is asked for -/
inductive Leaf where
  | bool | i8 | i16 | i32 | i64 | double | binary | uuid

def Leaf.ttype : Leaf → TType
  | .bool => .bool | .i8 => .i8 | .i16 => .i16 | .i32 => .i32 | .i64 => .i64 | .double => .double | .binary => .binary | .uuid => .uuid

/-- The state `σ` CONTAINS the unread input (`Bytes` for binary, `Compact.CR × Bytes` for compact, `Unsafe.UR`), so no field
mentions bytes.  `Skip.Prims`, the record of the read-and-discard skippers, has the other shape, a state and the input
beside it; `Prims.Skips` goes from one to the other by a `π : σ → τ × Bytes`.
An instance reads a leaf by the interpreter itself on a budget of one, `leaf l := readVal .. 1 l.ttype`: then the eight
leaf arms of `readVal_eq_walk` are `rfl`. -/
structure Prims (σ : Type) where
  leaf : Leaf → σ → Out (TVal × σ)
  structBegin : σ → σ
  structEnd : σ → Out σ
  fieldBegin : σ → Out ((TType × Int) × σ)
  listBegin : σ → Out ((TType × Nat) × σ)
  mapBegin : σ → Out ((TType × TType × Nat) × σ)

variable {σ σ' : Type} {α β : Type}

mutual
def val (R : Prims σ) : Nat → TType → σ → Out (TVal × σ)
  | 0, _, _ => .fuel
  | f+1, .struct, s => (fields R f (R.structBegin s)).bind fun x => (R.structEnd x.2).bind fun s' => .ok (.struct x.1, s')
  | f+1, .list, s => (R.listBegin s).bind fun h => (elems R f h.1.1 h.1.2 h.2).bind fun x => .ok (.list h.1.1 x.1, x.2)
  | f+1, .set, s => (R.listBegin s).bind fun h => (elems R f h.1.1 h.1.2 h.2).bind fun x => .ok (.set h.1.1 x.1, x.2)
  | f+1, .map, s => (R.mapBegin s).bind fun h =>
      (pairs R f h.1.1 h.1.2.1 h.1.2.2 h.2).bind fun x => .ok (.map h.1.1 h.1.2.1 x.1, x.2)
  | _+1, .bool, s => R.leaf .bool s
  | _+1, .i8, s => R.leaf .i8 s
  | _+1, .i16, s => R.leaf .i16 s
  | _+1, .i32, s => R.leaf .i32 s
  | _+1, .i64, s => R.leaf .i64 s
  | _+1, .double, s => R.leaf .double s
  | _+1, .binary, s => R.leaf .binary s
  | _+1, .uuid, s => R.leaf .uuid s
  | _+1, .stop, _ => .err .invalid
  | _+1, .void, _ => .err .invalid
def fields (R : Prims σ) : Nat → σ → Out (TFields × σ)
  | 0, _ => .fuel
  | f+1, s => (R.fieldBegin s).bind fun h =>
      if h.1.1 = .stop then .ok (.nil, h.2)
      else (val R f h.1.1 h.2).bind fun x => (fields R f x.2).bind fun y => .ok (.cons h.1.2 x.1 y.1, y.2)
def elems (R : Prims σ) : Nat → TType → Nat → σ → Out (TVals × σ)
  | 0, _, _, _ => .fuel
  | _+1, _, 0, s => .ok (.nil, s)
  | f+1, et, n+1, s => (val R f et s).bind fun x => (elems R f et n x.2).bind fun y => .ok (.cons x.1 y.1, y.2)
def pairs (R : Prims σ) : Nat → TType → TType → Nat → σ → Out (TPairs × σ)
  | 0, _, _, _, _ => .fuel
  | _+1, _, _, 0, s => .ok (.nil, s)
  | f+1, kt, vt, n+1, s => (val R f kt s).bind fun k => (val R f vt k.2).bind fun v =>
      (pairs R f kt vt n v.2).bind fun y => .ok (.cons k.1 v.1 y.1, y.2)
end

/-- No primitive panics or has a budget to run out of; each moves on in the measure `M` by at least what the walker
builds from it: a leaf its weight, a field header the two units of a field slot, a container header two units (one
is the container's own weight, the other keeps the budget ahead: value, elements and fields take a unit of budget each).
In the instances `M` is three units per byte left (and one for a compact bool pending): three is the most weight one
byte buys (a compact bool field in short form: one byte, field slot 2 + value 1), and it serves the budget too. -/
structure Prims.Safe (R : Prims σ) (M : σ → Nat) : Prop where
  leaf : ∀ l s, (R.leaf l s).Safe False False fun x => M x.2 < M s ∧ x.1.weight + M x.2 ≤ M s
  structBegin : ∀ s, M (R.structBegin s) = M s
  structEnd : ∀ s, (R.structEnd s).Safe False False fun s' => M s' ≤ M s
  fieldBegin : ∀ s, (R.fieldBegin s).Safe False False fun x => M x.2 + 2 ≤ M s
  listBegin : ∀ s, (R.listBegin s).Safe False False fun x => M x.2 + 2 ≤ M s
  mapBegin : ∀ s, (R.mapBegin s).Safe False False fun x => M x.2 + 2 ≤ M s

/-- The offsets 3 > 2 > 1 are there because elements call value calls fields on the same state. -/
theorem safe {R : Prims σ} {M : σ → Nat} (h : R.Safe M) : ∀ f,
    (∀ t s, (val R f t s).Safe False (f < M s + 2) fun x => M x.2 < M s ∧ x.1.weight + M x.2 ≤ M s) ∧
    (∀ s, (fields R f s).Safe False (f < M s + 1) fun x => M x.2 < M s ∧ x.1.weight + M x.2 ≤ M s) ∧
    (∀ et n s, (elems R f et n s).Safe False (f < M s + 3) fun x => x.1.weight + M x.2 ≤ M s) ∧
    (∀ kt vt n s, (pairs R f kt vt n s).Safe False (f < M s + 3) fun x => x.1.weight + M x.2 ≤ M s) := by
  intro f
  induction f with
  | zero => exact ⟨fun _ _ => Nat.succ_pos _, fun _ => Nat.succ_pos _, fun _ _ _ => Nat.succ_pos _, fun _ _ _ _ => Nat.succ_pos _⟩
  | succ f ih =>
    obtain ⟨ih1, ih2, ih3, ih4⟩ := ih
    refine ⟨fun t s => ?_, fun s => ?_, fun et n s => ?_, fun kt vt n s => ?_⟩
    · cases t <;> unfold val
      case stop | void => trivial
      case struct =>
        have := h.structBegin s
        refine (ih2 _).bind_of id (by omega) fun x hx => (h.structEnd _).bind_of id nofun fun s' hs => ?_
        safe_ok [TVal.weight]
      case list | set =>
        refine (h.listBegin s).bind_of id nofun fun x hx => (ih3 _ _ _).bind_of id (by omega) fun y hy => ?_
        safe_ok [TVal.weight]
      case map =>
        refine (h.mapBegin s).bind_of id nofun fun x hx => (ih4 _ _ _ _).bind_of id (by omega) fun y hy => ?_
        safe_ok [TVal.weight]
      all_goals exact (h.leaf _ s).mono id nofun fun _ hx => hx
    · unfold fields
      refine (h.fieldBegin s).bind_of id nofun fun x hx => ?_
      split
      · safe_ok [TFields.weight]
      · refine (ih1 _ _).bind_of id (by omega) fun y hy => (ih2 _).bind_of id (by omega) fun z hz => ?_
        safe_ok [TFields.weight]
    · cases n <;> unfold elems
      · safe_ok [TVals.weight]
      · refine (ih1 _ _).bind_of id (by omega) fun y hy => (ih3 _ _ _).bind_of id (by omega) fun z hz => ?_
        safe_ok [TVals.weight]
    · cases n <;> unfold pairs
      · safe_ok [TPairs.weight]
      · refine (ih1 _ _).bind_of id (by omega) fun y hy => (ih1 _ _).bind_of id (by omega) fun z hz =>
          (ih4 _ _ _ _).bind_of id (by omega) fun w hw => ?_
        safe_ok [TPairs.weight]

/-- `μ` measures what is left, in units of which every value read takes at least one: then a count `n` that was read through is
at most what was left behind its header (`consumes`: `n + μ x.2 ≤ μ s`), which is what the checked headers ask of a count. -/
structure Prims.Consumes (R : Prims σ) (μ : σ → Nat) : Prop where
  leaf : ∀ {l s x}, R.leaf l s = .ok x → μ x.2 < μ s
  structBegin : ∀ s, μ (R.structBegin s) = μ s
  structEnd : ∀ {s s'}, R.structEnd s = .ok s' → μ s' ≤ μ s
  /-- a header need not move on by itself unless it is the last (the compact header of a bool field trades its byte for the bool) -/
  fieldBegin : ∀ {s x}, R.fieldBegin s = .ok x → μ x.2 + (if x.1.1 = .stop then 1 else 0) ≤ μ s
  listBegin : ∀ {s x}, R.listBegin s = .ok x → μ x.2 < μ s
  mapBegin : ∀ {s x}, R.mapBegin s = .ok x → μ x.2 < μ s

theorem consumes {R : Prims σ} {μ : σ → Nat} (h : R.Consumes μ) : ∀ f,
    (∀ {t s x}, val R f t s = .ok x → μ x.2 < μ s) ∧ (∀ {s x}, fields R f s = .ok x → μ x.2 < μ s) ∧
    (∀ {et n s x}, elems R f et n s = .ok x → n + μ x.2 ≤ μ s) ∧ (∀ {kt vt n s x}, pairs R f kt vt n s = .ok x → n + μ x.2 ≤ μ s) := by
  intro f
  induction f with
  | zero => exact ⟨nofun, nofun, nofun, nofun⟩
  | succ f ih =>
    obtain ⟨ih1, ih2, ih3, ih4⟩ := ih
    refine ⟨fun {t s x} e => ?_, fun {s x} e => ?_, fun {et n s x} e => ?_, fun {kt vt n s x} e => ?_⟩
    · cases t <;> unfold val at e
      case stop | void => cases e
      case struct =>
        obtain ⟨y, e1, e⟩ := Out.bind_eq_ok e; obtain ⟨s', e2, e⟩ := Out.bind_eq_ok e; cases e; dsimp only
        have := ih2 e1; have := h.structBegin s; have := h.structEnd e2; omega
      case list | set =>
        obtain ⟨y, e1, e⟩ := Out.bind_eq_ok e; obtain ⟨z, e2, e⟩ := Out.bind_eq_ok e; cases e; dsimp only
        have := h.listBegin e1; have := ih3 e2; omega
      case map =>
        obtain ⟨y, e1, e⟩ := Out.bind_eq_ok e; obtain ⟨z, e2, e⟩ := Out.bind_eq_ok e; cases e; dsimp only
        have := h.mapBegin e1; have := ih4 e2; omega
      all_goals exact h.leaf e
    · unfold fields at e
      obtain ⟨y, e1, e⟩ := Out.bind_eq_ok e
      have := h.fieldBegin e1
      split at e
      · cases e; rw [if_pos ‹_›] at this; exact this
      · obtain ⟨z, e2, e⟩ := Out.bind_eq_ok e; obtain ⟨w, e3, e⟩ := Out.bind_eq_ok e; cases e; dsimp only
        rw [if_neg ‹_›] at this
        have := ih1 e2; have := ih2 e3; omega
    · cases n <;> unfold elems at e
      · cases e; exact Nat.le_of_eq (Nat.zero_add _)
      · obtain ⟨z, e2, e⟩ := Out.bind_eq_ok e; obtain ⟨w, e3, e⟩ := Out.bind_eq_ok e; cases e; dsimp only
        have := ih1 e2; have := ih3 e3; omega
    · cases n <;> unfold pairs at e
      · cases e; exact Nat.le_of_eq (Nat.zero_add _)
      · obtain ⟨z, e1, e⟩ := Out.bind_eq_ok e; obtain ⟨w, e2, e⟩ := Out.bind_eq_ok e; obtain ⟨u, e3, e⟩ := Out.bind_eq_ok e; cases e; dsimp only
        have := ih1 e1; have := ih1 e2; have := ih4 e3; omega

/-- For a measure of the form `3 * μ` (binary, async binary).  The compact measure `3 * bytes + pending` is not: a drop in it
need not be one in `bytes + pending`, and `ACmp.walkPrims_consumes` is proved from the primitives. -/
theorem Prims.Safe.consumes {R : Prims σ} {μ : σ → Nat} (h : R.Safe fun s => 3 * μ s) : R.Consumes μ where
  leaf e := by have := ((h.leaf _ _).ok e).1; omega
  structBegin s := by have := h.structBegin s; omega
  structEnd e := by have := (h.structEnd _).ok e; omega
  fieldBegin e := by have := (h.fieldBegin _).ok e; split <;> omega
  listBegin e := by have := (h.listBegin _).ok e; omega
  mapBegin e := by have := (h.mapBegin _).ok e; omega

/-- `Out.Carries` with the value kept and the states related by `ρ`: for what returns a value and a state. -/
def Carries (ρ : σ → σ' → Prop) (x : Out (α × σ)) (y : Out (α × σ')) : Prop :=
  ∀ a s, x = .ok (a, s) → ∃ s', y = .ok (a, s') ∧ ρ s s'

namespace Carries
variable {ρ : σ → σ' → Prop} {x : Out (α × σ)} {y : Out (α × σ')}

theorem ok {a : α} {s s'} (h : ρ s s') : Carries ρ (.ok (a, s)) (.ok (a, s')) := fun _ _ e => by cases e; exact ⟨s', rfl, h⟩

theorem of_app {φ : σ → σ'} (h : ∀ a s, x = .ok (a, s) → y = .ok (a, φ s)) : Carries (fun s s' => s' = φ s) x y :=
  fun a s e => ⟨_, h a s e, rfl⟩

theorem app {φ : σ → σ'} (h : Carries (fun s s' => s' = φ s) x y) {a : α} {s : σ} (hx : x = .ok (a, s)) : y = .ok (a, φ s) := by
  obtain ⟨_, hy, rfl⟩ := h a s hx
  exact hy

theorem bind {k : α × σ → Out (β × σ)} {k' : α × σ' → Out (β × σ')} (hx : Carries ρ x y)
    (hk : ∀ a s s', x = .ok (a, s) → ρ s s' → Carries ρ (k (a, s)) (k' (a, s'))) : Carries ρ (x.bind k) (y.bind k') := by
  cases x with
  | ok p =>
    obtain ⟨s', hy, hr⟩ := hx p.1 p.2 rfl
    rw [hy]
    exact hk p.1 p.2 s' rfl hr
  | _ => exact nofun
end Carries

/-- The primitives of `R'` carry over every success of the primitives of `R`.  `ρ` relates the states between values, the
weaker `ρv t` those in front of a value of type `t`: what a field header leaves is only known to be fit for the type it
announces (the compact header of a bool field leaves the bool pending, and nothing but a bool may be read then).
A container header is carried over only when the count it announces is admissible (`C`).
The instances: `R' = R` with `q` behind the input (`readVal_ext`); in-memory binary reader and async one, each way, along
`ABin.Fits` (the way back needs `C n s := n ≤ s.length`); checked reader and unchecked one along `Unsafe.Good s0`; in-memory
compact to async along equality, and back along `ACmp.Fitv` / `ACmp.Fit`, the one instance where `ρv` is not `ρ`. -/
structure Prims.SimV (R : Prims σ) (R' : Prims σ') (ρv : TType → σ → σ' → Prop) (ρ : σ → σ' → Prop) (C : Nat → σ → Prop) : Prop where
  weaken : ∀ {t s s'}, ρ s s' → ρv t s s' := by exact id
  stop : ∀ {s s'}, ρv .stop s s' → ρ s s' := by exact id
  leaf : ∀ l {s s'}, ρv l.ttype s s' → Carries ρ (R.leaf l s) (R'.leaf l s')
  structBegin : ∀ {s s'}, ρv .struct s s' → ρ (R.structBegin s) (R'.structBegin s')
  structEnd : ∀ {s s'}, ρ s s' → Out.Carries ρ (R.structEnd s) (R'.structEnd s')
  fieldBegin : ∀ {s s'}, ρ s s' → ∀ t id s1, R.fieldBegin s = .ok ((t, id), s1) → ∃ s1', R'.fieldBegin s' = .ok ((t, id), s1') ∧ ρv t s1 s1'
  listBegin : ∀ {t s s'}, t = .list ∨ t = .set → ρv t s s' → ∀ et n s1, R.listBegin s = .ok ((et, n), s1) → C n s1 →
    ∃ s1', R'.listBegin s' = .ok ((et, n), s1') ∧ ρ s1 s1'
  mapBegin : ∀ {s s'}, ρv .map s s' → ∀ kt vt n s1, R.mapBegin s = .ok ((kt, vt, n), s1) → C n s1 →
    ∃ s1', R'.mapBegin s' = .ok ((kt, vt, n), s1') ∧ ρ s1 s1'

def SimsV (R : Prims σ) (R' : Prims σ') (ρv : TType → σ → σ' → Prop) (ρ : σ → σ' → Prop) (f f' : Nat) : Prop :=
  (∀ t {s s'}, ρv t s s' → Carries ρ (val R f t s) (val R' f' t s')) ∧
  (∀ {s s'}, ρ s s' → Carries ρ (fields R f s) (fields R' f' s')) ∧
  (∀ et n {s s'}, ρ s s' → Carries ρ (elems R f et n s) (elems R' f' et n s')) ∧
  (∀ kt vt n {s s'}, ρ s s' → Carries ρ (pairs R f kt vt n s) (pairs R' f' kt vt n s'))

/-- `C` is what is known of a count `n` and the state after its header once the `n` elements have been read (`hN`, `hP`: from
`consumes`, or nothing).

When a projection of this theorem, of `safe` or of `skips` is applied to a run `.. = .ok (v, r)`, name the pair
(`(x := (v, r))`): left to itself the unifier cannot solve `?x.1` and `?x.2` and goes on to unfold the interpreters. -/
theorem simV {R : Prims σ} {R' : Prims σ'} {ρv : TType → σ → σ' → Prop} {ρ : σ → σ' → Prop} {C : Nat → σ → Prop} (h : R.SimV R' ρv ρ C)
    (hN : ∀ {f et n s x}, elems R f et n s = .ok x → C n s) (hP : ∀ {f kt vt n s x}, pairs R f kt vt n s = .ok x → C n s) :
    ∀ f f', f ≤ f' → SimsV R R' ρv ρ f f' := by
  intro f
  induction f with
  | zero => exact fun _ _ => ⟨fun _ _ _ _ => nofun, fun _ _ => nofun, fun _ _ _ _ _ => nofun, fun _ _ _ _ _ _ => nofun⟩
  | succ f ih =>
    intro f' hf
    obtain ⟨g, rfl⟩ : ∃ g, f' = g + 1 := ⟨f' - 1, by omega⟩
    obtain ⟨ih1, ih2, ih3, ih4⟩ := ih g (by omega)
    refine ⟨fun t s s' hr => ?_, fun {s s'} hr => ?_, fun et n s s' hr => ?_, fun kt vt n s s' hr => ?_⟩
    · cases t <;> unfold val
      case struct =>
        refine (ih2 (h.structBegin hr)).bind fun fs s1 s1' _ h1 => fun v s2 e => ?_
        obtain ⟨s2, e1, e2⟩ := Out.bind_eq_ok e
        obtain ⟨s2', e1', h2⟩ := h.structEnd h1 _ e1
        cases e2
        exact ⟨s2', by rw [e1']; rfl, h2⟩
      case list | set =>
        refine fun v s2 e => ?_
        obtain ⟨⟨⟨et, n⟩, s1⟩, e1, e2⟩ := Out.bind_eq_ok e
        obtain ⟨⟨xs, s3⟩, e3, e4⟩ := Out.bind_eq_ok e2
        obtain ⟨s1', e1', h1⟩ := h.listBegin (by decide) hr _ _ _ e1 (hN e3)
        obtain ⟨s3', e3', h3⟩ := (ih3 et n h1) _ _ e3
        cases e4
        exact ⟨s3', by rw [e1', Out.ok_bind, e3']; rfl, h3⟩
      case map =>
        refine fun v s2 e => ?_
        obtain ⟨⟨⟨kt, vt, n⟩, s1⟩, e1, e2⟩ := Out.bind_eq_ok e
        obtain ⟨⟨xs, s3⟩, e3, e4⟩ := Out.bind_eq_ok e2
        obtain ⟨s1', e1', h1⟩ := h.mapBegin hr _ _ _ _ e1 (hP e3)
        obtain ⟨s3', e3', h3⟩ := (ih4 kt vt n h1) _ _ e3
        cases e4
        exact ⟨s3', by rw [e1', Out.ok_bind, e3']; rfl, h3⟩
      case stop | void => exact nofun
      all_goals exact h.leaf _ hr
    · unfold fields
      refine fun fs s3 e => ?_
      obtain ⟨⟨⟨t, id⟩, s1⟩, e1, e2⟩ := Out.bind_eq_ok e
      obtain ⟨s1', e1', h1⟩ := h.fieldBegin hr _ _ _ e1
      rw [e1', Out.ok_bind]
      refine (?_ : Carries ρ _ _) _ _ e2
      dsimp only
      split
      · exact .ok (h.stop (‹t = .stop› ▸ h1))
      · exact (ih1 _ h1).bind fun v s2 s2' _ h2 => (ih2 h2).bind fun _ _ _ _ h3 => .ok h3
    · cases n <;> unfold elems
      · exact .ok hr
      · exact (ih1 _ (h.weaken hr)).bind fun v s1 s1' _ h1 => (ih3 _ _ h1).bind fun _ _ _ _ h2 => .ok h2
    · cases n <;> unfold pairs
      · exact .ok hr
      · exact (ih1 _ (h.weaken hr)).bind fun k s1 s1' _ h1 => (ih1 _ (h.weaken h1)).bind fun v s2 s2' _ h2 =>
          (ih4 _ _ _ h2).bind fun _ _ _ _ h3 => .ok h3

/-- one relation throughout: every instance but compact's `Fitv` / `Fit` -/
abbrev Prims.Sim (R : Prims σ) (R' : Prims σ') (ρ : σ → σ' → Prop) (C : Nat → σ → Prop) : Prop := R.SimV R' (fun _ => ρ) ρ C

abbrev Sims (R : Prims σ) (R' : Prims σ') (ρ : σ → σ' → Prop) (f f' : Nat) : Prop := SimsV R R' (fun _ => ρ) ρ f f'

end Pilota.Thrift.Walk
