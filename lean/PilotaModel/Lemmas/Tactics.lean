/-  Two goal-splitting macros for exploring a goal by hand.  No proof calls them and nothing imports this file. -/
namespace Pilota

/-- split every `match` / `if` of the goal (recursively), closing what `simp_all` closes. -/
macro "osplit" : tactic => `(tactic| ((repeat' (split <;> try simp_all)) <;> try simp_all))

/-- the same on a hypothesis; the equations produced by `split` stay in the context. -/
macro "osplit_at" h:ident : tactic => `(tactic| ((repeat' (split at $h:ident <;> try (simp at $h:ident))) <;> try (simp at $h:ident)))

end Pilota
