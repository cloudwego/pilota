import PilotaModel.Lemmas.Tolerant
import PilotaModel.Lemmas.OpsRun
import PilotaModel.Lemmas.SpecCmp
/-
  Compact protocol: the emitted decoder run on the compact encoding of a wire value equals the
  value-level shadow `projTy`, from every reader state without a pending bool, and restores that state.
  The shadow is the one used for the binary family: nothing in the emitted decoders depends on the
  protocol beyond the reader record `Rd`.
-/
namespace Pilota.TGen
open Pilota Pilota.Thrift Pilota.Thrift.Compact

variable (d : Doc)

abbrev dpC : Option Nat := some skipDepth

def withRestC {α} (s : CR) (rest : Bytes) (o : Out α) : Out (α × (CR × Bytes)) := mapOut (fun v => (v, (s, rest))) o

theorem cskip_enc (v : TVal) (hw : v.wt = true) (hd : v.need ≤ skipDepth) (cr : CR) (hp : cr.pendingBool = none) (rest : Bytes) :
    cmpRd.skip v.ttype (cr, enc v ++ rest) = .ok (cr, rest) := by
  have := Skip.rdSkip_of_read Skip.compact_skips (d := (skipDepth : Int)) (by decide)
    (readVal_enc v hw _ (size_le_budget (size_le v hw) rest) cr hp rest)
  rw [Skip.need_norm, if_pos (by exact_mod_cast hd)] at this
  show mapOut (fun x => (x.2.1, x.2.2)) (Skip.cskip (skipDepth : Int) v.ttype cr (enc v ++ rest)) = _
  rw [Skip.cskip, Skip.cskipVal, this]; rfl

/-- skipping a bool FIELD: the value sits in the reader's pending slot, no byte is consumed -/
theorem cskip_bool_pending (b : Bool) (cr : CR) (hp : cr.pendingBool = some b) (bs : Bytes) :
    cmpRd.skip .bool (cr, bs) = .ok ({ cr with pendingBool := none }, bs) := by
  simp only [cmpRd, Skip.cskip, Skip.cskipVal]
  have : 3 * bs.length + 3 = (3 * bs.length + 2) + 1 := by omega
  rw [this, Skip.rdSkip]
  simp [skipDepth, Skip.compactPrims, Skip.compactLeaf, readBool, hp, mapOut]
  all_goals (intro h; cases h)

theorem cfieldBegin_nil (cr : CR) (last : Int) (rest : Bytes) :
    cmpRd.fieldBegin (cr, encFields last .nil ++ rest) = .ok ((.stop, 0), (cr, rest)) := by
  simp [cmpRd, encFields, readFieldBegin_stop, mapOut]

theorem cfieldBegin_bool (cr : CR) (id : Int) (b : Bool) (r : TFields) (hid : inS 2 id) (rest : Bytes) :
    cmpRd.fieldBegin (cr, encFields cr.last (.cons id (.bool b) r) ++ rest) =
      .ok ((.bool, id), ({ cr with last := id, pendingBool := some b }, encFields id r ++ rest)) := by
  simp only [cmpRd, encFields, List.append_assoc]
  rw [SpecCmp.readFieldBegin_bool cr b id hid _ (Hdr_fieldHeader cr.last (boolByte b) id)]; rfl

theorem cfieldBegin_val (cr : CR) (id : Int) (v : TVal) (r : TFields) (hid : inS 2 id) (hnb : v.ttype ≠ .bool) (rest : Bytes) :
    cmpRd.fieldBegin (cr, encFields cr.last (.cons id v r) ++ rest) =
      .ok ((v.ttype, id), ({ cr with last := id }, enc v ++ (encFields id r ++ rest))) := by
  have hb : ∀ b, v ≠ .bool b := fun b e => hnb (e ▸ rfl)
  obtain ⟨c, hc⟩ := Spec.cmpCode_of_value v hb
  rw [encFields_cons cr.last id v r hb, Spec.compactOf_cmpCode hc]
  simp only [cmpRd, Option.getD_some, List.append_assoc]
  rw [SpecCmp.readFieldBegin_val cr c v.ttype hc id hid _ (Hdr_fieldHeader ..)]; rfl

end Pilota.TGen

namespace Pilota.TGen
open Pilota Pilota.Thrift Pilota.Thrift.Compact

variable (d : Doc)

theorem cr_last_self (cr : CR) : ({ cr with last := cr.last } : CR) = cr := by cases cr; rfl

theorem clistBegin_enc (et : TType) (xs : TVals) (he : et.isValue = true) (hx : xs.wt et = true) (hl : xs.length < 2 ^ 31)
    (cr : CR) (rest : Bytes) :
    cmpRd.listBegin (cr, collHeader ((compactOf et).getD 0) xs.length ++ (encVals xs ++ rest)) =
      .ok ((et, xs.length), (cr, encVals xs ++ rest)) := by
  simp only [cmpRd]
  rw [(Spec.elemNibble_ok et he).2, Option.getD_some, SpecCmp.collHeader_eq _ _ hl,
    SpecCmp.readCollBegin_of_hdr et _ _ (Spec.elemNibble_ok et he).1 hl _ (SpecCmp.CollHdr_collHdr ..) _
      (le_length_append (vals_length_le xs et hx) rest)]
  rfl

theorem cmapBegin_empty (cr : CR) (rest : Bytes) :
    cmpRd.mapBegin (cr, (0 : UInt8) :: rest) = .ok ((.stop, .stop, 0), (cr, rest)) := by
  simp only [cmpRd]
  rw [readMapBegin_empty]
  rfl

theorem cmapBegin_enc (kt vt : TType) (kvs : TPairs) (hk : kt.isValue = true) (hv : vt.isValue = true) (hx : kvs.wt kt vt = true)
    (hne : kvs.length ≠ 0) (hl : kvs.length < 2 ^ 31) (cr : CR) (rest : Bytes) :
    cmpRd.mapBegin (cr, encVar (kvs.length % 2 ^ 32) ++ (UInt8.ofNat ((compactOf kt).getD 0 * 16 + (compactOf vt).getD 0) :: (encPairs kvs ++ rest))) =
      .ok ((kt, vt, kvs.length), (cr, encPairs kvs ++ rest)) := by
  simp only [cmpRd]
  rw [(Spec.elemNibble_ok kt hk).2, (Spec.elemNibble_ok vt hv).2, Spec.len_mod _ hl, Option.getD_some, Option.getD_some,
    SpecCmp.readMapBegin_of_codes kt vt _ _ (Spec.elemNibble_ok kt hk).1 (Spec.elemNibble_ok vt hv).1 _ hne hl _
      (le_length_append (pairs_length_le kvs kt vt hx) rest)]
  rfl

theorem cmpRd_reads_base {ty : STy} {w : TVal} (hb : isBase ty w = true) (hw : w.wt = true) (cr : CR) (hp : cr.pendingBool = none)
    (rest : Bytes) : ReadsV cmpRd dpC w (cr, enc w ++ rest) (cr, rest) := by
  unfold isBase at hb
  split at hb <;> (try (cases hb; done)) <;> (try simp only [TVal.wt, decide_eq_true_eq] at hw)
  · rename_i b
    exact .bool (by cases b <;> simp [cmpRd, enc, readBool, hp, boolByte, readByte, Binary.readByte, mapOut])
  · exact .i8 (by dsimp only [cmpRd, enc]; rw [Binary.readI_i .be 1 (by decide) _ hw]; rfl)
  · exact .i16 (by dsimp only [cmpRd, enc]; rw [readVarS_zigzag 2 (Or.inl rfl) _ hw]; rfl)
  · exact .i32 (by dsimp only [cmpRd, enc]; rw [readVarS_zigzag 4 (Or.inr (Or.inl rfl)) _ hw]; rfl)
  · exact .i64 (by dsimp only [cmpRd, enc]; rw [readVarS_zigzag 8 (Or.inr (Or.inr rfl)) _ hw]; rfl)
  · rename_i b
    have : b % 256 ^ 8 = b := Nat.mod_eq_of_lt (by have : (256:Nat)^8 = 2^64 := by decide
                                                   omega)
    exact .dbl (by simp [cmpRd, enc, Binary.readU_enc, this, mapOut])
  · rename_i bs; exact .bin (by dsimp only [cmpRd, enc]; rw [List.append_assoc, Spec.len_mod _ hw, SpecCmp.readBytes_of_length bs rest hw]; rfl)
  · rename_i bs; exact .bin (by dsimp only [cmpRd, enc]; rw [List.append_assoc, Spec.len_mod _ hw, SpecCmp.readBytes_of_length bs rest hw]; rfl)
  · rename_i bs; exact .uuid (by dsimp only [cmpRd, enc]; rw [Binary.takeN_append 16 bs rest hw]; rfl)

mutual
theorem cmpRd_readsV : ∀ (w : TVal) (cr : CR) (rest : Bytes), w.wt = true → cr.pendingBool = none →
    ReadsV cmpRd dpC w (cr, enc w ++ rest) (cr, rest)
  | .bool b, cr, rest, hw, hp => cmpRd_reads_base (ty := .bool) rfl hw cr hp rest
  | .i8 n, cr, rest, hw, hp => cmpRd_reads_base (ty := .i8) rfl hw cr hp rest
  | .i16 n, cr, rest, hw, hp => cmpRd_reads_base (ty := .i16) rfl hw cr hp rest
  | .i32 n, cr, rest, hw, hp => cmpRd_reads_base (ty := .i32) rfl hw cr hp rest
  | .i64 n, cr, rest, hw, hp => cmpRd_reads_base (ty := .i64) rfl hw cr hp rest
  | .dbl b, cr, rest, hw, hp => cmpRd_reads_base (ty := .double) rfl hw cr hp rest
  | .bin bs, cr, rest, hw, hp => cmpRd_reads_base (ty := .binary) rfl hw cr hp rest
  | .uuid bs, cr, rest, hw, hp => cmpRd_reads_base (ty := .uuid) rfl hw cr hp rest
  | .list et xs, cr, rest, hw, hp => by
      simp [TVal.wt] at hw
      simp only [enc, List.append_assoc]
      exact .list (clistBegin_enc et xs hw.1.1 hw.2 hw.1.2 cr rest) (cmpRd_readsN xs et cr rest hw.2 hp)
  | .set et xs, cr, rest, hw, hp => by
      simp [TVal.wt] at hw
      simp only [enc, List.append_assoc]
      exact .set (clistBegin_enc et xs hw.1.1 hw.2 hw.1.2 cr rest) (cmpRd_readsN xs et cr rest hw.2 hp)
  | .map kt vt .nil, cr, rest, _, _ => .map (cmapBegin_empty cr rest) .nil
  | .map kt vt (.cons k v r), cr, rest, hw, hp => by
      simp only [TVal.wt, Bool.and_eq_true, decide_eq_true_eq] at hw
      have hne : (TPairs.cons k v r).length ≠ 0 := by simp [TPairs.length]
      simp only [enc, hne, if_false, List.append_assoc, List.cons_append]
      exact .map (cmapBegin_enc kt vt _ hw.1.1.1 hw.1.1.2 hw.2 hne hw.1.2 cr rest) (cmpRd_readsP _ kt vt cr rest hw.2 hp)
  | .struct fs, cr, rest, hw, hp =>
      .struct (cmpRd_readsF fs (readStructBegin cr) rest hw hp) (by cases cr; simp [cmpRd, readStructBegin, readStructEnd, mapOut])
termination_by structural w => w
theorem cmpRd_readsN : ∀ (xs : TVals) (et : TType) (cr : CR) (rest : Bytes), xs.wt et = true → cr.pendingBool = none →
    ReadsN cmpRd dpC xs (cr, encVals xs ++ rest) (cr, rest)
  | .nil, _, _, _, _, _ => .nil
  | .cons x xs, et, cr, rest, hw, hp => by
      simp [TVals.wt] at hw
      simp only [encVals, List.append_assoc]
      exact .cons (cmpRd_readsV x cr _ hw.1.2 hp) (cmpRd_readsN xs et cr rest hw.2 hp)
termination_by structural xs => xs
theorem cmpRd_readsP : ∀ (kvs : TPairs) (kt vt : TType) (cr : CR) (rest : Bytes), kvs.wt kt vt = true → cr.pendingBool = none →
    ReadsP cmpRd dpC kvs (cr, encPairs kvs ++ rest) (cr, rest)
  | .nil, _, _, _, _, _, _ => .nil
  | .cons k v r, kt, vt, cr, rest, hw, hp => by
      simp [TPairs.wt] at hw
      simp only [encPairs, List.append_assoc]
      exact .cons (cmpRd_readsV k cr _ hw.1.1.2 hp) (cmpRd_readsV v cr _ hw.1.2 hp) (cmpRd_readsP r kt vt cr rest hw.2 hp)
termination_by structural kvs => kvs
theorem cmpRd_readsF : ∀ (wfs : TFields) (cr : CR) (rest : Bytes), wfs.wt = true → cr.pendingBool = none →
    ReadsF cmpRd dpC wfs (cr, encFields cr.last wfs ++ rest) ({ cr with last := lastOf cr.last wfs }, rest)
  | .nil, cr, rest, _, _ => by cases cr; exact .nil (cfieldBegin_nil _ _ rest)
  | .cons id v r, cr, rest, hw, hp => by
      simp [TFields.wt] at hw
      -- with the reader state in constructor form the states below agree by computation
      obtain ⟨l, st, pb⟩ := cr
      cases hp
      have hp' : ({ last := id, stack := st } : CR).pendingBool = none := rfl
      have ih := cmpRd_readsF r { last := id, stack := st } rest hw.2 hp'
      by_cases hbool : v.ttype = .bool
      · -- a bool field: the header carries the value; reading it, or skipping it, clears the pending slot
        obtain ⟨b, rfl⟩ := (ttype_bool_iff v).mp hbool
        refine .cons (cfieldBegin_bool _ id b r hw.1.1 rest) (.bool ?_) (fun _ => ?_) ih
        · simp [cmpRd, readBool, mapOut]
        · exact cskip_bool_pending b _ rfl _
      · exact .cons (cfieldBegin_val _ id v r hw.1.1 hbool rest) (cmpRd_readsV v _ _ hw.1.2 hp')
          (fun ha => cskip_enc v hw.1.2 ha _ hp' _) ih
termination_by structural wfs => wfs
end

theorem cbase_dec {ty : STy} {v : TVal} (hb : isBase ty v = true) (hw : v.wt = true) (f : Nat) (cr : CR) (hp : cr.pendingBool = none)
    (rest : Bytes) : decTy cmpRd d (f + 1) ty (cr, enc v ++ rest) = .ok (v, (cr, rest)) :=
  (corr cmpRd dpC d (f + 1)).1 ty v _ _ (.ok v) (cmpRd_reads_base hb hw cr hp rest) (projTy_base d dpC f hb)

theorem corrC (f : Nat) (ty : STy) (w : TVal) (cr : CR) (rest : Bytes) (o : Out TVal) (hw : w.wt = true)
    (hp : cr.pendingBool = none) (h : projTy d dpC f ty w = some o) :
    decTy cmpRd d f ty (cr, enc w ++ rest) = withRestC cr rest o :=
  (corr cmpRd dpC d f).1 ty w _ _ o (cmpRd_readsV w cr rest hw hp) h

end Pilota.TGen
