import PilotaModel.Lemmas.ReadTotalBinary
import PilotaModel.Thrift.Unsafe
import PilotaModel.Thrift.Msg
/-  Whenever the checked big-endian reader accepts, the unchecked reader stays inside its buffer,
    returns the same value and accounts for the same number of consumed bytes. -/
namespace Pilota.Thrift.Unsafe
open Pilota Pilota.Thrift

def UR.valid (s : UR) : Prop := s.idx ≤ s.bs.length

/-- `s'` is `s` after consuming input down to `r` (a relation between reader states; `Skip.Prims.Good` is about a record). -/
structure Good (s : UR) (r : Bytes) (s' : UR) : Prop where
  rest : s'.rest = r
  valid : s'.valid
  pos : s'.pos + r.length = s.pos + s.rest.length

theorem Good.trans {s s1 s2 : UR} {r1 r2 : Bytes} (h1 : Good s r1 s1) (h2 : Good s1 r2 s2) : Good s r2 s2 := by
  refine ⟨h2.rest, h2.valid, ?_⟩
  have b := h2.pos; rw [h1.rest] at b; exact b.trans h1.pos

/-- Between two outcomes (`Walk.Prims.Sim`, `Skip.Prims.Sim` are between records of primitives).
The unchecked reader's outcome `y` from state `s` follows the checked reader's outcome `x` on `s.rest`:
whenever `x` accepts, `y` returns the same value, in a state that is `Good` for what `x` left.
For a primitive: `split` the hypothesis that the checked reader accepted into the successes of its steps, replay
them on the unchecked side, chain the `Good`s. -/
abbrev Sim {α : Type} (s : UR) (x : Out (α × Bytes)) (y : Out (α × UR)) : Prop := Walk.Carries (Good s) x y

theorem rest_length (s : UR) : s.rest.length = s.bs.length - s.idx := by simp [UR.rest]

theorem peek_sim (s : UR) (hv : s.valid) (n : Nat) : Sim s (Binary.takeN n s.rest) (peek s n) := by
  refine fun a r h => ?_
  unfold Binary.takeN at h
  split at h <;> cases h
  rename_i hn
  have hb : s.idx + n ≤ s.bs.length := Nat.add_le_of_le_sub' hv (rest_length s ▸ hn)
  refine ⟨{ s with idx := s.idx + n }, by simp [peek, hb, UR.rest], by simp [UR.rest, List.drop_drop], hb, ?_⟩
  show s.adv + (s.idx + n) + (s.rest.drop n).length = s.adv + s.idx + s.rest.length
  rw [List.length_drop, Nat.add_assoc, Nat.add_assoc, Nat.add_assoc, Nat.add_sub_of_le hn]

theorem readU_sim (s : UR) (hv : s.valid) (w : Nat) : Sim s (Binary.readU .be w s.rest) (readU w s) := by
  refine fun n r h => ?_
  unfold Binary.readU at h
  split at h <;> cases h
  obtain ⟨s1, h1, g1⟩ := (peek_sim s hv w) _ _ ‹_›
  exact ⟨s1, by rw [readU, h1]; rfl, g1⟩

theorem readI_sim (s : UR) (hv : s.valid) (w : Nat) : Sim s (Binary.readI .be w s.rest) (readI w s) := by
  refine fun n r h => ?_
  unfold Binary.readI at h
  split at h <;> cases h
  obtain ⟨s1, h1, g1⟩ := (readU_sim s hv w) _ _ ‹_›
  exact ⟨s1, by rw [readI, h1], g1⟩

theorem readTType_sim (s : UR) (hv : s.valid) : Sim s (Binary.readTType s.rest) (readTType s) := by
  refine fun t r h => ?_
  unfold Binary.readTType at h
  rw [Binary.readByte_as_readU] at h
  split at h <;> try cases h
  rename_i hx
  split at h <;> cases h
  rename_i ht
  obtain ⟨s1, h1, g1⟩ := (readU_sim s hv 1) _ _ hx
  exact ⟨s1, by rw [readTType, h1]; simp only [ht], g1⟩

/-- `advance(index)`: re-anchoring consumes nothing. -/
theorem advance_good (s : UR) (hv : s.valid) : ∃ s', advance s s.idx = .ok s' ∧ Good s s.rest s' ∧ s'.idx = 0 := by
  unfold UR.valid at hv
  have h1 : ¬ s.bs.length < s.idx := Nat.not_lt.mpr hv
  exact ⟨{ bs := s.bs.drop s.idx, idx := s.idx - s.idx, adv := s.adv + s.idx }, by simp [advance, h1],
    ⟨by simp [UR.rest], by simp [UR.valid], by simp [UR.pos]⟩, by simp⟩

/-- `split_to(n)` on a re-anchored reader. -/
theorem splitTo_good (s : UR) (h0 : s.idx = 0) (n : Nat) (hn : n ≤ s.rest.length) :
    ∃ s', splitTo s n = .ok (s.rest.take n, s') ∧ Good s (s.rest.drop n) s' ∧ s'.idx = 0 := by
  simp only [UR.rest, h0, List.drop_zero] at hn ⊢
  refine ⟨{ s with bs := s.bs.drop n, adv := s.adv + n }, by simp [splitTo, hn], ⟨by simp [UR.rest, h0], by simp [UR.valid, h0], ?_⟩, h0⟩
  simp only [UR.pos, UR.rest, h0, List.drop_zero, List.length_drop]; omega

theorem readBytes_sim (s : UR) (hv : s.valid) : Sim s (Binary.readBytes .be s.rest) (readBytes s) := by
  refine fun b r h => ?_
  unfold Binary.readBytes at h
  split at h <;> try cases h
  rename_i len r1 hx
  dsimp only at h
  split at h <;> try cases h
  rename_i hn
  unfold Binary.splitTo at h
  rw [if_pos hn] at h
  cases h
  obtain ⟨s1, h1, g1⟩ := (readI_sim s hv 4) _ _ hx
  obtain ⟨s2, h2, g2, i2⟩ := advance_good s1 g1.valid
  rw [g1.rest] at g2
  obtain ⟨s3, h3, g3, _⟩ := splitTo_good s2 i2 (Binary.asUsize len) (g2.rest ▸ hn)
  rw [g2.rest] at h3 g3
  exact ⟨s3, by simp only [readBytes, h1, h2, h3], (g1.trans g2).trans g3⟩

theorem readFieldBegin_sim (s : UR) (hv : s.valid) : Sim s (Binary.readFieldBegin .be s.rest) (readFieldBegin s) := by
  refine fun x r h => ?_
  unfold Binary.readFieldBegin at h
  split at h <;> try cases h
  rename_i t r1 hx
  obtain ⟨s1, h1, g1⟩ := (readTType_sim s hv) _ _ hx
  split at h
  · rename_i hs
    cases h
    exact ⟨s1, by simp only [readFieldBegin, h1, hs, if_true], g1⟩
  · rename_i hs
    split at h <;> cases h
    rename_i hy
    obtain ⟨s2, h2, g2⟩ := (readI_sim s1 g1.valid 2) _ _ (g1.rest ▸ hy)
    exact ⟨s2, by simp only [readFieldBegin, h1, hs, if_false, h2], g1.trans g2⟩

theorem readListBegin_sim (s : UR) (hv : s.valid) : Sim s (Binary.readListBegin .be s.rest) (readListBegin s) := by
  refine fun x r h => ?_
  unfold Binary.readListBegin at h
  split at h <;> try cases h
  rename_i hx
  split at h <;> try cases h
  rename_i hy
  split at h <;> cases h
  rename_i hc
  obtain ⟨s1, h1, g1⟩ := (readTType_sim s hv) _ _ hx
  obtain ⟨s2, h2, g2⟩ := (readI_sim s1 g1.valid 4) _ _ (g1.rest ▸ hy)
  exact ⟨s2, by simp only [readListBegin, h1, h2, Binary.asUsize_of_checkSize (Binary.readI_inS _ 4 (by decide) _ _ _ hy) hc], g1.trans g2⟩

theorem readMapBegin_sim (s : UR) (hv : s.valid) : Sim s (Binary.readMapBegin .be s.rest) (readMapBegin s) := by
  refine fun x r h => ?_
  unfold Binary.readMapBegin at h
  split at h <;> try cases h
  rename_i hk
  split at h <;> try cases h
  rename_i hx
  split at h <;> try cases h
  rename_i hy
  split at h <;> cases h
  rename_i hc
  obtain ⟨s0, h0, g0⟩ := (readTType_sim s hv) _ _ hk
  obtain ⟨s1, h1, g1⟩ := (readTType_sim s0 g0.valid) _ _ (g0.rest ▸ hx)
  obtain ⟨s2, h2, g2⟩ := (readI_sim s1 g1.valid 4) _ _ (g1.rest ▸ hy)
  exact ⟨s2, by simp only [readMapBegin, h0, h1, h2, Binary.asUsize_of_checkSize (Binary.readI_inS _ 4 (by decide) _ _ _ hy) hc], (g0.trans g1).trans g2⟩

def walkPrims : Walk.Prims UR where
  leaf l := readVal 1 l.ttype
  structBegin := id
  structEnd := .ok
  fieldBegin := readFieldBegin
  listBegin := readListBegin
  mapBegin := readMapBegin

theorem readVal_eq_walk : ∀ f,
    readVal f = Walk.val walkPrims f ∧ readFields f = Walk.fields walkPrims f ∧
    readN f = Walk.elems walkPrims f ∧ readPairs f = Walk.pairs walkPrims f := by
  intro f
  induction f with
  | zero => exact ⟨by funext t s; rfl, by funext s; rfl, by funext t n s; rfl, by funext kt vt n s; rfl⟩
  | succ f ih =>
    obtain ⟨ih1, ih2, ih3, ih4⟩ := ih
    refine ⟨?_, ?_, ?_, ?_⟩
    · funext t s
      cases t <;> unfold Walk.val
      case struct => rw [← ih2]; unfold readVal; show _ = Out.bind (readFields f s) _; cases readFields f s <;> rfl
      case list | set =>
        rw [← ih3]; unfold readVal; show _ = Out.bind (readListBegin s) _
        cases readListBegin s with
        | ok a => obtain ⟨⟨et, n⟩, r⟩ := a; dsimp only [Out.bind]; cases readN f et n r <;> rfl
        | _ => rfl
      case map =>
        rw [← ih4]; unfold readVal; show _ = Out.bind (readMapBegin s) _
        cases readMapBegin s with
        | ok a => obtain ⟨⟨kt, vt, n⟩, r⟩ := a; dsimp only [Out.bind]; cases readPairs f kt vt n r <;> rfl
        | _ => rfl
      all_goals rfl
    · funext s
      unfold Walk.fields readFields
      rw [← ih1, ← ih2]; show _ = Out.bind (readFieldBegin s) _
      cases readFieldBegin s with
      | ok a =>
        obtain ⟨⟨t, id⟩, r⟩ := a
        dsimp only [Out.bind]
        split
        · rfl
        · cases readVal f t r with
          | ok a => dsimp only; cases readFields f a.2 <;> rfl
          | _ => rfl
      | _ => rfl
    · funext t n s
      cases n <;> unfold Walk.elems readN
      · rfl
      · rw [← ih1, ← ih3]
        cases readVal f t s with
        | ok a => dsimp only [Out.bind]; cases readN f t _ a.2 <;> rfl
        | _ => rfl
    · funext kt vt n s
      cases n <;> unfold Walk.pairs readPairs
      · rfl
      · rw [← ih1, ← ih4]
        cases readVal f kt s with
        | ok a =>
          dsimp only [Out.bind]
          cases readVal f vt a.2 with
          | ok b => dsimp only; cases readPairs f kt vt _ b.2 <;> rfl
          | _ => rfl
        | _ => rfl

theorem leaf_sim (l : Walk.Leaf) (s : UR) (hv : s.valid) : Sim s (Binary.readVal .be 1 l.ttype s.rest) (readVal 1 l.ttype s) := by
  refine fun v r h => ?_
  cases l <;> dsimp only [Walk.Leaf.ttype] at h ⊢ <;> unfold Binary.readVal at h
  case bool | i8 | i16 | i32 | i64 =>
    split at h <;> cases h; obtain ⟨s1, h1, g1⟩ := (readI_sim s hv _) _ _ ‹_›; exact ⟨s1, by rw [readVal, h1], g1⟩
  case double => split at h <;> cases h; obtain ⟨s1, h1, g1⟩ := (readU_sim s hv _) _ _ ‹_›; exact ⟨s1, by rw [readVal, h1], g1⟩
  case binary => split at h <;> cases h; obtain ⟨s1, h1, g1⟩ := (readBytes_sim s hv) _ _ ‹_›; exact ⟨s1, by rw [readVal, h1], g1⟩
  case uuid => split at h <;> cases h; obtain ⟨s1, h1, g1⟩ := (peek_sim s hv _) _ _ ‹_›; exact ⟨s1, by rw [readVal, h1], g1⟩

/-- `y` follows `x` from `s`, and `s` is where a run from `s0` stands with `bs` left: then `y` follows `x bs` from `s0` -/
theorem Good.step {α : Type} {s0 s : UR} {bs : Bytes} (g : Good s0 bs s) {x : Bytes → Out (α × Bytes)} {y : Out (α × UR)}
    (h : Sim s (x s.rest) y) : Walk.Carries (Good s0) (x bs) y :=
  g.rest ▸ fun _ _ e => have ⟨s1, e1, g1⟩ := h _ _ e; ⟨s1, e1, g.trans g1⟩

theorem walkPrims_sim (s0 : UR) : (Binary.walkPrims .be).Sim walkPrims (Good s0) fun _ _ => True where
  leaf l _ s g := g.step (x := Binary.readVal .be 1 l.ttype) (leaf_sim l s g.valid)
  structBegin g := g
  structEnd g s1 e := by cases e; exact ⟨_, rfl, g⟩
  fieldBegin {_ s} g _ _ _ e := (g.step (x := Binary.readFieldBegin .be) (readFieldBegin_sim s g.valid)) _ _ e
  listBegin {_ _ s} _ g et n r e _ := (g.step (x := Binary.readListBegin .be) (readListBegin_sim s g.valid)) _ _ e
  mapBegin {_ s} g kt vt n r e _ := (g.step (x := Binary.readMapBegin .be) (readMapBegin_sim s g.valid)) _ _ e

theorem Good.refl {s : UR} (hv : s.valid) : Good s s.rest s := ⟨rfl, hv, rfl⟩

theorem read_sim (f : Nat) (s0 : UR) : Walk.Sims (Binary.walkPrims .be) walkPrims (Good s0) f f :=
  Walk.simV (walkPrims_sim s0) (fun _ => trivial) (fun _ => trivial) f f (Nat.le_refl f)

theorem readVal_sim (f : Nat) (t : TType) (s : UR) (hv : s.valid) (v : TVal) (r : Bytes)
    (h : Binary.readVal .be f t s.rest = .ok (v, r)) : ∃ s', readVal f t s = .ok (v, s') ∧ Good s r s' :=
  (readVal_eq_walk f).1 ▸ ((read_sim f s).1 t (.refl hv)) _ _ ((Binary.readVal_eq_walk .be f).1 ▸ h)
theorem readFields_sim (f : Nat) (s : UR) (hv : s.valid) (fs : TFields) (r : Bytes)
    (h : Binary.readFields .be f s.rest = .ok (fs, r)) : ∃ s', readFields f s = .ok (fs, s') ∧ Good s r s' :=
  (readVal_eq_walk f).2.1 ▸ ((read_sim f s).2.1 (.refl hv)) _ _ ((Binary.readVal_eq_walk .be f).2.1 ▸ h)
theorem readN_sim (f : Nat) (et : TType) (n : Nat) (s : UR) (hv : s.valid) (xs : TVals) (r : Bytes)
    (h : Binary.readN .be f et n s.rest = .ok (xs, r)) : ∃ s', readN f et n s = .ok (xs, s') ∧ Good s r s' :=
  (readVal_eq_walk f).2.2.1 ▸ ((read_sim f s).2.2.1 et n (.refl hv)) _ _ ((Binary.readVal_eq_walk .be f).2.2.1 ▸ h)
theorem readPairs_sim (f : Nat) (kt vt : TType) (n : Nat) (s : UR) (hv : s.valid) (xs : TPairs) (r : Bytes)
    (h : Binary.readPairs .be f kt vt n s.rest = .ok (xs, r)) : ∃ s', readPairs f kt vt n s = .ok (xs, s') ∧ Good s r s' :=
  (readVal_eq_walk f).2.2.2 ▸ ((read_sim f s).2.2.2 kt vt n (.refl hv)) _ _ ((Binary.readVal_eq_walk .be f).2.2.2 ▸ h)

/-- whenever the checked `read_message_begin` accepts, the unchecked one returns the same header, stays
inside the buffer, consumes the same bytes and leaves `index = 0` (it ends with `advance(index)`). -/
theorem readMessageBegin_sim (s : UR) (hv : s.valid) (x : Bytes × Nat × Int) (r : Bytes)
    (h : Msg.readBeginBin .be s.rest = .ok (x, r)) :
    ∃ s', readMessageBegin s = .ok (x, s') ∧ Good s r s' ∧ s'.idx = 0 := by
  unfold Msg.readBeginBin at h
  split at h <;> try cases h
  rename_i h1
  dsimp only at h
  split at h
  · cases h
  split at h
  · cases h
  split at h
  · cases h
  rename_i hp ht hver
  split at h <;> try cases h
  rename_i h2
  split at h <;> cases h
  rename_i h3
  obtain ⟨s1, e1, g1⟩ := (readI_sim s hv 4) _ _ h1
  obtain ⟨s2, e2, g2⟩ := (readBytes_sim s1 g1.valid) _ _ (g1.rest ▸ h2)
  obtain ⟨s3, e3, g3⟩ := (readI_sim s2 g2.valid 4) _ _ (g2.rest ▸ h3)
  obtain ⟨s4, e4, g4, i4⟩ := advance_good s3 g3.valid
  rw [g3.rest] at g4
  refine ⟨s4, ?_, ((g1.trans g2).trans g3).trans g4, i4⟩
  simp only [readMessageBegin, e1]
  rw [if_neg hp, if_neg ht, if_neg (show ¬ _ ≠ 0x80010000 from hver)]
  simp only [e2, e3, e4]

end Pilota.Thrift.Unsafe
