import PilotaModel.Thrift.Skip
import PilotaModel.Lemmas.AsyncBin
import PilotaModel.Lemmas.AsyncFlat
/-
  The asynchronous skipper of the binary family, run on flat bytes, is the read-and-discard skipper over the async
  primitives run on flat bytes (`skip_eq_rdSkip`, an equation of all outcomes).  So it accepts whatever the in-memory
  skipper accepts, and stops at the same place, on any bytes a slice can hold and for every fuel at least as large (`askip_sim`):
  the in-memory skipper's primitives are carried over by the async ones.
  Depths: see `depth_pred` (Lemmas/AsyncBin) for why a value is compared at `d` and the loops at `d + 1`.
-/
namespace Pilota.Thrift.Async.ABin
open Pilota Pilota.Thrift Pilota.Thrift.Skip

/-- What `ABin.skip`, the program that runs on streams, is `rdSkip` of (`skip_eq_rdSkip`); the model's `Skip.asyncBinaryPrims` states
the same Rust reads directly on bytes, big-endian only.  A leaf is skipped by the skipper itself, which needs neither budget nor
depth for it. -/
def skipPrims (e : Endian) : Skip.Prims Unit where
  leaf t _ bs := runF (skip e 1 1 t) bs
  structBegin s := s
  structEnd s := .ok s
  fieldBegin s bs := (runF (readFieldBegin e) bs).bind fun x => .ok (x.1, s, x.2)
  listBegin := runF (readListBegin e)
  mapBegin := runF (readMapBegin e)

theorem sp_sb (e : Endian) (s) : (skipPrims e).structBegin s = s := rfl
theorem sp_fb (e : Endian) (s bs) : (skipPrims e).fieldBegin s bs = (runF (readFieldBegin e) bs).bind fun x => .ok (x.1, s, x.2) := rfl

theorem skip_eq_rdSkip (e : Endian) : ∀ f,
    (∀ (d : Nat) t bs, runF (skip e f d t) bs = rdSkip (skipPrims e) f (d : Int) t () bs) ∧
    (∀ (d : Nat) bs, runF (skipFields e f d) bs = rdFields (skipPrims e) f ((d + 1 : Nat) : Int) () bs) ∧
    (∀ (d : Nat) et n bs, runF (skipN e f d et n) bs = rdN (skipPrims e) f ((d + 1 : Nat) : Int) et n () bs) ∧
    (∀ (d : Nat) kt vt n bs, runF (skipPairs e f d kt vt n) bs = rdPairs (skipPrims e) f ((d + 1 : Nat) : Int) kt vt n () bs) := by
  intro f
  induction f with
  | zero => exact ⟨fun _ _ _ => by unfold skip; rfl, fun _ _ => by unfold skipFields; rfl, fun _ _ _ _ => by unfold skipN; rfl,
      fun _ _ _ _ _ => by unfold skipPairs; rfl⟩
  | succ f ih =>
    obtain ⟨ih1, ih2, ih3, ih4⟩ := ih
    refine ⟨fun d t bs => ?_, fun d bs => ?_, fun d et n bs => ?_, fun d kt vt n bs => ?_⟩
    · unfold rdSkip
      cases d with
      | zero => unfold skip; rfl
      | succ d =>
        rw [if_neg (by omega)]
        unfold skip
        cases t <;> dsimp only
        case struct =>
          rw [ih2, sp_sb]
          cases rdFields (skipPrims e) f ((d + 1 : Nat) : Int) () bs <;> rfl
        case list | set =>
          rw [runF_bind']; simp only [ih3]
          show Out.bind (runF (readListBegin e) bs) _ = match runF (readListBegin e) bs with | .ok ((et, n), r) => _ | .err k => _ | .panic m => _ | .fuel => _
          cases runF (readListBegin e) bs <;> rfl
        case map =>
          rw [runF_bind']; simp only [ih4]
          show Out.bind (runF (readMapBegin e) bs) _ = match runF (readMapBegin e) bs with | .ok ((kt, vt, n), r) => _ | .err k => _ | .panic m => _ | .fuel => _
          cases runF (readMapBegin e) bs <;> rfl
        case stop | void => rfl
        all_goals (show _ = runF (skip e 1 1 _) bs; unfold skip; rfl)
    · unfold skipFields rdFields
      rw [runF_bind', sp_fb]
      cases runF (readFieldBegin e) bs with
      | ok a =>
        obtain ⟨⟨t, id⟩, r⟩ := a
        dsimp only [Out.bind]
        split
        · rfl
        · rw [if_neg (depth_ne_min d), depth_pred d, runF_bind', ih1]
          cases rdSkip (skipPrims e) f (d : Int) t () r with
          | ok b => exact ih2 d b.2
          | _ => rfl
      | _ => rfl
    · cases n <;> unfold skipN rdN
      · rfl
      · rw [if_neg (depth_ne_min d), depth_pred d, runF_bind', ih1]
        cases rdSkip (skipPrims e) f (d : Int) et () bs with
        | ok b => exact ih3 d et _ b.2
        | _ => rfl
    · cases n <;> unfold skipPairs rdPairs
      · rfl
      · rw [if_neg (depth_ne_min d), depth_pred d, runF_bind', ih1]
        cases rdSkip (skipPrims e) f (d : Int) kt () bs with
        | ok b =>
          dsimp only [Out.bind]
          rw [runF_bind', ih1]
          cases rdSkip (skipPrims e) f (d : Int) vt () b.2 with
          | ok c => exact ih4 d kt vt _ c.2
          | _ => rfl
        | _ => rfl

theorem need_of_advance (w : Nat) (bs : Bytes) (k : Nat) (r : Bytes) (h : advance w bs = .ok (k, r)) {α} (c : Bytes → Prog α) :
    runF (.need w c) bs = runF (c (bs.take w)) r := by
  unfold advance at h
  split at h
  · cases h
    simp [runF, Binary.takeN, *]
  · cases h

theorem skipLeaf_of_advance (e : Endian) (w : Nat) (bs : Bytes) (k : Nat) (r : Bytes) (h : advance w bs = .ok (k, r)) :
    runF ((readI e w).bind fun _ => Prog.ret ()) bs = .ok ((), r) := by
  simp [readI, Prog.bind, need_of_advance w bs k r h, runF]

theorem skipBytes_of_skipBinary (e : Endian) (bs : Bytes) (hb : bs.length < 2 ^ 63) (k : Nat) (r : Bytes)
    (h : skipBinary e bs = .ok (k, r)) : runF ((readBytes e).bind fun _ => Prog.ret ()) bs = .ok ((), r) := by
  unfold skipBinary at h
  ok_step h; rename_i len r0 hx
  dsimp only at h
  split at h
  · rename_i hle
    cases h
    have hb' : Binary.readBytes e bs = .ok (r0.take (Binary.asUsize len), r0.drop (Binary.asUsize len)) := by
      simp only [Binary.readBytes, hx, if_pos hle, Binary.splitTo]
    simp only [runF_bind, (readBytes_iff e bs hb _).mpr hb', bindP, runF_ret]
  · cases h

theorem fieldBegin_run {e : Endian} {bs : Bytes} {x : TType × Int} {r : Bytes} (h : Binary.readFieldBegin e bs = .ok (x, r)) :
    runF (readFieldBegin e) bs = .ok (x, r) := (runF_readFieldBegin e bs).trans h

/-- the same input, one a slice can hold; `Fits` (AsyncBinRV) is this for the readers -/
def Held (x x' : Unit × Bytes) : Prop := x' = x ∧ x.2.length < 2 ^ 63

theorem held_ok {bs r : Bytes} {p : Prog Unit} (hb : bs.length < 2 ^ 63) (h : runF p bs = .ok ((), r)) :
    ∃ x', runF p bs = .ok x' ∧ Held ((), r) x' := ⟨_, h, rfl, runF_lt_of_lt h hb⟩

theorem skipPrims_of_sync (e : Endian) : (binaryPrims e).Sim (skipPrims e) Held where
  leaf t _ bs _ _ := fun ⟨hs, hb⟩ x h => by
    cases hs
    change drop1 (binaryLeaf e t bs) = _ at h
    unfold drop1 at h
    ok_step h; rename_i k r hk; cases h
    show ∃ x', runF (skip e 1 1 t) bs = .ok x' ∧ _
    unfold skip
    cases t <;> dsimp only [binaryLeaf] at hk ⊢
    -- with the value dropped, `readU` and the `need 16` of a uuid unfold to the program of `readI`
    case bool | i8 | i16 | i32 | i64 | double | uuid => exact held_ok hb (skipLeaf_of_advance e _ bs k r hk)
    case binary => exact held_ok hb (skipBytes_of_skipBinary e bs hb k r hk)
    all_goals cases hk
  structBegin h := h
  structEnd h s1 e := by cases e; exact ⟨_, rfl, h⟩
  fieldBegin {_ bs _ _} := fun ⟨hs, hb⟩ => fun a y h => by
    cases hs
    rw [bp_fb] at h; ok_step h; rename_i hx; cases h
    have := fieldBegin_run hx
    exact ⟨_, by rw [sp_fb, this]; rfl, rfl, runF_lt_of_lt this hb⟩
  listBegin {_ bs _ _} := fun ⟨hs, hb⟩ x r h => by
    cases hs
    have := readListBegin_of_sync h
    exact ⟨r, this, rfl, runF_lt_of_lt this hb⟩
  mapBegin {_ bs _ _} := fun ⟨hs, hb⟩ x r h => by
    cases hs
    have := readMapBegin_of_sync h
    exact ⟨r, this, rfl, runF_lt_of_lt this hb⟩

theorem Held.eq {x x' : Out (Unit × Bytes)} (h : Out.Carries Held x x') {r : Bytes} (hx : x = .ok ((), r)) :
    x' = .ok ((), r) := by
  obtain ⟨_, e, rfl, _⟩ := h _ hx
  exact e

theorem askip_sim (e : Endian) : ∀ f : Nat,
    (∀ f' (d : Nat) t bs k r, f ≤ f' → bs.length < 2 ^ 63 → Skip.skipVal e f (d : Int) t bs = .ok (k, r) →
      runF (skip e f' d t) bs = .ok ((), r)) ∧
    (∀ f' (d : Nat) bs k r, f ≤ f' → bs.length < 2 ^ 63 → Skip.skipFields e f ((d + 1 : Nat) : Int) bs = .ok (k, r) →
      runF (skipFields e f' d) bs = .ok ((), r)) ∧
    (∀ f' (d : Nat) et n bs k r, f ≤ f' → bs.length < 2 ^ 63 → Skip.skipN e f ((d + 1 : Nat) : Int) et n bs = .ok (k, r) →
      runF (skipN e f' d et n) bs = .ok ((), r)) ∧
    (∀ f' (d : Nat) kt vt n bs k r, f ≤ f' → bs.length < 2 ^ 63 → Skip.skipPairs e f ((d + 1 : Nat) : Int) kt vt n bs = .ok (k, r) →
      runF (skipPairs e f' d kt vt n) bs = .ok ((), r)) := by
  intro f
  obtain ⟨e1, e2, e3, e4⟩ := skipVal_eq e f
  refine ⟨fun f' d t bs k r hf hb h => ?_, fun f' d bs k r hf hb h => ?_, fun f' d et n bs k r hf hb h => ?_,
    fun f' d kt vt n bs k r hf hb h => ?_⟩ <;>
    have hs := rdSkip_sim (skipPrims_of_sync e) f f' hf
  · rw [(skip_eq_rdSkip e f').1]; exact Held.eq (hs.1 d t ⟨rfl, hb⟩) (counted_ok (e1 d t bs ▸ h))
  · rw [(skip_eq_rdSkip e f').2.1]; exact Held.eq (hs.2.1 _ ⟨rfl, hb⟩) (counted_ok (e2 _ bs ▸ h))
  · rw [(skip_eq_rdSkip e f').2.2.1]; exact Held.eq (hs.2.2.1 _ et n ⟨rfl, hb⟩) (counted_ok (e3 _ et n bs ▸ h))
  · rw [(skip_eq_rdSkip e f').2.2.2]; exact Held.eq (hs.2.2.2 _ kt vt n ⟨rfl, hb⟩) (counted_ok (e4 _ kt vt n bs ▸ h))

end Pilota.Thrift.Async.ABin
