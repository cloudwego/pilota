import PilotaModel.Lemmas.PbCanonDefault
import PilotaModel.Lemmas.PbSpecLower
import PilotaModel.Lemmas.PbMerge
/-
  C06, second direction: pilota decodes EVERY conforming encoding (`Spec.Enc`: any field order,
  packed / unpacked / split runs, defaults present or omitted, map entries in either order) to
  the value, by induction over the value.  A record of the reference is read by the arm of its field, a message or
  a map entry by the field loop over its body; an omitted field keeps the default the decoder started from.
-/
namespace Pilota.Proto
open Pilota Spec

theorem encSlots_tags (ps : PSchema) : ∀ (pds : List PDecl) (fs : Slots) (rs : List Rec), EncSlots ps pds fs rs →
    ∀ r ∈ rs, r.tag ∈ allTags (pds.map lowerDecl)
  | [], .nil, rs, h, r, hr => by cases (h : rs = []); cases hr
  | d :: ds, .cons v fs, rs, h, r, hr => by
    obtain ⟨_, h⟩ := h
    rw [List.map_cons, allTags_cons, List.mem_append, lower_tags]
    cases ht : d.tags.contains r.tag with
    | true => exact .inl (List.contains_iff_mem.mp ht)
    | false => exact .inr (encSlots_tags ps ds fs _ h r (List.mem_filter.mpr ⟨hr, by rw [ht]; rfl⟩))
  | [], .cons _ _, _, h, _, _ => by cases h
  | _ :: _, .nil, _, h, _, _ => by cases h

theorem encSlots_tagOk (ps : PSchema) (hs : WFSchema (lowerSchema ps) = true) (i : Nat) (fs : Slots) (rs : List Rec)
    (h : EncSlots ps (pdecls ps i) fs rs) : ∀ q ∈ rs, tagOk q.tag = true := fun q hq =>
  wf_tags_ok _ _ (decls_wf _ hs i).1 _ (decls_lower ps i ▸ encSlots_tags ps _ _ _ h q hq)

theorem readE_s {ps : PSchema} {pty : PFTy} {c : Codec} {y : SVal} {r : Rec} (s : Schema) (recur : Recur) (x : EVal)
    (hl : lowerTy pty = .scalar c) (hok : c.ok y = true) (hlen : Codec.lenOk y) (henc : EncE ps pty (.s y) r) :
    mergeE s recur (.scalar c) x r.wt r.payload = .ok (.s y, []) := by
  obtain ⟨hw, hp⟩ := (encE_scalar hl hok).mp henc
  have := Codec.merge_enc c y hok hlen []
  rw [List.append_nil] at this
  simp only [mergeE, hw, hp, this]

/-- the records of a packable repeated field, in any mix of packed runs and single elements,
are read by `merge_repeated` to the elements in order. -/
theorem foldSlot_packed (s : Schema) (recur : Recur) (t : Nat) {pty : PFTy} {c : Codec} (hl : lowerTy pty = .scalar c)
    (hn : c.isNumeric = true) : ∀ (rs : List Rec) (vs : List SVal) (acc : EVals), EncPacked t pty rs vs → Codec.allOk c vs →
      foldSlot s recur (.rep t (lowerTy pty)) (.rep acc) rs = .ok (.rep (acc.append (svalsToE vs)))
  | [], vs, acc, h, _ => by cases (h : vs = []); rw [svalsToE, EVals.append_nil]; rfl
  | r :: rs, vs, acc, h, hok => by
    obtain ⟨_, ⟨hwt, v, vs', rfl, hpay, hrest⟩ | ⟨hwt, chunk, rest, rfl, hne, hpay, hlen, hrest⟩⟩ := h
    · have hok := List.forall_mem_cons.mp hok
      have hm := mergeSlot_rep_one s recur t r.tag acc hok.1.1 hok.1.2
      rw [← encScalar_lower hl hok.1.1, ← hpay, ← wireOfTy_lower hl, ← hwt, ← hl] at hm
      rw [foldSlot_cons hm, foldSlot_packed s recur t hl hn rs vs' _ hrest hok.2, EVals.append_assoc]
      rfl
    · have hokc : Codec.allOk c chunk := fun x hx => hok x (List.mem_append_left _ hx)
      have hfm : chunk.flatMap (encScalar (scalarTy pty)) = chunk.flatMap c.encPayload := by
        rw [List.flatMap_def, List.flatMap_def, List.map_congr_left fun x hx => encScalar_lower hl (hokc x hx).1]
      have hsum := Codec.flatMap_payload_length c chunk fun x hx => (hokc x hx).2
      rw [hfm, hsum] at hlen
      have hm := Codec.mergeRepeated_packed c hn chunk hokc hlen [] []
      rw [List.append_nil] at hm
      rw [foldSlot_cons (m' := .rep (acc.append (svalsToE chunk))) (by simp only [hl, mergeSlot, hwt, hpay, lenDelim_eq, hfm, hsum, hm, List.nil_append]),
        foldSlot_packed s recur t hl hn rs rest _ hrest fun x hx => hok x (List.mem_append_right _ hx), svalsToE_append,
        EVals.append_assoc]

theorem zero_isDef {s : Schema} {flag : Bool} {pty : PFTy} {x v : EVal} (hx : isDefE s (lowerTy pty) x = true)
    (hy : okE s flag (lowerTy pty) v = true) (hz : zeroOf pty v) : x = v :=
  (isDefE_canonical s _ x hx).2 v (ok_exact_isDefE s flag _ v hy ((zeroOf_iff hy).mp hz))

-- `x`, `m0`, `M0`: the value the decoder merges into; it has to be the canonical default, because a message
-- record merges field by field into it and an omitted field keeps it.  `ctx`: the recursion budget left.
mutual
theorem readE (ps : PSchema) (hs : WFSchema (lowerSchema ps) = true) (pty : PFTy) (v : EVal) (r : Rec) (ctx : Nat) (x : EVal)
    (henc : EncE ps pty v r) (hy : okE (lowerSchema ps) true (lowerTy pty) v = true) (hn : needE v ≤ ctx)
    (hx : isDefE (lowerSchema ps) (lowerTy pty) x = true) :
    mergeE (lowerSchema ps) (recurOf (lowerSchema ps) ctx) (lowerTy pty) x r.wt r.payload = .ok (v, []) := by
  cases v with
  | s y =>
    obtain ⟨c, hl, hok, hlen⟩ := okE_s hy
    rw [hl]
    exact readE_s _ _ x hl hok hlen henc
  | msg fs =>
    obtain ⟨i, hl, hfs, _⟩ := okE_msg hy
    cases lowerTy_msg hl
    obtain ⟨hwt, rs, hpay, hlen, hrs⟩ := henc
    cases x with
    | s xv => cases hx
    | msg xs =>
      cases ctx with
      | zero => cases hn
      | succ c =>
        have hfold := readSlots ps hs (pdecls ps i) _ (decls_lower ps i) fs rs c xs hrs (decls_wf _ hs i).1 hfs
          (Nat.le_of_succ_le_succ hn) hx
        have := mergeLoop_flat _ c _ rs xs fs [] (encSlots_tagOk ps hs i fs rs hrs) hfold hlen
        rw [List.append_nil] at this
        simp only [lowerTy, mergeE, hwt, checkWireType, if_true, recurOf, EVal.fields, hpay, this]
termination_by structural v
theorem readSlot (ps : PSchema) (hs : WFSchema (lowerSchema ps) = true) (pd : PDecl) (v : Slot) (rs : List Rec) (ctx : Nat) (m0 : Slot)
    (henc : EncSlot ps pd v rs) (hd : (lowerDecl pd).wfIn (lowerSchema ps).length = true)
    (hy : okSlot (lowerSchema ps) true (lowerDecl pd) v = true) (hn : needSlot v ≤ ctx)
    (hm0 : isDefSlot (lowerSchema ps) (lowerDecl pd) m0 = true) :
    foldSlot (lowerSchema ps) (recurOf (lowerSchema ps) ctx) (lowerDecl pd) m0 rs = .ok v := by
  obtain ⟨dty, rfl, hdty⟩ := isDefSlot_eq hm0
  cases v with
  | req y =>
    cases pd with
    | single t ty opt =>
      cases opt with
      | false =>
        have hx := hdty t _ rfl
        exact foldSlot_implicit (Or.imp (fun ⟨r, e, _, hr⟩ => ⟨r, e, readE ps hs ty y r ctx _ hr hy hn hx⟩)
          (fun ⟨e, hz⟩ => ⟨e, zero_isDef hx hy hz⟩) henc)
      | true => cases hy
    | _ => cases hy
  | none =>
    cases pd with
    | single t ty opt =>
      cases opt with
      | true => cases (henc : rs = []); rfl
      | false => cases hy
    | oneof vs => cases (henc : rs = []); rfl
    | _ => cases hy
  | some y =>
    cases pd with
    | single t ty opt =>
      cases opt with
      | true =>
        obtain ⟨r, rfl, _, hr⟩ := henc
        have hE := readE ps hs ty y r ctx _ hr hy hn (isDef_defaultE _ hs _)
        exact (foldSlot_cons (by simp only [lowerDecl, defaultSlotWith, mergeSlot, optCur, hE])).trans rfl
      | false => cases hy
    | _ => cases hy
  | rep xs =>
    cases pd with
    | rep t ty =>
      have hy : okEs _ true (lowerTy ty) xs = true := hy
      by_cases hp : packable ty = true
      · obtain ⟨c, hl, hnum⟩ := packable_lower hp
        obtain ⟨vs, hvs, hpk⟩ := (if_pos hp).mp henc
        rw [hl] at hy
        obtain ⟨vs', rfl, hok⟩ := okEs_scalar hy
        cases (svalsOf_svalsToE vs').symm.trans hvs
        exact foldSlot_packed _ _ t hl hnum rs vs .nil hpk hok
      · exact readRep ps hs t ty xs rs ctx .nil ((if_neg hp).mp henc) (Bool.and_eq_true_iff.mp hd).2 hy hn
    | single t ty opt => cases opt <;> cases hy
    | _ => cases hy
  | map kvs =>
    cases pd with
    | map t k vty =>
      have hd := Bool.and_eq_true_iff.mp hd
      have hy := Bool.and_eq_true_iff.mp hy
      exact (readMap ps hs t k (Bool.and_eq_true_iff.mp hd.1).2 vty hd.2 kvs rs ctx .nil henc hy.1 hn).trans
        (congrArg (fun x => Out.ok (Slot.map x)) (insertAll_fresh kvs .nil hy.2 fun _ _ => rfl))
    | single t ty opt => cases opt <;> cases hy
    | _ => cases hy
  | one t y =>
    cases pd with
    | oneof vs =>
      obtain ⟨pty, r, hl, rfl, htag, hr⟩ := henc
      have hlv : lookupVariant (vs.map fun p => (p.1, lowerTy p.2)) t = some (lowerTy pty) := by rw [lookup_lower, hl]; rfl
      obtain ⟨_, _, e, hl', hy⟩ := okSlot_one hy
      cases e
      cases hlv.symm.trans hl'
      have hE := readE ps hs pty y r ctx _ hr hy hn (isDef_defaultE _ hs _)
      exact (foldSlot_cons (by simp only [lowerDecl, defaultSlotWith, mergeSlot, htag, hlv, oneCur, hE])).trans rfl
    | single t ty opt => cases opt <;> cases hy
    | _ => cases hy
termination_by structural v
-- `D` is a variable because the callers hold `decls (lowerSchema ps) i`, which `decls_lower` equates with the mapped list.
theorem readSlots (ps : PSchema) (hs : WFSchema (lowerSchema ps) = true) (pds : List PDecl) (D : List FieldDecl)
    (hD : D = pds.map lowerDecl) (fs : Slots) (rs : List Rec) (ctx : Nat) (M0 : Slots) (henc : EncSlots ps pds fs rs)
    (hwf : D.all (FieldDecl.wfIn (lowerSchema ps).length) = true) (hy : okSlots (lowerSchema ps) true D fs = true)
    (hn : needSlots fs ≤ ctx) (hM0 : isDefSlots (lowerSchema ps) D M0 = true) :
    foldRecs (lowerSchema ps) (recurOf (lowerSchema ps) ctx) ctx D M0 rs = .ok fs := by
  subst hD
  cases fs with
  | nil =>
    cases pds with
    | nil => cases (henc : rs = []); cases M0 <;> first | rfl | cases hM0
    | cons d ds => cases hy
  | cons v rest =>
    cases pds with
    | nil => cases hy
    | cons d ds =>
      cases M0 with
      | nil => cases hM0
      | cons m0 M0' =>
        have hy := Bool.and_eq_true_iff.mp hy
        have hwf := Bool.and_eq_true_iff.mp hwf
        have hM0 := Bool.and_eq_true_iff.mp hM0
        have hn := Nat.max_le.mp hn
        obtain ⟨h1, h2⟩ := henc
        refine foldRecs_split _ _ _ _ _ _ _ _ _ _ ?_ ?_
        · rw [lower_tags]; exact readSlot ps hs d v _ ctx m0 h1 hwf.1 hy.1 hn.1 hM0.1
        · rw [lower_tags]; exact readSlots ps hs ds _ rfl rest _ ctx M0' h2 hwf.2 hy.2 hn.2 hM0.2
termination_by structural fs
theorem readRep (ps : PSchema) (hs : WFSchema (lowerSchema ps) = true) (t : Nat) (pty : PFTy) (xs : EVals) (rs : List Rec) (ctx : Nat)
    (acc : EVals) (henc : EncRep ps t pty xs rs) (hty : (lowerTy pty).wfIn (lowerSchema ps).length = true)
    (hy : okEs (lowerSchema ps) true (lowerTy pty) xs = true) (hn : needEs xs ≤ ctx) :
    foldSlot (lowerSchema ps) (recurOf (lowerSchema ps) ctx) (.rep t (lowerTy pty)) (.rep acc) rs = .ok (.rep (acc.append xs)) := by
  cases xs with
  | nil => cases (henc : rs = []); rw [EVals.append_nil]; rfl
  | cons y ys =>
    obtain ⟨r, rs', rfl, _, hr, hrest⟩ := henc
    have hy := Bool.and_eq_true_iff.mp hy
    have hn := Nat.max_le.mp hn
    have hE := readE ps hs pty y r ctx _ hr hy.1 hn.1 (isDef_defaultE _ hs _)
    have hm : mergeSlot (lowerSchema ps) (recurOf (lowerSchema ps) ctx) (.rep t (lowerTy pty)) (.rep acc) r.tag r.wt r.payload
        = .ok (.rep (acc.append (.cons y .nil)), []) := by
      cases y with
      | s yv =>
        -- string / bytes: one element through `merge_repeated`
        obtain ⟨c, hl, hok, hlen⟩ := okE_s hy.1
        obtain ⟨hw, hp⟩ := (encE_scalar hl hok).mp hr
        rw [hl, hw, hp]
        exact mergeSlot_rep_one _ _ t r.tag acc hok hlen
      | msg fs =>
        obtain ⟨i, hl, _⟩ := okE_msg hy.1
        cases lowerTy_msg hl
        have hwt : r.wt = .len := hr.1
        simp only [lowerTy, hwt] at hE ⊢
        simp only [mergeSlot, checkWireType, if_true, hE]
        rfl
    rw [foldSlot_cons hm, readRep ps hs t pty ys rs' ctx _ hrest hty hy.2 hn.2, EVals.append_assoc]
    rfl
termination_by structural xs
theorem readMap (ps : PSchema) (hs : WFSchema (lowerSchema ps) = true) (t : Nat) (k : PType) (hk : k.codec.isKey = true)
    (vty : PFTy) (hvty : (lowerTy vty).wfIn (lowerSchema ps).length = true) (kvs : Pairs) (rs : List Rec) (ctx : Nat) (acc : Pairs)
    (henc : EncMap ps t k vty kvs rs) (hy : okPairs (lowerSchema ps) true k.codec (lowerTy vty) kvs = true)
    (hn : needPairs kvs ≤ ctx) :
    foldSlot (lowerSchema ps) (recurOf (lowerSchema ps) ctx) (.map t k.codec (lowerTy vty)) (.map acc) rs
      = .ok (.map (insertAll acc kvs)) := by
  cases kvs with
  | nil => cases (henc : rs = []); rfl
  | cons kk v rest =>
    obtain ⟨e, rs', rfl, _, hwt, ⟨es, hpay, hlen, hall, hkey, hval⟩, hrest⟩ := henc
    obtain ⟨hkok, hkl, hve, _, _, hr⟩ := okPairs_cons hy
    have hn := Nat.max_le.mp hn
    cases ctx with
    | zero => cases hn.1
    | succ c =>
      have hx := isDef_defaultE _ hs (lowerTy vty)
      have hm := mergeSlot_entry _ c t e.tag k.codec (lowerTy vty) acc es kk v hall hlen
        (hkey.imp (fun ⟨kr, e, hkr⟩ => ⟨kr, e, readE_s (ps := ps) (pty := .scalar k) _ _ _ rfl hkok hkl hkr⟩)
          fun ⟨e, hz⟩ => ⟨e, congrArg EVal.s (scalar_exact_default _ kk hkok hz).symm⟩)
        (hval.imp (fun ⟨vr, e, hvr⟩ => ⟨vr, e, readE ps hs vty v vr c _ hvr hve (Nat.le_of_succ_le_succ hn.1) hx⟩)
          fun ⟨e, hz⟩ => ⟨e, zero_isDef hx hve hz⟩)
      rw [← hwt, ← hpay] at hm
      exact (foldSlot_cons hm).trans (readMap ps hs t k hk vty hvty rest rs' (c + 1) _ hrest hr hn.2)
termination_by structural kvs
end

end Pilota.Proto
