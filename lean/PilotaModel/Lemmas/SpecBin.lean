import PilotaModel.Lemmas.SpecBase
import PilotaModel.Lemmas.Fuel
/-  Binary protocol: pilota's writer produces a legal encoding; pilota's reader reads every legal encoding, since each is
    one the readers accept (`wire_of_enc` into `Binary.Wire .be`, Lemmas/BinaryRT.lean). -/
namespace Pilota.Thrift.SpecBin
open Pilota Pilota.Thrift Pilota.Thrift.Spec

mutual
theorem encode_is_spec (v : TVal) (hw : v.wt = true) : Enc v (encode v) := by
  cases v with
  | bool b => cases b <;> first | exact Enc.boolF | exact Enc.boolT 1 (by decide)
  | i8 n | i16 n | i32 n | i64 n | dbl n | bin n | uuid n => constructor; exact of_decide_eq_true hw
  | struct fs => exact Enc.struct fs _ (encodeFields_is_spec fs hw)
  | list et xs | set et xs =>
    simp only [TVal.wt_list, TVal.wt_set] at hw
    obtain ⟨he, hl, hx⟩ := hw
    unfold encode; rw [binCode_value et he]
    constructor
    · exact binCode_value et he
    · exact hl
    · exact encodeVals_is_spec et xs hx
  | map kt vt kvs =>
    obtain ⟨hk, hv, hl, hx⟩ := TVal.wt_map.mp hw
    unfold encode; rw [binCode_value kt hk, binCode_value vt hv]
    exact Enc.map kt vt _ _ kvs _ (binCode_value kt hk) (binCode_value vt hv) hl (encodePairs_is_spec kt vt kvs hx)
theorem encodeVals_is_spec (et : TType) (xs : TVals) (hw : xs.wt et = true) : EncVals et xs (encodeVals xs) := by
  cases xs with
  | nil => exact EncVals.nil et
  | cons v vs =>
    obtain ⟨ht, hv, hr⟩ := TVals.wt_cons.mp hw
    exact EncVals.cons et v vs _ _ ht (encode_is_spec v hv) (encodeVals_is_spec et vs hr)
theorem encodeFields_is_spec (fs : TFields) (hw : fs.wt = true) : EncFields fs (encodeFields fs) := by
  cases fs with
  | nil => exact EncFields.nil
  | cons id v rest =>
    obtain ⟨hid, hv, hr⟩ := TFields.wt_cons.mp hw
    have hc := binCode_value v.ttype (TVal.ttype_isValue v)
    unfold encodeFields; rw [hc]
    exact EncFields.cons id v rest _ _ _ hid hc (encode_is_spec v hv) (encodeFields_is_spec rest hr)
theorem encodePairs_is_spec (kt vt : TType) (kvs : TPairs) (hw : kvs.wt kt vt = true) : EncPairs kt vt kvs (encodePairs kvs) := by
  cases kvs with
  | nil => exact EncPairs.nil kt vt
  | cons k v rest =>
    obtain ⟨hk, hv, hkw, hvw, hr⟩ := TPairs.wt_cons.mp hw
    exact EncPairs.cons kt vt k v rest _ _ _ hk hv (encode_is_spec k hkw) (encode_is_spec v hvw) (encodePairs_is_spec kt vt rest hr)
end

mutual
theorem enc_eq (v : TVal) (hw : v.wt = true) : Binary.enc .be v = encode v := by
  cases v with
  | bool b => rfl
  | i8 n | i16 n | i32 n | i64 n => exact (be_twos _ n (of_decide_eq_true hw)).symm
  | dbl b => exact (be_eq 8 b).symm
  | bin bs => unfold encode; rw [be_len _ (of_decide_eq_true hw)]; rfl
  | uuid bs => rfl
  | struct fs => exact encFields_eq fs hw
  | list et xs | set et xs =>
    simp only [TVal.wt_list, TVal.wt_set] at hw
    obtain ⟨he, hl, hx⟩ := hw
    unfold encode; rw [binCode_value et he, be_len _ hl, ← encVals_eq et xs hx]; rfl
  | map kt vt kvs =>
    obtain ⟨hk, hv, hl, hx⟩ := TVal.wt_map.mp hw
    unfold encode; rw [binCode_value kt hk, binCode_value vt hv, be_len _ hl, ← encPairs_eq kt vt kvs hx]; rfl
theorem encVals_eq (et : TType) (xs : TVals) (hw : xs.wt et = true) : Binary.encVals .be xs = encodeVals xs := by
  cases xs with
  | nil => rfl
  | cons v vs =>
    obtain ⟨_, hv, hr⟩ := TVals.wt_cons.mp hw
    unfold Binary.encVals encodeVals; rw [enc_eq v hv, encVals_eq et vs hr]
theorem encFields_eq (fs : TFields) (hw : fs.wt = true) : Binary.encFields .be fs = encodeFields fs := by
  cases fs with
  | nil => rfl
  | cons id v rest =>
    obtain ⟨hid, hv, hr⟩ := TFields.wt_cons.mp hw
    unfold Binary.encFields encodeFields; rw [binCode_value v.ttype (TVal.ttype_isValue v), be_twos 2 id hid,
      enc_eq v hv, encFields_eq rest hr]; rfl
theorem encPairs_eq (kt vt : TType) (kvs : TPairs) (hw : kvs.wt kt vt = true) : Binary.encPairs .be kvs = encodePairs kvs := by
  cases kvs with
  | nil => rfl
  | cons k v rest =>
    obtain ⟨_, _, hkw, hvw, hr⟩ := TPairs.wt_cons.mp hw
    unfold Binary.encPairs encodePairs; rw [enc_eq k hkw, enc_eq v hvw, encPairs_eq kt vt rest hr]
end

theorem binCode_byte {t : TType} {c : Nat} (h : binCode t = some c) : UInt8.ofNat c = UInt8.ofNat t.toByte := binCode_toByte h ▸ rfl

mutual
theorem wire_of_enc (v : TVal) (bs : Bytes) (h : Enc v bs) : Binary.Wire .be v bs := by
  cases h with
  | boolT x hx => exact bne_iff_ne.mpr hx ▸ Binary.Wire.bool x
  | boolF => exact Binary.Wire.bool 0
  | i8 n hn | i16 n hn | i32 n hn | i64 n hn => rw [be_twos _ n hn]; constructor; exact hn
  | dbl b hb => rw [be_eq]; exact .dbl b hb
  | bin p hp => rw [be_len _ hp]; exact .bin p hp
  | uuid p hp => exact .uuid _ hp
  | struct fs bs hf => exact .struct fs bs (wire_of_encFields fs bs hf)
  | list et c xs b hc hl hx => rw [binCode_byte hc, be_len _ hl]; exact .list et xs b hl (wire_of_encVals et xs b hx)
  | set et c xs b hc hl hx => rw [binCode_byte hc, be_len _ hl]; exact .set et xs b hl (wire_of_encVals et xs b hx)
  | map kt vt ck cv kvs b hk hv hl hx =>
    rw [binCode_byte hk, binCode_byte hv, be_len _ hl]; exact .map kt vt kvs b hl (wire_of_encPairs kt vt kvs b hx)
theorem wire_of_encVals (et : TType) (xs : TVals) (bs : Bytes) (h : EncVals et xs bs) : Binary.WireVals .be et xs bs := by
  cases h with
  | nil => exact .nil et
  | cons _ v vs a b ht hv hr => exact .cons et v vs a b ht (wire_of_enc v a hv) (wire_of_encVals et vs b hr)
theorem wire_of_encFields (fs : TFields) (bs : Bytes) (h : EncFields fs bs) : Binary.WireFields .be fs bs := by
  cases h with
  | nil => exact .nil
  | cons id v rest c a b hid hc hv hr =>
    rw [binCode_byte hc, be_twos 2 id hid]; exact .cons id v rest a b hid (wire_of_enc v a hv) (wire_of_encFields rest b hr)
theorem wire_of_encPairs (kt vt : TType) (kvs : TPairs) (bs : Bytes) (h : EncPairs kt vt kvs bs) : Binary.WirePairs .be kt vt kvs bs := by
  cases h with
  | nil => exact .nil kt vt
  | cons _ _ k v rest a b c hk hv ek ev hr =>
    exact .cons kt vt k v rest a b c hk hv (wire_of_enc k a ek) (wire_of_enc v b ev) (wire_of_encPairs kt vt rest c hr)
end

theorem enc_size (v : TVal) (bs : Bytes) (h : Enc v bs) : v.size + 1 ≤ 3 * bs.length := (wire_of_enc v bs h).size
theorem encVals_size (et : TType) (xs : TVals) (bs : Bytes) (h : EncVals et xs bs) :
    xs.size ≤ 3 * bs.length + 1 ∧ xs.length ≤ bs.length := (wire_of_encVals et xs bs h).size
theorem encFields_size (fs : TFields) (bs : Bytes) (h : EncFields fs bs) : fs.size + 2 ≤ 3 * bs.length := (wire_of_encFields fs bs h).size
theorem encPairs_size (kt vt : TType) (kvs : TPairs) (bs : Bytes) (h : EncPairs kt vt kvs bs) :
    kvs.size ≤ 3 * bs.length + 1 ∧ kvs.length ≤ bs.length := (wire_of_encPairs kt vt kvs bs h).size

theorem readTType_code (t : TType) (c : Nat) (hc : binCode t = some c) (r : Bytes) :
    Binary.readTType (UInt8.ofNat c :: r) = .ok (t, r) := by
  cases binCode_toByte hc
  exact Binary.readTType_cons t r

theorem readFieldBegin_of (t : TType) (c : Nat) (hc : binCode t = some c) (id : Int) (hid : inS 2 id) (r : Bytes) :
    Binary.readFieldBegin .be (UInt8.ofNat c :: (be 2 (twos 2 id) ++ r)) = .ok ((t, id), r) := by
  rw [binCode_byte hc, be_twos 2 id hid]
  exact Binary.readFieldBegin_enc .be t (fun h => by subst h; cases hc) id hid r

theorem readVal_of_enc (v : TVal) (bs : Bytes) (h : Enc v bs) (f : Nat) (hf : v.size ≤ f) (r : Bytes) :
    Binary.readVal .be f v.ttype (bs ++ r) = .ok (v, r) :=
  (Binary.read_wire .be f).1 v bs (wire_of_enc v bs h) hf r
theorem readFields_of_enc (fs : TFields) (bs : Bytes) (h : EncFields fs bs) (f : Nat) (hf : fs.size ≤ f) (r : Bytes) :
    Binary.readFields .be f (bs ++ r) = .ok (fs, r) :=
  (Binary.read_wire .be f).2.1 fs bs (wire_of_encFields fs bs h) hf r
theorem readN_of_enc (et : TType) (xs : TVals) (bs : Bytes) (h : EncVals et xs bs) (f : Nat) (hf : xs.size ≤ f) (r : Bytes) :
    Binary.readN .be f et xs.length (bs ++ r) = .ok (xs, r) :=
  (Binary.read_wire .be f).2.2.1 et xs bs (wire_of_encVals et xs bs h) hf r
theorem readPairs_of_enc (kt vt : TType) (kvs : TPairs) (bs : Bytes) (h : EncPairs kt vt kvs bs) (f : Nat) (hf : kvs.size ≤ f) (r : Bytes) :
    Binary.readPairs .be f kt vt kvs.length (bs ++ r) = .ok (kvs, r) :=
  (Binary.read_wire .be f).2.2.2 kt vt kvs bs (wire_of_encPairs kt vt kvs bs h) hf r

end Pilota.Thrift.SpecBin
