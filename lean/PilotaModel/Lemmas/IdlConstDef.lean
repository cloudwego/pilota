import PilotaModel.Lemmas.IdlConstRT
namespace Pilota.Idl

def Constant.depth (c : Constant) : Nat := max c.ty.depth c.value.depth

theorem Reads.const {β : Type} {r : R} {F : List Char → Prop} {Q : β → List Char → Prop} {c : ConstValue} (hw : c.wf = true)
    {d : Nat} (hd : c.depth < d) {f : ConstValue → P β} (hfo : Follows r F (ConstFollow c)) (hf : Reads (f c) r F Q) :
    Reads (andThen (ConstValue.parse d) f) (rConst c +> r) F Q :=
  .seq (.of_exact fun l x hx => const_rt c hw (cv_supported c) d hd l x hx) hfo hf

theorem constant_reads {c : Constant} (hw : Item.wf (.constant c) = true) {d : Nat} (hd : c.depth < d) (last : Bool) :
    Reads (Constant.parse d) (rConstant c last) (ItemAfter last) (UpToBlank c) := by
  obtain ⟨name, ty, value, anns⟩ := c
  simp only [Item.wf, Bool.and_eq_true] at hw
  obtain ⟨⟨⟨⟨hty, hname⟩, hcpp⟩, hval⟩, han⟩ := hw
  simp only [Constant.depth] at hd
  unfold Constant.parse Type.parse rConstant
  exact .lit <| .preceded <| .blank1 (.starts (rType_starts hty)) <|
    .type hty (by omega) (.typeName (fun l => .inl (rB1_ne l)) hname hcpp (.sep_lit rfl)) <| .preceded <| .blank1 (.ident hname) <|
    .ident hname (.sep_lit rfl) <| .preceded <| .optBlank (.lit rfl) <| .lit <| .preceded <| .optBlank (.const hval) <|
    .const hval (by omega)
      (.constFollow (fun ho => .defTail_sep fun _ h => h.need ho)
        (.defTail_aheadNe (by decide) fun _ h => ⟨h.1.nb, h.1.ne '.' (by decide)⟩)) <|
    .defTail han (fun _ h => h.1.punct) fun _ h => h ▸ rfl

end Pilota.Idl
