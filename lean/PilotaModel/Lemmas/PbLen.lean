import PilotaModel.Lemmas.PbRepeated
import PilotaModel.Proto.Typing
/-
  `encoded_len` = bytes written, for every message value of every well-formed schema.  In front:
  what a well-typed slot says about its declaration and a declaration about its slots (`okSlot_*`,
  `shapeSlot_*`), which every induction over typed values below and later starts from.
-/
namespace Pilota.Proto
open Pilota

theorem tagOk_iff (t : Nat) : tagOk t = true ↔ minTag ≤ t ∧ t ≤ maxTag := by simp [tagOk]

theorem lookupVariant_mem (vs : List (Nat × FTy)) (t : Nat) (ty : FTy) (h : lookupVariant vs t = some ty) : (t, ty) ∈ vs := by
  unfold lookupVariant at h
  split at h
  · rename_i p hf
    cases h
    have h1 : p.1 = t := by simpa using List.find?_some hf
    exact h1 ▸ List.mem_of_find?_eq_some hf
  · cases h

theorem decls_of_ge (s : Schema) (i : Nat) (hi : s.length ≤ i) : decls s i = [] := by
  unfold decls; rw [List.getD_eq_getElem?_getD, List.getElem?_eq_none hi]; rfl

theorem decls_wf (s : Schema) (hs : WFSchema s = true) (i : Nat) :
    (decls s i).all (FieldDecl.wfIn s.length) = true ∧ nodup (allTags (decls s i)) = true := by
  by_cases hi : i < s.length
  · have hm : decls s i ∈ s := by
      unfold decls; rw [List.getD_eq_getElem?_getD, List.getElem?_eq_getElem hi]; simp
    simp only [WFSchema, Bool.and_eq_true, List.all_eq_true] at hs
    exact ⟨List.all_eq_true.mpr (hs.1 _ hm).1, (hs.1 _ hm).2⟩
  · rw [decls_of_ge s i (by omega)]; exact ⟨rfl, rfl⟩

theorem lenOk_iff (v : SVal) : v.lenOk = true ↔ Codec.lenOk v := by simp [SVal.lenOk, Codec.lenOk]

theorem lookupVariant_tags (vs : List (Nat × FTy)) (t : Nat) (ty : FTy) (hl : lookupVariant vs t = some ty) :
    (FieldDecl.oneof vs).tags.contains t = true := by
  simp only [FieldDecl.tags, List.contains_eq_mem, List.mem_map, decide_eq_true_eq]
  exact ⟨(t, ty), lookupVariant_mem vs t ty hl, rfl⟩

theorem wfIn_tags_ok {n : Nat} {d : FieldDecl} (hd : d.wfIn n = true) (t : Nat) (h : d.tags.contains t = true) : tagOk t = true := by
  have h : t ∈ d.tags := by simpa using h
  cases d with
  | oneof vs =>
    simp only [FieldDecl.wfIn, List.all_eq_true, Bool.and_eq_true] at hd
    obtain ⟨p, hp, rfl⟩ := List.mem_map.mp h
    exact (hd p hp).1
  | _ =>
    simp only [FieldDecl.wfIn, Bool.and_eq_true] at hd
    cases List.mem_singleton.mp h
    first | exact hd.1.1 | exact hd.1

/-! ### which declaration a well-typed slot belongs to

The slot of a value decides the kind of its field; proofs by recursion on the value take the value
apart first and read the declaration off these. -/

section
variable {s : Schema} {flag : Bool} {d : FieldDecl}

theorem okSlot_req {v} (h : okSlot s flag d (.req v) = true) : ∃ t ty, d = .single t ty false ∧ okE s flag ty v = true := by
  cases d with
  | single t ty opt => cases opt <;> first | exact ⟨t, ty, rfl, h⟩ | cases h
  | _ => cases h

theorem okSlot_some {v} (h : okSlot s flag d (.some v) = true) : ∃ t ty, d = .single t ty true ∧ okE s flag ty v = true := by
  cases d with
  | single t ty opt => cases opt <;> first | exact ⟨t, ty, rfl, h⟩ | cases h
  | _ => cases h

theorem okSlot_none (h : okSlot s flag d .none = true) : (∃ t ty, d = .single t ty true) ∨ ∃ vs, d = .oneof vs := by
  cases d with
  | single t ty opt => cases opt <;> first | exact .inl ⟨t, ty, rfl⟩ | cases h
  | oneof vs => exact .inr ⟨vs, rfl⟩
  | _ => cases h

theorem okSlot_rep {xs} (h : okSlot s flag d (.rep xs) = true) : ∃ t ty, d = .rep t ty ∧ okEs s flag ty xs = true := by
  cases d with
  | rep t ty => exact ⟨t, ty, rfl, h⟩
  | single t ty opt => cases opt <;> cases h
  | _ => cases h

theorem okSlot_map {kvs} (h : okSlot s flag d (.map kvs) = true) :
    ∃ t kc vty, d = .map t kc vty ∧ okPairs s flag kc vty kvs = true ∧ nodupKeys kvs.keys = true := by
  cases d with
  | map t kc vty => exact ⟨t, kc, vty, rfl, Bool.and_eq_true_iff.mp h⟩
  | single t ty opt => cases opt <;> cases h
  | _ => cases h

theorem okSlot_one {t v} (h : okSlot s flag d (.one t v) = true) :
    ∃ vs ty, d = .oneof vs ∧ lookupVariant vs t = some ty ∧ okE s flag ty v = true := by
  cases d with
  | oneof vs =>
    simp only [okSlot] at h
    cases hl : lookupVariant vs t with
    | none => simp [hl] at h
    | some ty => exact ⟨vs, ty, rfl, hl, by simpa [hl] using h⟩
  | single t ty opt => cases opt <;> cases h
  | _ => cases h

theorem okPairs_cons {kc vty k v r} (h : okPairs s flag kc vty (.cons k v r) = true) :
    kc.ok k = true ∧ Codec.lenOk k ∧ okE s flag vty v = true ∧ (flag = true ∨ v.isDefault = false ∨ v = defaultE s vty) ∧
      entryLen s flag kc vty k v < 2 ^ 64 ∧ okPairs s flag kc vty r = true := by
  simp only [okPairs, Bool.and_eq_true, Bool.or_eq_true, Bool.not_eq_true', decide_eq_true_eq] at h
  obtain ⟨⟨⟨⟨⟨hk, hkl⟩, hve⟩, hdef⟩, hlen⟩, hr⟩ := h
  exact ⟨hk, (lenOk_iff k).mp hkl, hve, by rcases hdef with (h | h) | h <;> simp [h], hlen, hr⟩

theorem shapeSlot_req {t ty x} (h : shapeSlot s (.single t ty false) x = true) : ∃ v, x = .req v ∧ shapeE s ty v = true := by
  cases x <;> first | exact ⟨_, rfl, h⟩ | cases h

theorem shapeSlot_opt {t ty x} (h : shapeSlot s (.single t ty true) x = true) :
    x = .none ∨ ∃ v, x = .some v ∧ shapeE s ty v = true := by
  cases x <;> first | exact .inl rfl | exact .inr ⟨_, rfl, h⟩ | cases h

theorem shapeSlot_rep {t ty x} (h : shapeSlot s (.rep t ty) x = true) : ∃ xs, x = .rep xs ∧ shapeEs s ty xs = true := by
  cases x <;> first | exact ⟨_, rfl, h⟩ | cases h

theorem shapeSlot_map {t kc vty x} (h : shapeSlot s (.map t kc vty) x = true) : ∃ kvs, x = .map kvs ∧ shapePairs s vty kvs = true := by
  cases x <;> first | exact ⟨_, rfl, h⟩ | cases h

theorem shapeSlot_oneof {vs x} (h : shapeSlot s (.oneof vs) x = true) :
    x = .none ∨ ∃ t v ty, x = .one t v ∧ lookupVariant vs t = some ty ∧ shapeE s ty v = true := by
  cases x with
  | none => exact .inl rfl
  | one t v =>
    simp only [shapeSlot] at h
    cases hl : lookupVariant vs t with
    | none => simp [hl] at h
    | some ty => exact .inr ⟨t, v, ty, rfl, hl, by simpa [hl] using h⟩
  | _ => cases h

end

theorem entryLen_eq (s : Schema) (flag : Bool) (kc : Codec) (vty : FTy) (k : SVal) (v : EVal)
    (e1 : kc.encodedLen 1 k = (kc.encode 1 k).length) (e2 : lenE s flag 2 vty v = (encE s flag 2 vty v).length) :
    entryLen s flag kc vty k v = ((if !flag && k.isDefault then [] else kc.encode 1 k) ++
      (if !flag && v.isDefault then [] else encE s flag 2 vty v)).length := by
  unfold entryLen
  rw [List.length_append]
  congr 1 <;> split <;> simp [*]

mutual
theorem lenE_eq (s : Schema) (flag : Bool) (hs : WFSchema s = true) (tag : Nat) (ht : tagOk tag = true) (ty : FTy) (v : EVal)
    (hv : okE s flag ty v = true) : lenE s flag tag ty v = (encE s flag tag ty v).length := by
  have htag := (tagOk_iff tag).mp ht
  cases v with
  | s x =>
    cases ty with
    | scalar c =>
      have hv := Bool.and_eq_true_iff.mp hv
      exact Codec.encodedLen_eq c tag htag.2 x ((lenOk_iff x).mp hv.2)
    | msg i => cases hv
  | msg fs =>
    cases ty with
    | scalar c => cases hv
    | msg i =>
      simp only [okE, Bool.and_eq_true, decide_eq_true_eq] at hv
      have ih := lenSlots_eq s flag hs (decls s i) (decls_wf s hs i).1 fs hv.1
      simp only [lenE, encE, List.length_append, keyLen_eq tag .len htag.2, encodeVarint, encVar_length, ih,
        encodedLenVarint_eq _ (ih ▸ hv.2)]
theorem lenSlot_eq (s : Schema) (flag : Bool) (hs : WFSchema s = true) (d : FieldDecl) (hd : d.wfIn s.length = true) (v : Slot)
    (hv : okSlot s flag d v = true) : lenSlot s flag d v = (encSlot s flag d v).length := by
  cases v with
  | req x =>
    obtain ⟨t, ty, rfl, hv⟩ := okSlot_req hv
    exact lenE_eq s flag hs t (Bool.and_eq_true_iff.mp hd).1 ty x hv
  | none => rcases okSlot_none hv with ⟨t, ty, rfl⟩ | ⟨vs, rfl⟩ <;> rfl
  | some x =>
    obtain ⟨t, ty, rfl, hv⟩ := okSlot_some hv
    exact lenE_eq s flag hs t (Bool.and_eq_true_iff.mp hd).1 ty x hv
  | rep xs =>
    obtain ⟨t, ty, rfl, hv⟩ := okSlot_rep hv
    exact lenEs_eq s flag hs t (Bool.and_eq_true_iff.mp hd).1 ty xs hv
  | map kvs =>
    obtain ⟨t, kc, vty, rfl, hv, _⟩ := okSlot_map hv
    simp only [FieldDecl.wfIn, Bool.and_eq_true] at hd
    exact lenPairs_eq s flag hs t hd.1.1 kc vty kvs hv
  | one t x =>
    obtain ⟨vs, ty, rfl, hl, hv⟩ := okSlot_one hv
    simp only [lenSlot, encSlot, hl]
    exact lenE_eq s flag hs t (wfIn_tags_ok hd t (lookupVariant_tags vs t ty hl)) ty x hv
theorem lenSlots_eq (s : Schema) (flag : Bool) (hs : WFSchema s = true) (ds : List FieldDecl)
    (hds : ds.all (FieldDecl.wfIn s.length) = true) (vs : Slots) (hv : okSlots s flag ds vs = true) :
    lenSlots s flag ds vs = (encSlots s flag ds vs).length := by
  cases vs with
  | nil => cases ds <;> rfl
  | cons v r =>
    cases ds with
    | nil => cases hv
    | cons d ds =>
      have hv := Bool.and_eq_true_iff.mp hv
      simp only [List.all_cons, Bool.and_eq_true] at hds
      simp only [lenSlots, encSlots, List.length_append, lenSlot_eq s flag hs d hds.1 v hv.1,
        lenSlots_eq s flag hs ds hds.2 r hv.2]
theorem lenEs_eq (s : Schema) (flag : Bool) (hs : WFSchema s = true) (tag : Nat) (ht : tagOk tag = true) (ty : FTy) (xs : EVals)
    (hv : okEs s flag ty xs = true) : lenEs s flag tag ty xs = (encEs s flag tag ty xs).length := by
  cases xs with
  | nil => rfl
  | cons v r =>
    have hv := Bool.and_eq_true_iff.mp hv
    simp only [lenEs, encEs, List.length_append, lenE_eq s flag hs tag ht ty v hv.1, lenEs_eq s flag hs tag ht ty r hv.2]
theorem lenPairs_eq (s : Schema) (flag : Bool) (hs : WFSchema s = true) (tag : Nat) (ht : tagOk tag = true) (kc : Codec) (vty : FTy)
    (kvs : Pairs) (hv : okPairs s flag kc vty kvs = true) :
    lenPairs s flag tag kc vty kvs = (encPairs s flag tag kc vty kvs).length := by
  cases kvs with
  | nil => rfl
  | cons k v r =>
    have htag := (tagOk_iff tag).mp ht
    obtain ⟨_, hkl, hve, _, hlen, hr⟩ := okPairs_cons hv
    have e := entryLen_eq s flag kc vty k v (Codec.encodedLen_eq kc 1 (by decide) k hkl)
      (lenE_eq s flag hs 2 (by decide) vty v hve)
    have h4 := encodedLenVarint_eq _ hlen
    unfold entryLen at e h4
    simp only [lenPairs, encPairs, List.length_append, keyLen_eq tag .len htag.2, encodeVarint, encVar_length, h4,
      lenPairs_eq s flag hs tag ht kc vty r hr] at e ⊢
    omega
end

end Pilota.Proto
