import PilotaModel.Base.Bytes
/-  The reader's recursion budget `3 * input.length + 3` always covers an encoded value, since a value of `n` nodes occupies
    at least `(n + 1) / 3` bytes: the arithmetic of each step, for any layout of the parts, shared by both protocols and
    every notion of encoding.  The three invariants, with `len` the encoded length: a value has `size + 1 ≤ 3 * len`; a
    field list `size + 2 ≤ 3 * len` (`nil` is one node and the STOP byte); a list of values or of pairs
    `size ≤ 3 * len + 1` (`nil` is one node and no byte) together with `count ≤ len` (what `checkSize` tests). -/
namespace Pilota.Thrift
open Pilota

theorem le_le_of_add_succ_le_succ {a b f : Nat} (h : a + b + 1 ≤ f + 1) : a ≤ f ∧ b ≤ f :=
  have h := Nat.le_of_succ_le_succ h
  ⟨Nat.le_of_add_right_le h, Nat.le_of_add_left_le h⟩

theorem le_le_le_of_add_succ_le_succ {a b c f : Nat} (h : a + b + c + 1 ≤ f + 1) : a ≤ f ∧ b ≤ f ∧ c ≤ f :=
  have h := Nat.le_of_succ_le_succ h
  ⟨Nat.le_of_add_right_le (Nat.le_of_add_right_le h), Nat.le_of_add_left_le (Nat.le_of_add_right_le h), Nat.le_of_add_left_le h⟩

theorem le_length_append {n : Nat} {b : Bytes} (h : n ≤ b.length) (r : Bytes) : n ≤ (b ++ r).length :=
  List.length_append ▸ Nat.le_add_right_of_le h

theorem leaf_size {bs : Bytes} (h : 0 < bs.length) : 1 + 1 ≤ 3 * bs.length := by omega

theorem coll_size {sx : Nat} {p b : Bytes} (h : sx ≤ 3 * b.length + 1) (hp : 0 < p.length) :
    sx + 1 + 1 ≤ 3 * (p ++ b).length := by
  rw [List.length_append]; omega

theorem field_size {sv sr : Nat} {p a b : Bytes} (h1 : sv + 1 ≤ 3 * a.length) (h2 : sr + 2 ≤ 3 * b.length) :
    sv + sr + 1 + 2 ≤ 3 * (p ++ (a ++ b)).length := by
  rw [List.length_append, List.length_append]; omega

theorem vals_size {sv sr n : Nat} {a b : Bytes} (h1 : sv + 1 ≤ 3 * a.length) (h2 : sr ≤ 3 * b.length + 1 ∧ n ≤ b.length) :
    sv + sr + 1 ≤ 3 * (a ++ b).length + 1 ∧ n + 1 ≤ (a ++ b).length := by
  rw [List.length_append]; omega

theorem pairs_size {sk sv sr n : Nat} {a b c : Bytes} (h1 : sk + 1 ≤ 3 * a.length) (h2 : sv + 1 ≤ 3 * b.length)
    (h3 : sr ≤ 3 * c.length + 1 ∧ n ≤ c.length) :
    sk + sv + sr + 1 ≤ 3 * (a ++ (b ++ c)).length + 1 ∧ n + 1 ≤ (a ++ (b ++ c)).length := by
  rw [List.length_append, List.length_append]; omega

theorem size_le_budget {n : Nat} {bs : Bytes} (h : n + 1 ≤ 3 * bs.length) (r : Bytes) : n ≤ 3 * (bs ++ r).length + 3 := by
  rw [List.length_append]; omega

end Pilota.Thrift
