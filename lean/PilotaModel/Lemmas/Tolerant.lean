import PilotaModel.TGen.Project
import PilotaModel.Lemmas.SkipBin
import PilotaModel.Lemmas.IsBase
/-
  Correspondence between the emitted decoder and its value-level shadow `projTy`.  `corr`: for every reader record,
  wherever the reader reads a wire value `w` (`ReadsV`), the decoder returns what the shadow returns on `w` — for every
  document, declared type and fuel.  The binary / LE / unchecked readers read a well-typed value off its encoding
  (`binRd_readsV`), which gives `corr_all`; the compact instance is Lemmas/TolerantC.lean.
-/
namespace Pilota.TGen
open Pilota Pilota.Thrift Pilota.Thrift.Binary

variable (e : Endian) (dp : Option Nat) (d : Doc)

def withRest {α} (rest : Bytes) (o : Out α) : Out (α × Bytes) := mapOut (fun v => (v, rest)) o

theorem fieldBegin_nil (rest : Bytes) :
    (binRd e dp).fieldBegin (encFields e .nil ++ rest) = .ok ((.stop, 0), rest) := readFieldBegin_stop e rest

theorem fieldBegin_cons (id : Int) (v : TVal) (r : TFields) (hid : inS 2 id) (rest : Bytes) :
    (binRd e dp).fieldBegin (encFields e (.cons id v r) ++ rest) =
      .ok ((v.ttype, id), enc e v ++ (encFields e r ++ rest)) := by
  simp only [encFields, List.cons_append, List.append_assoc]
  exact readFieldBegin_enc e _ (TType.isValue_ne_stop _ (TVal.ttype_isValue v)) id hid _

end Pilota.TGen

namespace Pilota.TGen
open Pilota Pilota.Thrift

section reads
variable {σ : Type} (R : Rd σ) (dp : Option Nat)

mutual
/-- `ReadsV w s s'`: the reader at `s` is positioned on an encoding of the wire value `w` that ends at `s'`: each
primitive call the emitted decoder can make on the way answers with the corresponding piece of `w`, and a field of it
that the skipper admits is skipped as a whole.  The correspondence below needs nothing else of a protocol.
`dp` is the depth budget the shadow tests (`projTy d dp` asks `admitsB dp` of an unknown field); that `R.skip` honours the
same budget is what an instance proves in `ReadsF.cons`.  That constructor asks for BOTH the read of the field's value and
its skip, because which of the two the decoder does depends on the reader's document, not on the wire value.  The header
of a container may announce any element type `t'`: the decoder does not look at it (D26), and the compact reader answers
`stop` for an empty map, whatever the value's `t`. -/
inductive ReadsV : TVal → σ → σ → Prop
  | bool {b s s'} : R.readBool s = .ok (b, s') → ReadsV (.bool b) s s'
  | i8 {n s s'} : R.readI8 s = .ok (n, s') → ReadsV (.i8 n) s s'
  | i16 {n s s'} : R.readI16 s = .ok (n, s') → ReadsV (.i16 n) s s'
  | i32 {n s s'} : R.readI32 s = .ok (n, s') → ReadsV (.i32 n) s s'
  | i64 {n s s'} : R.readI64 s = .ok (n, s') → ReadsV (.i64 n) s s'
  | dbl {b s s'} : R.readDouble s = .ok (b, s') → ReadsV (.dbl b) s s'
  | bin {b s s'} : R.readBytes s = .ok (b, s') → ReadsV (.bin b) s s'
  | uuid {b s s'} : R.readUuid s = .ok (b, s') → ReadsV (.uuid b) s s'
  | list {t t' xs s s1 s'} : R.listBegin s = .ok ((t', xs.length), s1) → ReadsN xs s1 s' → ReadsV (.list t xs) s s'
  | set {t t' xs s s1 s'} : R.listBegin s = .ok ((t', xs.length), s1) → ReadsN xs s1 s' → ReadsV (.set t xs) s s'
  | map {kt vt kt' vt' kvs s s1 s'} : R.mapBegin s = .ok ((kt', vt', kvs.length), s1) → ReadsP kvs s1 s' →
      ReadsV (.map kt vt kvs) s s'
  | struct {fs s s1 s'} : ReadsF fs (R.structBegin s) s1 → R.structEnd s1 = .ok s' → ReadsV (.struct fs) s s'
inductive ReadsN : TVals → σ → σ → Prop
  | nil {s} : ReadsN .nil s s
  | cons {x xs s s1 s'} : ReadsV x s s1 → ReadsN xs s1 s' → ReadsN (.cons x xs) s s'
inductive ReadsP : TPairs → σ → σ → Prop
  | nil {s} : ReadsP .nil s s
  | cons {k v r s s1 s2 s'} : ReadsV k s s1 → ReadsV v s1 s2 → ReadsP r s2 s' → ReadsP (.cons k v r) s s'
inductive ReadsF : TFields → σ → σ → Prop
  | nil {id s s'} : R.fieldBegin s = .ok ((.stop, id), s') → ReadsF .nil s s'
  | cons {id v r s s1 s2 s'} : R.fieldBegin s = .ok ((v.ttype, id), s1) → ReadsV v s1 s2 →
      (admits dp v.need → R.skip v.ttype s1 = .ok s2) → ReadsF r s2 s' → ReadsF (.cons id v r) s s'
end

variable (d : Doc)

theorem corr : ∀ f : Nat,
    (∀ ty w s s' o, ReadsV R dp w s s' → projTy d dp f ty w = some o → decTy R d f ty s = mapOut (·, s') o) ∧
    (∀ el xs acc s s' o, ReadsN R dp xs s s' → projN d dp f el xs acc = some o →
      decN R d f el xs.length acc s = mapOut (·, s') o) ∧
    (∀ k v kvs acc s s' o, ReadsP R dp kvs s s' → projPairs d dp f k v kvs acc = some o →
      decPairs R d f k v kvs.length acc s = mapOut (·, s') o) ∧
    (∀ fs slots wfs s s' o, ReadsF R dp wfs s s' → projFields d dp f fs slots wfs = some o →
      decFields R d f fs slots s = mapOut (·, s') o) ∧
    (∀ vs ret wfs s s' o, ReadsF R dp wfs s s' → projUnion d dp f vs ret wfs = some o →
      decUnion R d f vs ret s = mapOut (·, s') o) := by
  intro f
  induction f with
  | zero =>
    exact ⟨fun _ _ _ _ _ _ h => by cases h; rfl, fun _ _ _ _ _ _ _ h => by cases h; rfl, fun _ _ _ _ _ _ _ _ h => by cases h; rfl,
      fun _ _ _ _ _ _ _ h => by cases h; rfl, fun _ _ _ _ _ _ _ h => by cases h; rfl⟩
  | succ f ih =>
    obtain ⟨ihT, ihN, ihP, ihF, ihU⟩ := ih
    have hns : ∀ v : TVal, v.ttype ≠ .stop := fun v => TType.isValue_ne_stop _ (TVal.ttype_isValue v)
    -- `unfold .. at h; split at h`: one goal per defining clause of the shadow, arguments in constructor form
    refine ⟨fun ty w s s' o hr h => ?_, fun el xs acc s s' o hr h => ?_, fun k v kvs acc s s' o hr h => ?_,
      fun fs slots wfs s s' o hr h => ?_, fun vs ret wfs s s' o hr h => ?_⟩
    · generalize hg : f + 1 = g at h
      unfold projTy at h
      split at h <;> try (cases h; done)
      all_goals cases hg
      case h_11 | h_12 =>   -- `.list el` at a list (`ReadsV.list`), `.set el` at a set (`ReadsV.set`): the same element loop
        cases hr; rename_i hb hxs
        dsimp only [decTy]; rw [hb]
        split at h <;> cases h <;> (dsimp only; rw [ihN _ _ _ _ _ _ hxs ‹_›]; rfl)
      case h_13 =>   -- `.map k v`, `.map kt vt kvs`
        cases hr with | map hb hxs => ?_
        dsimp only [decTy]; rw [hb]
        split at h <;> cases h <;> (dsimp only; rw [ihP _ _ _ _ _ _ _ hxs ‹_›]; rfl)
      case h_14 =>   -- `.ref n`
        dsimp only [decTy]
        split at h <;> rw [‹d.find _ = _›] <;> dsimp only
        · split at h <;> try (cases h; done)
          cases hr with | struct hfs hse => ?_
          split at h
          · rw [ihF _ _ _ _ _ _ hfs ‹_›]; dsimp only [mapOut]; rw [hse]
            split at h <;> cases h <;> (rename_i hfin; dsimp only; rw [hfin])
          all_goals (cases h; try (rw [ihF _ _ _ _ _ _ hfs ‹_›]; rfl))
        · split at h <;> try (cases h; done)
          cases hr with | struct hfs hse => ?_
          split at h
          · rw [ihU _ _ _ _ _ _ hfs ‹_›]; dsimp only [mapOut]; rw [hse]
            dsimp only
            split at h
            · cases h; rfl
            · split at h <;> cases h
              · rfl
              · rename_i hne
                dsimp only
                split
                · exact (hne _ _ rfl).elim
                · rfl
          all_goals (cases h; try (rw [ihU _ _ _ _ _ _ hfs ‹_›]; rfl))
        · split at h <;> try (cases h; done)
          cases h
          cases hr with | i32 hr => ?_
          rw [hr]; rfl
        · exact ihT _ _ _ _ _ hr h
        · cases h; rfl
      case h_15 => cases h; rfl   -- `.void`
      -- the nine base types
      all_goals (cases h; cases hr with | _ hr => ?_; dsimp only [decTy]; rw [hr]; rfl)
    · generalize hg : f + 1 = g at h
      unfold projN at h
      split at h <;> try (cases h; done)
      all_goals cases hg
      · cases h; cases hr; rfl
      · cases hr with | cons hx hxs => ?_
        dsimp only [TVals.length, decN]
        split at h
        · rw [ihT _ _ _ _ _ hx ‹_›]; exact ihN _ _ _ _ _ _ hxs h
        all_goals (cases h; try (rw [ihT _ _ _ _ _ hx ‹_›]; rfl))
    · generalize hg : f + 1 = g at h
      unfold projPairs at h
      split at h <;> try (cases h; done)
      all_goals cases hg
      · cases h; cases hr; rfl
      · cases hr with | cons ha hb hxs => ?_
        dsimp only [TPairs.length, decPairs]
        split at h
        · rw [ihT _ _ _ _ _ ha ‹_›]; dsimp only [mapOut]
          split at h
          · rw [ihT _ _ _ _ _ hb ‹_›]; exact ihP _ _ _ _ _ _ _ hxs h
          all_goals (cases h; try (rw [ihT _ _ _ _ _ hb ‹_›]; rfl))
        all_goals (cases h; try (rw [ihT _ _ _ _ _ ha ‹_›]; rfl))
    · generalize hg : f + 1 = g at h
      unfold projFields at h
      split at h <;> try (cases h; done)
      all_goals cases hg
      · cases h; cases hr with | nil hb => ?_
        dsimp only [decFields]; rw [hb]; rfl
      · cases hr with | cons hb hv hsk hxs => ?_
        dsimp only [decFields]; rw [hb]; dsimp only; rw [if_neg (hns _)]
        split at h <;> try (cases h; done)
        split at h <;> rw [‹List.find? _ _ = _›] <;> dsimp only
        · split at h
          · rw [ihT _ _ _ _ _ hv ‹_›]; exact ihF _ _ _ _ _ _ hxs h
          all_goals (cases h; try (rw [ihT _ _ _ _ _ hv ‹_›]; rfl))
        · split at h <;> try (cases h; done)
          rw [hsk ((admitsB_iff dp _).mp ‹_›)]; exact ihF _ _ _ _ _ _ hxs h
    · generalize hg : f + 1 = g at h
      unfold projUnion at h
      split at h <;> try (cases h; done)
      all_goals cases hg
      · cases h; cases hr with | nil hb => ?_
        dsimp only [decUnion]; rw [hb]; rfl
      · cases hr with | cons hb hv hsk hxs => ?_
        dsimp only [decUnion]; rw [hb]; dsimp only; rw [if_neg (hns _)]
        split at h <;> try (cases h; done)
        split at h <;> rw [‹List.find? _ _ = _›] <;> dsimp only
        · split at h
          · cases h; rw [if_pos ‹_›]; rfl
          · rw [if_neg ‹_›]
            split at h <;> try (cases h; done)
            split at h
            · rw [ihT _ _ _ _ _ hv ‹_›]; exact ihU _ _ _ _ _ _ hxs h
            all_goals (cases h; try (rw [ihT _ _ _ _ _ hv ‹_›]; rfl))
        · split at h <;> try (cases h; done)
          rw [hsk ((admitsB_iff dp _).mp ‹_›)]; exact ihU _ _ _ _ _ _ hxs h

end reads
end Pilota.TGen

namespace Pilota.TGen
open Pilota Pilota.Thrift Pilota.Thrift.Binary

variable (e : Endian) (dp : Option Nat) (d : Doc)

theorem listBegin_enc (et : TType) (xs : TVals) (hx : xs.wt et = true) (hl : xs.length < 2 ^ 31) (rest : Bytes) :
    (binRd e dp).listBegin (UInt8.ofNat et.toByte :: (i e 4 (toS 4 xs.length) ++ (encVals e xs ++ rest))) =
      .ok ((et, xs.length), encVals e xs ++ rest) := by
  show readListBegin e _ = _
  rw [readListBegin_enc e et _ hl _ (by have := vals_length_le e xs et hx; simp only [List.length_append]; omega)]

theorem mapBegin_enc (kt vt : TType) (kvs : TPairs) (hx : kvs.wt kt vt = true) (hl : kvs.length < 2 ^ 31) (rest : Bytes) :
    (binRd e dp).mapBegin (UInt8.ofNat kt.toByte :: UInt8.ofNat vt.toByte :: (i e 4 (toS 4 kvs.length) ++ (encPairs e kvs ++ rest))) =
      .ok ((kt, vt, kvs.length), encPairs e kvs ++ rest) := by
  show readMapBegin e _ = _
  rw [readMapBegin_enc e kt vt _ hl _ (by have := pairs_length_le e kvs kt vt hx; simp only [List.length_append]; omega)]

theorem binRd_reads_base {ty : STy} {w : TVal} (hb : isBase ty w = true) (hw : w.wt = true) (rest : Bytes) :
    ReadsV (binRd e dp) dp w (enc e w ++ rest) rest := by
  unfold isBase at hb
  split at hb <;> (try (cases hb; done)) <;> (try simp only [TVal.wt, decide_eq_true_eq] at hw)
  · rename_i b
    have h : enc e (.bool b) = i e 1 (if b then 1 else 0) := by cases b <;> cases e <;> rfl
    have hin : inS 1 (if b then 1 else 0) := by cases b <;> decide
    exact .bool (by dsimp only [binRd]; rw [h, readI_i e 1 (by decide) _ hin]; cases b <;> rfl)
  · exact .i8 (readI_i e 1 (by decide) _ hw rest)
  · exact .i16 (readI_i e 2 (by decide) _ hw rest)
  · exact .i32 (readI_i e 4 (by decide) _ hw rest)
  · exact .i64 (readI_i e 8 (by decide) _ hw rest)
  · rename_i b
    have : b % 256 ^ 8 = b := Nat.mod_eq_of_lt (by have : (256:Nat)^8 = 2^64 := by decide
                                                   omega)
    exact .dbl (by simp [binRd, enc, readU_enc, this])
  · rename_i bs; exact .bin (by simp [binRd, enc, List.append_assoc, readBytes_enc e bs rest hw])
  · rename_i bs; exact .bin (by simp [binRd, enc, List.append_assoc, readBytes_enc e bs rest hw])
  · exact .uuid (takeN_append 16 _ rest hw)

mutual
theorem binRd_readsV (hed : EndianOk e dp) : ∀ (w : TVal) (rest : Bytes), w.wt = true → ReadsV (binRd e dp) dp w (enc e w ++ rest) rest
  | .bool b, rest, hw => binRd_reads_base e dp (ty := .bool) rfl hw rest
  | .i8 n, rest, hw => binRd_reads_base e dp (ty := .i8) rfl hw rest
  | .i16 n, rest, hw => binRd_reads_base e dp (ty := .i16) rfl hw rest
  | .i32 n, rest, hw => binRd_reads_base e dp (ty := .i32) rfl hw rest
  | .i64 n, rest, hw => binRd_reads_base e dp (ty := .i64) rfl hw rest
  | .dbl b, rest, hw => binRd_reads_base e dp (ty := .double) rfl hw rest
  | .bin bs, rest, hw => binRd_reads_base e dp (ty := .binary) rfl hw rest
  | .uuid bs, rest, hw => binRd_reads_base e dp (ty := .uuid) rfl hw rest
  | .list et xs, rest, hw => by
      simp [TVal.wt] at hw
      simp only [enc, List.cons_append, List.append_assoc]
      exact .list (listBegin_enc e dp et xs hw.2 hw.1.2 rest) (binRd_readsN hed xs et rest hw.2)
  | .set et xs, rest, hw => by
      simp [TVal.wt] at hw
      simp only [enc, List.cons_append, List.append_assoc]
      exact .set (listBegin_enc e dp et xs hw.2 hw.1.2 rest) (binRd_readsN hed xs et rest hw.2)
  | .map kt vt kvs, rest, hw => by
      simp [TVal.wt] at hw
      simp only [enc, List.cons_append, List.append_assoc]
      exact .map (mapBegin_enc e dp kt vt kvs hw.2 hw.1.2 rest) (binRd_readsP hed kvs kt vt rest hw.2)
  | .struct fs, rest, hw => .struct (binRd_readsF hed fs rest hw) rfl
termination_by structural w => w
theorem binRd_readsN (hed : EndianOk e dp) : ∀ (xs : TVals) (et : TType) (rest : Bytes), xs.wt et = true →
    ReadsN (binRd e dp) dp xs (encVals e xs ++ rest) rest
  | .nil, _, _, _ => .nil
  | .cons x xs, et, rest, hw => by
      simp [TVals.wt] at hw
      simp only [encVals, List.append_assoc]
      exact .cons (binRd_readsV hed x _ hw.1.2) (binRd_readsN hed xs et rest hw.2)
termination_by structural xs => xs
theorem binRd_readsP (hed : EndianOk e dp) : ∀ (kvs : TPairs) (kt vt : TType) (rest : Bytes), kvs.wt kt vt = true →
    ReadsP (binRd e dp) dp kvs (encPairs e kvs ++ rest) rest
  | .nil, _, _, _, _ => .nil
  | .cons k v r, kt, vt, rest, hw => by
      simp [TPairs.wt] at hw
      simp only [encPairs, List.append_assoc]
      exact .cons (binRd_readsV hed k _ hw.1.1.2) (binRd_readsV hed v _ hw.1.2) (binRd_readsP hed r kt vt rest hw.2)
termination_by structural kvs => kvs
theorem binRd_readsF (hed : EndianOk e dp) : ∀ (wfs : TFields) (rest : Bytes), wfs.wt = true →
    ReadsF (binRd e dp) dp wfs (encFields e wfs ++ rest) rest
  | .nil, rest, _ => .nil (fieldBegin_nil e dp rest)
  | .cons id v r, rest, hw => by
      simp [TFields.wt] at hw
      exact .cons (fieldBegin_cons e dp id v r hw.1.1 rest) (binRd_readsV hed v _ hw.1.2)
        (fun ha => binRd_skip_enc e dp hed v hw.1.2 ha _) (binRd_readsF hed r rest hw.2)
termination_by structural wfs => wfs
end

theorem base_dec {ty : STy} {v : TVal} (hb : isBase ty v = true) (hw : v.wt = true) (f : Nat) (rest : Bytes) :
    decTy (binRd e dp) d (f + 1) ty (enc e v ++ rest) = .ok (v, rest) :=
  (corr (binRd e dp) dp d (f + 1)).1 ty v _ _ (.ok v) (binRd_reads_base e dp hb hw rest) (projTy_base d dp f hb)

end Pilota.TGen

namespace Pilota.TGen
open Pilota Pilota.Thrift Pilota.Thrift.Binary

variable (e : Endian) (dp : Option Nat) (d : Doc)

def CorrT (f : Nat) : Prop := ∀ ty w rest o, w.wt = true → projTy d dp f ty w = some o →
  decTy (binRd e dp) d f ty (enc e w ++ rest) = withRest rest o
def CorrN (f : Nat) : Prop := ∀ el xs et acc rest o, xs.wt et = true → projN d dp f el xs acc = some o →
  decN (binRd e dp) d f el xs.length acc (encVals e xs ++ rest) = withRest rest o
def CorrP (f : Nat) : Prop := ∀ k v kvs kt vt acc rest o, kvs.wt kt vt = true → projPairs d dp f k v kvs acc = some o →
  decPairs (binRd e dp) d f k v kvs.length acc (encPairs e kvs ++ rest) = withRest rest o
def CorrF (f : Nat) : Prop := ∀ fs slots wfs rest o, wfs.wt = true → projFields d dp f fs slots wfs = some o →
  decFields (binRd e dp) d f fs slots (encFields e wfs ++ rest) = withRest rest o
def CorrU (f : Nat) : Prop := ∀ vs ret wfs rest o, wfs.wt = true → projUnion d dp f vs ret wfs = some o →
  decUnion (binRd e dp) d f vs ret (encFields e wfs ++ rest) = withRest rest o

theorem corr_all (hed : EndianOk e dp) : ∀ f : Nat, CorrT e dp d f ∧ CorrN e dp d f ∧ CorrP e dp d f ∧ CorrF e dp d f ∧ CorrU e dp d f := by
  intro f
  obtain ⟨hT, hN, hP, hF, hU⟩ := corr (binRd e dp) dp d f
  exact ⟨fun ty w rest o hw h => hT ty w _ _ o (binRd_readsV e dp hed w rest hw) h,
    fun el xs et acc rest o hw h => hN el xs acc _ _ o (binRd_readsN e dp hed xs et rest hw) h,
    fun k v kvs kt vt acc rest o hw h => hP k v kvs acc _ _ o (binRd_readsP e dp hed kvs kt vt rest hw) h,
    fun fs slots wfs rest o hw h => hF fs slots wfs _ _ o (binRd_readsF e dp hed wfs rest hw) h,
    fun vs ret wfs rest o hw h => hU vs ret wfs _ _ o (binRd_readsF e dp hed wfs rest hw) h⟩

end Pilota.TGen
