import PilotaModel.Build.Graph
/-  By-value edges are the unboxed struct fields and the edges out of unions / typedefs, so a boxing decision that
    covers the plugin's rule (Build/Graph.lean) leaves no by-value cycle through a struct. -/
namespace Pilota.Build

theorem mem_directPaths (fs : List GTy) (p : Nat) : p ∈ directPaths fs ↔ ∃ i : Nat, fs[i]? = some (GTy.path p) := by
  simp only [directPaths, List.mem_filterMap]
  constructor
  · rintro ⟨t, ht, h⟩
    cases t <;> cases h
    exact List.mem_iff_getElem?.mp ht
  · exact fun hi => ⟨_, List.mem_iff_getElem?.mpr hi, rfl⟩

theorem mem_inlineSucc_iff {g : GDoc} {boxed : Nat → Nat → Bool} {s : Nat} {it : GItem}
    (hg : g[s]? = some it) (hk : it.kind = .message) (p : Nat) :
    p ∈ inlineSucc g boxed s ↔ ∃ i, it.fields[i]? = some (GTy.path p) ∧ boxed s i = false := by
  simp only [inlineSucc, hg, hk, List.mem_filterMap, List.mem_range]
  constructor
  · rintro ⟨i, -, hi⟩
    split at hi
    · split at hi <;> cases hi
      exact ⟨i, ‹_›, Bool.eq_false_iff.mpr ‹_›⟩
    · cases hi
  · rintro ⟨i, hf, hb⟩
    exact ⟨i, (List.getElem?_eq_some_iff.mp hf).1, by simp [hf, hb]⟩

theorem mem_inlineSucc_message (g : GDoc) (boxed : Nat → Nat → Bool) (s i p : Nat) (it : GItem)
    (hg : g[s]? = some it) (hk : it.kind = .message) (hf : it.fields[i]? = some (GTy.path p)) (hb : boxed s i = false) :
    p ∈ inlineSucc g boxed s :=
  (mem_inlineSucc_iff hg hk p).mpr ⟨i, hf, hb⟩

/-- edges out of union / typedef items -/
def unionSucc (g : GDoc) (a : Nat) : List Nat :=
  match g[a]? with
  | some it => if it.kind = .message then [] else directPaths it.fields
  | none => []

theorem inlineSucc_cases (g : GDoc) (boxed : Nat → Nat → Bool) (a b : Nat) (h : b ∈ inlineSucc g boxed a) :
    b ∈ unionSucc g a ∨ ∃ it, g[a]? = some it ∧ it.kind = .message := by
  unfold inlineSucc at h
  unfold unionSucc
  cases hg : g[a]? with
  | none => simp [hg] at h
  | some it =>
    cases hk : it.kind with
    | message => exact .inr ⟨it, rfl, hk⟩
    | union | newtype => left; simpa [hg, hk] using h

theorem inlineSucc_sub (g : GDoc) (boxed : Nat → Nat → Bool) (a b : Nat) (h : b ∈ inlineSucc g boxed a) : b ∈ succ g a := by
  unfold succ
  cases hg : g[a]? with
  | none => simp [inlineSucc, hg] at h
  | some it =>
    cases hk : it.kind with
    | message =>
      obtain ⟨i, hf, -⟩ := (mem_inlineSucc_iff hg hk b).mp h
      exact (mem_directPaths ..).mpr ⟨i, hf⟩
    | union | newtype => simpa [inlineSucc, hg, hk] using h

/-- **Boxing breaks every cycle through a struct field**: with a decision that covers the plugin's rule, no struct is
reachable BY VALUE from the target of one of its own by-value fields. -/
theorem boxed_breaks_cycles (g : GDoc) (boxed : Nat → Nat → Bool) (hc : CoversRule g boxed) (s p : Nat) (it : GItem)
    (hg : g[s]? = some it) (hk : it.kind = .message) (hp : p ∈ inlineSucc g boxed s) : ¬ Reach (inlineSucc g boxed) p s := by
  intro hr
  obtain ⟨i, hf, hb⟩ := (mem_inlineSucc_iff hg hk p).mp hp
  cases hb.symm.trans (hc s i it p hg hk hf (hr.mono (inlineSucc_sub g boxed)))

/-- a by-value walk either never leaves a struct, or passes through a struct's by-value field -/
theorem reach_split (g : GDoc) (boxed : Nat → Nat → Bool) {a b : Nat} (h : Reach (inlineSucc g boxed) a b) :
    Reach (unionSucc g) a b ∨
      ∃ s p it, g[s]? = some it ∧ it.kind = .message ∧ Reach (inlineSucc g boxed) a s ∧ p ∈ inlineSucc g boxed s ∧ Reach (inlineSucc g boxed) p b := by
  induction h with
  | refl a => exact .inl (.refl a)
  | @step a m c hm hr ih =>
    rcases inlineSucc_cases g boxed a m hm with hu | ⟨it, hg, hk⟩
    · rcases ih with ih | ⟨s, p, it, hg, hk, h1, h2, h3⟩
      · exact .inl (.step hu ih)
      · exact .inr ⟨s, p, it, hg, hk, .step hm h1, h2, h3⟩
    · exact .inr ⟨a, m, it, hg, hk, .refl a, hm, hr⟩

/-- **Finite size**: if no cycle of the type graph runs through unions and typedefs only (the shape of known finding
D32, which pilota-build does not box), then after boxing there is no by-value cycle at all: every emitted type has a
finite size (what rustc's E0072 demands). -/
theorem inline_acyclic (g : GDoc) (boxed : Nat → Nat → Bool) (hc : CoversRule g boxed)
    (hu : ∀ a b, b ∈ unionSucc g a → ¬ Reach (unionSucc g) b a) (a b : Nat) (hab : b ∈ inlineSucc g boxed a) :
    ¬ Reach (inlineSucc g boxed) b a := by
  intro hr
  rcases inlineSucc_cases g boxed a b hab with hua | ⟨it, hg, hk⟩
  · rcases reach_split g boxed hr with h | ⟨s, p, it, hg, hk, h1, h2, h3⟩
    · exact hu a b hua h
    · -- p →* a → b →* s
      exact boxed_breaks_cycles g boxed hc s p it hg hk h2 (h3.trans (.step hab h1))
  · exact boxed_breaks_cycles g boxed hc a b it hg hk hab hr

theorem mem_positions (g : GDoc) (s i : Nat) (it : GItem) (hg : g[s]? = some it) (hi : i < it.fields.length) : (s, i) ∈ positions g := by
  simp only [positions, List.mem_flatMap, List.mem_range]
  exact ⟨s, (List.getElem?_eq_some_iff.mp hg).1, by simp [hg, hi]⟩

theorem isNested_iff (g : GDoc) (a b : Nat) (r : Bool) (h : isNested g a b = some r) : r = true ↔ Reach (succ g) a b := by
  unfold isNested at h
  cases hr : reachSet (succ g) (g.length + 1) a with
  | none => simp [hr] at h
  | some c =>
    cases hr ▸ h
    simpa using reachSet_iff (succ g) _ a c hr b

theorem decision_iff (g : GDoc) (hs : saturated g = true) (s i p : Nat) (it : GItem)
    (hg : g[s]? = some it) (hk : it.kind = .message) (hf : it.fields[i]? = some (GTy.path p)) :
    decision g s i = true ↔ Reach (succ g) p s := by
  have hb : boxedB g s i = isNested g p s := by simp [boxedB, hg, hk, hf]
  have hsat : (boxedB g s i).isSome = true :=
    List.all_eq_true.mp hs (s, i) (mem_positions g s i it hg (List.getElem?_eq_some_iff.mp hf).1)
  obtain ⟨r, hr⟩ := Option.isSome_iff_exists.mp hsat
  rw [← isNested_iff g p s r (hb ▸ hr), decision, hr]
  simp

theorem decision_covers (g : GDoc) (hs : saturated g = true) : CoversRule g (decision g) :=
  fun s i it p hg hk hf hr => (decision_iff g hs s i p it hg hk hf).mpr hr

end Pilota.Build
