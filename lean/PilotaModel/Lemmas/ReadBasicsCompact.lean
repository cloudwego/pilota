import PilotaModel.Lemmas.ReadBasics
import PilotaModel.Lemmas.Varint
import PilotaModel.Thrift.Compact
/-  The `_reads q` facts of `ReadBasics`, for the varint and compact reader primitives. -/
namespace Pilota
open Pilota Pilota.Thrift

open Out

theorem readVarU_reads {w bs} (q : Bytes) :
    Beside False False (fun x => 1 + x.2.length ≤ bs.length) (withTail q) (readVarU w bs) (readVarU w (bs ++ q)) := by
  unfold readVarU
  beside_step gatherVar_reads q
  rename_i h
  exact ⟨by dsimp only; rw [h.2, List.length_append]; omega, rfl⟩
theorem readVarU_len {w bs n r} (h : readVarU w bs = .ok (n, r)) : 1 + r.length ≤ bs.length := (Safe.ok (readVarU_reads []) h).1

theorem readVarS_reads {w bs} (q : Bytes) :
    Beside False False (fun x => 1 + x.2.length ≤ bs.length) (withTail q) (readVarS w bs) (readVarS w (bs ++ q)) := by
  unfold readVarS
  beside_step gatherVar_reads q
  rename_i h
  exact ⟨by dsimp only; rw [h.2, List.length_append]; omega, rfl⟩
theorem readVarS_len {w bs n r} (h : readVarS w bs = .ok (n, r)) : 1 + r.length ≤ bs.length := (Safe.ok (readVarS_reads []) h).1

namespace Thrift.Compact

/-- 1 while a bool value read from a field header is pending (the next `read_bool` consumes no byte). -/
def mu (s : CR) : Nat := if s.pendingBool.isSome then 1 else 0

theorem mu_le (s : CR) : mu s ≤ 1 := by unfold mu; split <;> omega
theorem mu_none {s : CR} (h : s.pendingBool = none) : mu s = 0 := by unfold mu; rw [h]; rfl

theorem readByte_reads {bs} (q : Bytes) :
    Beside False False (fun x => 1 + x.2.length = bs.length) (withTail q) (readByte bs) (readByte (bs ++ q)) := Binary.readByte_reads q
theorem readByte_len {bs b r} (h : readByte bs = .ok (b, r)) : 1 + r.length = bs.length := Binary.readByte_len h
theorem checkSize_len {n r k} (h : Binary.checkSize n r = .ok k) : k ≤ r.length := (Binary.checkSize_inv h).1

/-- `mu x.2.1 ≤ 1` holds of any state (`mu_le`); it is said here so that `omega` has it where the state is a projection of `x` -/
theorem readFieldBegin_reads {s bs} (q : Bytes) : Beside False False (fun x => 1 + x.2.2.length ≤ bs.length ∧ mu x.2.1 ≤ 1)
    (fun x => (x.1, x.2.1, x.2.2 ++ q)) (readFieldBegin s bs) (readFieldBegin s (bs ++ q)) := by
  unfold readFieldBegin
  beside_step readByte_reads q
  -- the `let`s stay opaque, so that the header's new state is not split into its three cases
  extract_lets delta low s' id
  split
  · trivial
  · exact ⟨⟨by dsimp only; omega, mu_le _⟩, rfl⟩
  · split
    · split
      · exact ⟨⟨by dsimp only; omega, mu_le _⟩, rfl⟩
      · trivial
    · beside_step readVarS_reads q
      exact ⟨⟨by dsimp only; omega, mu_le _⟩, rfl⟩
theorem readFieldBegin_len {s bs x s' r} (h : readFieldBegin s bs = .ok (x, s', r)) : 1 + r.length ≤ bs.length :=
  (Safe.ok (readFieldBegin_reads []) h).1.1

/-- `read_bool` either consumes the pending value or one byte. -/
theorem readBool_reads {s bs} (q : Bytes) : Beside False False (fun x => 3 * x.2.2.length + mu x.2.1 + 1 ≤ 3 * bs.length + mu s)
    (fun x => (x.1, x.2.1, x.2.2 ++ q)) (readBool s bs) (readBool s (bs ++ q)) := by
  unfold readBool
  split
  · rename_i hp
    refine ⟨?_, rfl⟩
    show 3 * bs.length + 0 + 1 ≤ 3 * bs.length + mu s
    unfold mu; rw [hp]; exact Nat.le_refl _
  · beside_step readByte_reads q
    split
    · exact ⟨by dsimp only; omega, rfl⟩
    · split
      · exact ⟨by dsimp only; omega, rfl⟩
      · trivial
theorem readBool_len {s bs b s' r} (h : readBool s bs = .ok (b, s', r)) : 3 * r.length + mu s' + 1 ≤ 3 * bs.length + mu s :=
  (Safe.ok (readBool_reads []) h).1

theorem readBytes_ok {bs b r} (h : readBytes bs = .ok (b, r)) :
    ∃ n r0, readVarU 4 bs = .ok (n, r0) ∧ n ≤ r0.length ∧ b = r0.take n ∧ r = r0.drop n := by
  unfold readBytes at h
  ok_step h
  split at h
  · rw [Binary.splitTo_of_le ‹_›] at h
    cases h
    exact ⟨_, _, ‹_›, ‹_›, rfl, rfl⟩
  · cases h
theorem readBytes_reads {bs} (q : Bytes) :
    Beside False False (fun x => 1 + x.1.length + x.2.length ≤ bs.length) (withTail q) (readBytes bs) (readBytes (bs ++ q)) := by
  unfold readBytes
  beside_step readVarU_reads q
  split
  · rename_i n r _ _ h
    have h3 : n ≤ (r ++ q).length := by rw [List.length_append]; omega
    rw [Binary.splitTo_of_le h, if_pos h3, Binary.splitTo_of_le h3, List.take_append_of_le_length h, List.drop_append_of_le_length h]
    exact ⟨by show 1 + (List.take _ _).length + (List.drop _ _).length ≤ _; rw [List.length_take, List.length_drop]; omega, rfl⟩
  · trivial
theorem readBytes_len {bs b r} (h : readBytes bs = .ok (b, r)) : 1 + b.length + r.length ≤ bs.length :=
  (Safe.ok (readBytes_reads []) h).1

theorem readCollBegin_reads {bs} (q : Bytes) :
    Beside False False (fun x => 1 + x.2.length ≤ bs.length) (withTail q) (readCollBegin bs) (readCollBegin (bs ++ q)) := by
  unfold readCollBegin
  beside_step readByte_reads q
  split
  · trivial
  · split
    · beside_step Binary.checkSize_reads q
      exact ⟨by dsimp only; omega, rfl⟩
    · beside_step readVarU_reads q
      beside_step Binary.checkSize_reads q
      exact ⟨by dsimp only; omega, rfl⟩
theorem readCollBegin_len {bs x r} (h : readCollBegin bs = .ok (x, r)) : 1 + r.length ≤ bs.length :=
  (Safe.ok (readCollBegin_reads []) h).1

theorem readMapBegin_reads {bs} (q : Bytes) :
    Beside False False (fun x => 1 + x.2.length ≤ bs.length) (withTail q) (readMapBegin bs) (readMapBegin (bs ++ q)) := by
  unfold readMapBegin
  beside_step readVarU_reads q
  beside_step Binary.checkSize_reads q
  split
  · exact ⟨by dsimp only; omega, rfl⟩
  · beside_step readByte_reads q
    split
    · exact ⟨by dsimp only; omega, rfl⟩
    · trivial
theorem readMapBegin_len {bs x r} (h : readMapBegin bs = .ok (x, r)) : 1 + r.length ≤ bs.length :=
  (Safe.ok (readMapBegin_reads []) h).1

theorem readStructEnd_safe (s) : (readStructEnd s).Safe False False fun s' => mu s' = mu s := by
  unfold readStructEnd
  split
  · trivial
  · exact rfl
@[simp] theorem readStructBegin_mu (s) : mu (readStructBegin s) = mu s := rfl

end Thrift.Compact
end Pilota
