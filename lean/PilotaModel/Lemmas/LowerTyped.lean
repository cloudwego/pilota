import PilotaModel.Build.Lower
import PilotaModel.Lemmas.HasTy
import PilotaModel.Lemmas.KeepRTBase
/-  The value an IDL default literal is lowered to (Build/Lower.lean, model of `lit_into_ty`) is a value of the field's declared
    type (`hasTy`). -/
namespace Pilota.Build
open Pilota Pilota.Thrift Pilota.TGen

variable (d : Doc)

-- struct literals name every required field and every field that has an IDL default, at every level: then neither
-- `Default::default()` nor `None` for a field with a default occurs in the lowered value
mutual
def fullLit : Nat → STy → Lit → Bool
  | 0, _, _ => false
  | f+1, _, .const cty l => fullLit f cty l
  | f+1, .list e, .list xs => fullLits f e xs
  | f+1, .set e, .list xs => fullLits f e xs
  | f+1, .map k v, .map kvs => fullPairs f k v kvs
  | f+1, .ref n, lit => match d.find n with
    | some (.typedef t) => fullLit f t lit
    | some (.struct fs) => match lit with
      | .strct es => fullRec f fs es
      | _ => true
    | _ => true
  | _+1, _, _ => true
def fullLits : Nat → STy → Lits → Bool
  | 0, _, _ => false
  | _+1, _, .nil => true
  | f+1, e, .cons x xs => fullLit f e x && fullLits f e xs
def fullPairs : Nat → STy → STy → LitPairs → Bool
  | 0, _, _, _ => false
  | _+1, _, _, .nil => true
  | f+1, k, v, .cons a b r => fullLit f k a && fullLit f v b && fullPairs f k v r
def fullRec : Nat → List Field → LitFields → Bool
  | 0, _, _ => false
  | _+1, [], _ => true
  | f+1, fl :: fs, es => (match es.get fl.id with
      | some l => fullLit f fl.ty l
      | none => !fl.required && fl.dflt.isNone) && fullRec f fs es
end

/-- the document's typedef chains resolve within `Doc.ttype`'s own budget (true of every document without a typedef cycle) -/
def typedefsOk : Prop := ∀ n t, d.find n = some (.typedef t) → d.ttype (.ref n) = d.ttype t

theorem ttype_enum (n : String) (h : d.find n = some .enum) : d.ttype (.ref n) = .i32 := by
  simp [Doc.ttype, ttypeOf, h]
theorem ttype_struct (n : String) (fs : List Field) (h : d.find n = some (.struct fs)) : d.ttype (.ref n) = .struct := by
  simp [Doc.ttype, ttypeOf, h]

theorem lower_ttype (ht : typedefsOk d) : ∀ (f : Nat) (ty : STy) (lit : Lit) (v : TVal), lowerLit d f ty lit = some v → v.ttype = d.ttype ty := by
  intro f
  induction f with
  | zero => intro ty lit v h; cases h
  | succ f ih =>
    intro ty lit v h
    generalize hg : f + 1 = g at h
    unfold lowerLit at h
    split at h <;> try (cases h; done)
    all_goals cases hg
    case h_2 =>   -- a constant
      split at h <;> first | cases h | (rename_i heq; subst heq; exact ih _ _ _ h)
    case h_5 | h_6 | h_7 | h_8 | h_13 => split at h <;> cases h; rfl   -- integer / double literal with a range check
    case h_16 | h_17 | h_18 =>   -- list, set, map
      obtain ⟨ys, _, rfl⟩ := Option.map_eq_some_iff.mp h; rfl
    case h_19 =>   -- `.ref n`
      split at h <;> try (cases h; done)
      · rename_i hn
        split at h <;> try (cases h; done)
        all_goals (split at h <;> cases h; rw [ttype_enum d _ hn]; rfl)
      · rename_i hn; exact (ht _ _ hn) ▸ ih _ _ _ h
      · rename_i hn
        split at h <;> try (cases h; done)
        obtain ⟨out, _, rfl⟩ := Option.map_eq_some_iff.mp h
        rw [ttype_struct d _ _ hn]; rfl
    all_goals (cases h; rfl)


theorem hasFields_all_absent (P : STy → TVal → Bool) : ∀ (fs : List Field), (∀ fl ∈ fs, fl.required = false ∧ fl.dflt = none) →
    hasFields d P fs .nil = true := by
  intro fs
  induction fs with
  | nil => intro _; simp [hasFields]
  | cons fl fs ih =>
    intro h
    have := h fl (by simp)
    simp [hasFields, this.1, this.2, ih (fun x hx => h x (by simp [hx]))]

theorem lowerLitRec_ids : ∀ (f : Nat) (fs : List Field) (es : LitFields) (out : List (Int × TVal)),
    lowerLitRec d f fs es = some out → ∀ p ∈ out, ∃ fl ∈ fs, fl.id = p.1 := by
  intro f
  induction f with
  | zero => intro fs es out h; simp [lowerLitRec] at h
  | succ f ih =>
    intro fs es out h p hp
    cases fs with
    | nil => simp only [lowerLitRec, Option.some.injEq] at h; subst h; cases hp
    | cons fl fs =>
      simp only [lowerLitRec] at h
      cases hr : lowerLitRec d f fs es with
      | none => simp [hr] at h
      | some rest =>
        simp only [hr] at h
        have lift : p ∈ rest → ∃ fl' ∈ fl :: fs, fl'.id = p.1 := fun hm => by
          obtain ⟨x, hx, hxp⟩ := ih fs es rest hr p hm; exact ⟨x, by simp [hx], hxp⟩
        cases hg : es.get fl.id with
        | some l =>
          simp only [hg] at h
          cases hl : lowerLit d f fl.ty l with
          | none => simp [hl] at h
          | some v =>
            simp only [hl, Option.map_some, Option.some.injEq] at h; subst h
            rcases List.mem_cons.mp hp with rfl | hm
            · exact ⟨fl, by simp, rfl⟩
            · exact lift hm
        | none =>
          simp only [hg] at h
          split at h
          · simp only [Option.some.injEq] at h; subst h
            rcases List.mem_cons.mp hp with rfl | hm
            · exact ⟨fl, by simp, rfl⟩
            · exact lift hm
          · simp only [Option.some.injEq] at h; subst h; exact lift hp

def idsOk : Prop := ∀ n fs, d.find n = some (.struct fs) → fs.Pairwise (fun a b => a.id ≠ b.id) ∧ ∀ fl ∈ fs, inS 2 fl.id

theorem lower_typed_all (ht : typedefsOk d) (hi : idsOk d) : ∀ f : Nat,
    (∀ ty lit v, lowerLit d f ty lit = some v → fullLit d f ty lit = true → ∃ F, hasTy d F ty v = true) ∧
    (∀ e xs ys, lowerLitN d f e xs = some ys → fullLits d f e xs = true → ∃ F, ∀ y ∈ ys, hasTy d F e y = true) ∧
    (∀ k v kvs ys, lowerLitP d f k v kvs = some ys → fullPairs d f k v kvs = true →
      ∃ F, ∀ p ∈ ys, hasTy d F k p.1 = true ∧ hasTy d F v p.2 = true) ∧
    (∀ fs es out, fs.Pairwise (fun a b => a.id ≠ b.id) → (∀ fl ∈ fs, inS 2 fl.id) → lowerLitRec d f fs es = some out →
      fullRec d f fs es = true → ∃ F, hasFields d (hasTy d F) fs (TFields.ofList out) = true) := by
  intro f
  induction f with
  | zero => refine ⟨?_, ?_, ?_, ?_⟩ <;> intros <;> simp_all [lowerLit, lowerLitN, lowerLitP, lowerLitRec]
  | succ f ih =>
    obtain ⟨ihT, ihN, ihP, ihR⟩ := ih
    refine ⟨?_, ?_, ?_, ?_⟩
    · intro ty lit v h hf
      generalize hg : f + 1 = g at h
      unfold lowerLit at h
      split at h <;> try (cases h; done)
      all_goals cases hg
      case h_2 =>   -- a constant
        split at h
        · rename_i heq; subst heq
          simp only [fullLit] at hf
          exact ihT _ _ _ h hf
        · cases h
      case h_5 | h_6 | h_7 | h_8 | h_13 => split at h <;> cases h; exact ⟨1, rfl⟩
      case h_16 =>   -- list
        rename_i e xs
        simp only [fullLit] at hf
        obtain ⟨ys, hx, rfl⟩ := Option.map_eq_some_iff.mp h
        obtain ⟨F, hF⟩ := ihN e xs ys hx hf
        refine ⟨F + 1, ?_⟩
        simp only [hasTy, beq_self_eq_true, Bool.true_and]
        exact (allV_iff _ _).mpr (by rw [TVals.toList_ofList]; exact hF)
      case h_17 =>   -- set
        rename_i e xs
        simp only [fullLit] at hf
        obtain ⟨ys, hx, rfl⟩ := Option.map_eq_some_iff.mp h
        obtain ⟨F, hF⟩ := ihN e xs ys hx hf
        exact ⟨F + 1, hasTy_set_fold d F e ys hF⟩
      case h_18 =>   -- map
        rename_i k v' kvs
        simp only [fullLit] at hf
        obtain ⟨ys, hx, rfl⟩ := Option.map_eq_some_iff.mp h
        obtain ⟨F, hF⟩ := ihP k v' kvs ys hx hf
        exact ⟨F + 1, hasTy_map_fold d F k v' ys hF⟩
      case h_19 =>   -- `.ref n`
        rename_i n hnc
        split at h <;> try (cases h; done)
        · rename_i hn
          split at h <;> try (cases h; done)
          all_goals (split at h <;> cases h; exact ⟨1, by simp [hasTy, hn]⟩)
        · rename_i t hn
          have hf' : fullLit d f t lit = true := by
            cases lit <;> simp only [fullLit, hn] at hf <;> first | exact hf | exact (hnc _ _ rfl).elim
          obtain ⟨F, hF⟩ := ihT t lit v h hf'
          exact ⟨F + 1, by simp [hasTy, hn, hF]⟩
        · rename_i fs hn
          split at h <;> try (cases h; done)
          rename_i es
          simp only [fullLit, hn] at hf
          obtain ⟨out, hx, rfl⟩ := Option.map_eq_some_iff.mp h
          obtain ⟨F, hF⟩ := ihR fs es out (hi n fs hn).1 (hi n fs hn).2 hx hf
          exact ⟨F + 1, by simp [hasTy, hn, hF]⟩
      all_goals (cases h; exact ⟨1, rfl⟩)
    · intro e xs ys h hf
      cases xs with
      | nil => simp only [lowerLitN, Option.some.injEq] at h; subst h; exact ⟨0, fun y hy => by cases hy⟩
      | cons x xs =>
        simp only [lowerLitN] at h
        simp only [fullLits, Bool.and_eq_true] at hf
        cases hx : lowerLit d f e x with
        | none => simp [hx] at h
        | some v =>
          cases hxs : lowerLitN d f e xs with
          | none => simp [hx, hxs] at h
          | some vs =>
            simp only [hx, hxs, Option.some.injEq] at h; subst h
            obtain ⟨F1, h1⟩ := ihT e x v hx hf.1
            obtain ⟨F2, h2⟩ := ihN e xs vs hxs hf.2
            refine ⟨max F1 F2, fun y hy => ?_⟩
            rcases List.mem_cons.mp hy with rfl | hy
            · exact hasTy_mono d F1 _ (Nat.le_max_left _ _) _ _ h1
            · exact hasTy_mono d F2 _ (Nat.le_max_right _ _) _ _ (h2 y hy)
    · intro k v kvs ys h hf
      cases kvs with
      | nil => simp only [lowerLitP, Option.some.injEq] at h; subst h; exact ⟨0, fun y hy => by cases hy⟩
      | cons a b r =>
        simp only [lowerLitP] at h
        simp only [fullPairs, Bool.and_eq_true] at hf
        cases ha : lowerLit d f k a with
        | none => simp [ha] at h
        | some ka =>
          cases hb : lowerLit d f v b with
          | none => simp [ha, hb] at h
          | some vb =>
            cases hr : lowerLitP d f k v r with
            | none => simp [ha, hb, hr] at h
            | some rest =>
              simp only [ha, hb, hr, Option.some.injEq] at h; subst h
              obtain ⟨F1, h1⟩ := ihT k a ka ha hf.1.1
              obtain ⟨F2, h2⟩ := ihT v b vb hb hf.1.2
              obtain ⟨F3, h3⟩ := ihP k v r rest hr hf.2
              refine ⟨max (max F1 F2) F3, fun p hp => ?_⟩
              rcases List.mem_cons.mp hp with rfl | hp
              · exact ⟨hasTy_mono d F1 _ (by omega) _ _ h1, hasTy_mono d F2 _ (by omega) _ _ h2⟩
              · exact ⟨hasTy_mono d F3 _ (by omega) _ _ (h3 p hp).1, hasTy_mono d F3 _ (by omega) _ _ (h3 p hp).2⟩
    · intro fs es out hpw hin h hf
      cases fs with
      | nil => simp only [lowerLitRec, Option.some.injEq] at h; subst h; exact ⟨0, by simp [TFields.ofList, hasFields]⟩
      | cons fl fs =>
        have hp := List.pairwise_cons.mp hpw
        simp only [lowerLitRec] at h
        simp only [fullRec, Bool.and_eq_true] at hf
        cases hr : lowerLitRec d f fs es with
        | none => simp [hr] at h
        | some rest =>
          simp only [hr] at h
          obtain ⟨F2, h2⟩ := ihR fs es rest hp.2 (fun x hx => hin x (by simp [hx])) hr hf.2
          have hne : ∀ p ∈ rest, p.1 ≠ fl.id := by
            intro p hpm heq
            obtain ⟨x, hx, hxp⟩ := lowerLitRec_ids d f fs es rest hr p hpm
            exact hp.1 x hx (by rw [hxp, heq])
          cases hg : es.get fl.id with
          | some l =>
            simp only [hg] at h hf
            cases hl : lowerLit d f fl.ty l with
            | none => simp [hl] at h
            | some v =>
              simp only [hl, Option.map_some, Option.some.injEq] at h; subst h
              obtain ⟨F1, h1⟩ := ihT fl.ty l v hl hf.1
              refine ⟨max F1 F2, ?_⟩
              simp only [TFields.ofList, hasFields, beq_self_eq_true, if_true, Bool.and_eq_true, decide_eq_true_eq, beq_iff_eq]
              refine ⟨⟨⟨hin fl (by simp), (lower_ttype d ht f fl.ty l v hl).symm⟩, hasTy_mono d F1 _ (Nat.le_max_left _ _) _ _ h1⟩, ?_⟩
              exact hasFields_imp d (fun t x hx => hasTy_mono d F2 _ (Nat.le_max_right _ _) t x hx) _ _ h2
          | none =>
            simp only [hg, Bool.and_eq_true, Bool.not_eq_true', Option.isNone_iff_eq_none] at h hf
            have hreq : fl.required = false := hf.1.1
            simp only [hreq, Bool.false_eq_true, if_false, Option.some.injEq] at h; subst h
            exact ⟨F2, hasFields_skip d _ fl fs _ hreq hf.1.2 (by rwa [TFields.toList_ofList]) h2⟩

end Pilota.Build
