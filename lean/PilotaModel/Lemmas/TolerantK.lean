import PilotaModel.TGen.ProjectK
import PilotaModel.Lemmas.Tolerant
/-
  Retention build (keep_unknown_fields), binary family: the retention decoder run on the binary encoding of a
  wire value equals its value-level shadow `projTyK` — for every document, declared type, well-typed wire value
  inside the shadow's domain, endianness, depth budget, trailing input and fuel.  `decTyK` is not `decTy` over a reader
  record (its skipper `skipKeep` returns the value skipped, `Rd.skip` does not), so `corr` does not apply: the induction
  is made again, on the bytes.
-/
namespace Pilota.TGen
open Pilota Pilota.Thrift Pilota.Thrift.Binary

variable (e : Endian) (dp : Option Nat) (d : Doc)

theorem skipKeep_enc (hed : EndianOk e dp) (v : TVal) (hw : v.wt = true) (hd : admits dp v.need) (r : Bytes) :
    skipKeep e dp v.ttype (enc e v ++ r) = .ok (v, r) := by
  unfold skipKeep
  rw [binRd_skip_enc e dp hed v hw hd r, read_enc e v hw r]

theorem corrK_all (hed : EndianOk e dp) : ∀ f : Nat,
    (∀ ty w rest o, w.wt = true → projTyK d dp f ty w = some o → decTyK e dp d f ty (enc e w ++ rest) = withRest rest o) ∧
    (∀ el xs et acc rest o, xs.wt et = true → projNK d dp f el xs acc = some o →
      decNK e dp d f el xs.length acc (encVals e xs ++ rest) = withRest rest o) ∧
    (∀ k v kvs kt vt acc rest o, kvs.wt kt vt = true → projPairsK d dp f k v kvs acc = some o →
      decPairsK e dp d f k v kvs.length acc (encPairs e kvs ++ rest) = withRest rest o) ∧
    (∀ fs slots unk wfs rest o, wfs.wt = true → projFieldsK d dp f fs slots unk wfs = some o →
      decFieldsK e dp d f fs slots unk (encFields e wfs ++ rest) =
        mapOut (fun (x : List (Int × TVal) × List (Int × TVal)) => (x.1, x.2, rest)) o) ∧
    (∀ vs ret wfs rest o, wfs.wt = true → projUnionK d dp f vs ret wfs = some o →
      decUnionK e dp d f vs ret (encFields e wfs ++ rest) = withRest rest o) := by
  intro f
  induction f with
  | zero =>
    exact ⟨fun _ _ _ _ _ h => by cases h; rfl, fun _ _ _ _ _ _ _ h => by cases h; rfl, fun _ _ _ _ _ _ _ _ _ h => by cases h; rfl,
      fun _ _ _ _ _ _ _ h => by cases h; rfl, fun _ _ _ _ _ _ h => by cases h; rfl⟩
  | succ f ih =>
    obtain ⟨ihT, ihN, ihP, ihF, ihU⟩ := ih
    have hns : ∀ v : TVal, v.ttype ≠ .stop := fun v => TType.isValue_ne_stop _ (TVal.ttype_isValue v)
    refine ⟨fun ty w rest o hw h => ?_, fun el xs et acc rest o hw h => ?_, fun k v kvs kt vt acc rest o hw h => ?_,
      fun fs slots unk wfs rest o hw h => ?_, fun vs ret wfs rest o hw h => ?_⟩
    · generalize hg : f + 1 = g at h
      unfold projTyK at h
      split at h <;> try (cases h; done)
      all_goals cases hg
      case h_2 | h_3 =>   -- `.list el` at a list, `.set el` at a set: the same element loop
        simp [TVal.wt] at hw
        simp only [enc, List.cons_append, List.append_assoc]
        dsimp only [decTyK]; rw [listBegin_enc e dp _ _ hw.2 hw.1.2]
        split at h <;> cases h <;> (dsimp only; rw [ihN _ _ _ _ _ _ hw.2 ‹_›]; rfl)
      case h_4 =>   -- `.map k v`, `.map kt vt kvs`
        simp [TVal.wt] at hw
        simp only [enc, List.cons_append, List.append_assoc]
        dsimp only [decTyK]; rw [mapBegin_enc e dp _ _ _ hw.2 hw.1.2]
        split at h <;> cases h <;> (dsimp only; rw [ihP _ _ _ _ _ _ _ _ hw.2 ‹_›]; rfl)
      case h_8 =>   -- `.ref n`
        dsimp only [decTyK]
        split at h <;> rw [‹d.find _ = _›] <;> dsimp only
        · split at h <;> try (cases h; done)
          simp only [TVal.wt] at hw
          simp only [enc]
          split at h
          · rw [ihF _ _ _ _ _ _ hw ‹_›]; dsimp only [mapOut]
            split at h <;> cases h <;> (rename_i hfin; rw [hfin]; rfl)
          all_goals (cases h; try (rw [ihF _ _ _ _ _ _ hw ‹_›]; rfl))
        · split at h <;> try (cases h; done)
          simp only [TVal.wt] at hw
          simp only [enc]
          split at h
          · rw [ihU _ _ _ _ _ hw ‹_›]; dsimp only [withRest, mapOut]
            split at h
            · cases h; rfl
            · split at h <;> cases h
              · rfl
              · rename_i hne
                dsimp only
                split
                · exact (hne _ _ rfl).elim
                · rfl
          all_goals (cases h; try (rw [ihU _ _ _ _ _ hw ‹_›]; rfl))
        · split at h <;> try (cases h; done)
          cases h
          exact base_dec e dp d (ty := .i32) rfl hw 0 rest
        · exact ihT _ _ _ _ hw h
        · cases h; rfl
      case h_9 =>   -- a base type: both the decoder and its shadow fall through to the plain ones
        rename_i hl hs hm hr _ _ _
        have : decTyK e dp d (f + 1) ty (enc e w ++ rest) = decTy (binRd e dp) d (f + 1) ty (enc e w ++ rest) := by
          cases ty with
          | list el => exact (hl el rfl).elim
          | set el => exact (hs el rfl).elim
          | map k v => exact (hm k v rfl).elim
          | ref n => exact (hr n rfl).elim
          | _ => rfl
        rw [this]
        exact (corr_all e dp d hed (f + 1)).1 ty w rest o hw h
    · generalize hg : f + 1 = g at h
      unfold projNK at h
      split at h <;> try (cases h; done)
      all_goals cases hg
      · cases h; rfl
      · simp [TVals.wt] at hw
        simp only [TVals.length, encVals, List.append_assoc, decNK]
        split at h
        · rw [ihT _ _ _ _ hw.1.2 ‹_›]; exact ihN _ _ _ _ _ _ hw.2 h
        all_goals (cases h; try (rw [ihT _ _ _ _ hw.1.2 ‹_›]; rfl))
    · generalize hg : f + 1 = g at h
      unfold projPairsK at h
      split at h <;> try (cases h; done)
      all_goals cases hg
      · cases h; rfl
      · simp [TPairs.wt] at hw
        simp only [TPairs.length, encPairs, List.append_assoc, decPairsK]
        split at h
        · rw [ihT _ _ _ _ hw.1.1.2 ‹_›]; dsimp only [withRest, mapOut]
          split at h
          · rw [ihT _ _ _ _ hw.1.2 ‹_›]; exact ihP _ _ _ _ _ _ _ _ hw.2 h
          all_goals (cases h; try (rw [ihT _ _ _ _ hw.1.2 ‹_›]; rfl))
        all_goals (cases h; try (rw [ihT _ _ _ _ hw.1.1.2 ‹_›]; rfl))
    · generalize hg : f + 1 = g at h
      unfold projFieldsK at h
      split at h <;> try (cases h; done)
      all_goals cases hg
      · cases h; dsimp only [decFieldsK]; rw [fieldBegin_nil]; rfl
      · simp [TFields.wt] at hw
        dsimp only [decFieldsK]; rw [fieldBegin_cons e dp _ _ _ hw.1.1]; dsimp only; rw [if_neg (hns _)]
        split at h <;> try (cases h; done)
        split at h <;> rw [‹List.find? _ _ = _›] <;> dsimp only
        · split at h
          · rw [ihT _ _ _ _ hw.1.2 ‹_›]; exact ihF _ _ _ _ _ _ hw.2 h
          all_goals (cases h; try (rw [ihT _ _ _ _ hw.1.2 ‹_›]; rfl))
        · split at h <;> try (cases h; done)
          rw [skipKeep_enc e dp hed _ hw.1.2 ((admitsB_iff dp _).mp ‹_›)]; exact ihF _ _ _ _ _ _ hw.2 h
    · generalize hg : f + 1 = g at h
      unfold projUnionK at h
      split at h <;> try (cases h; done)
      all_goals cases hg
      · cases h; dsimp only [decUnionK]; rw [fieldBegin_nil]; rfl
      · simp [TFields.wt] at hw
        dsimp only [decUnionK]; rw [fieldBegin_cons e dp _ _ _ hw.1.1]; dsimp only; rw [if_neg (hns _)]
        split at h <;> try (cases h; done)
        split at h <;> rw [‹List.find? _ _ = _›] <;> dsimp only
        · split at h
          · cases h; rw [if_pos ‹_›]; rfl
          · rw [if_neg ‹_›]
            split at h <;> try (cases h; done)
            split at h
            · rw [ihT _ _ _ _ hw.1.2 ‹_›]; exact ihU _ _ _ _ _ hw.2 h
            all_goals (cases h; try (rw [ihT _ _ _ _ hw.1.2 ‹_›]; rfl))
        · split at h <;> try (cases h; done)
          rw [skipKeep_enc e dp hed _ hw.1.2 ((admitsB_iff dp _).mp ‹_›)]; dsimp only
          split at h
          · cases h; rw [if_pos ‹_›]; rfl
          · rw [if_neg ‹_›]; exact ihU _ _ _ _ _ hw.2 h

end Pilota.TGen

namespace Pilota.TGen
open Pilota Pilota.Thrift

variable (d : Doc) (dp : Option Nat)

/-- the fields of a wire struct that the reader's struct does not declare (by id and wire type), in wire order -/
def unknownsOf (fs : List Field) : TFields → List (Int × TVal)
  | .nil => []
  | .cons id v r =>
    if (fs.find? (fun fl => fl.id == id && d.ttype fl.ty == v.ttype)).isSome then unknownsOf fs r
    else (id, v) :: unknownsOf fs r

theorem projFieldsK_retains : ∀ (f : Nat) (fs : List Field) (slots unk : List (Int × TVal)) (wfs : TFields) (slots' unk' : List (Int × TVal)),
    projFieldsK d dp f fs slots unk wfs = some (.ok (slots', unk')) → unk' = unk ++ unknownsOf d fs wfs := by
  intro f
  induction f with
  | zero => intro fs slots unk wfs slots' unk' h; simp [projFieldsK] at h
  | succ f ih =>
    intro fs slots unk wfs slots' unk' h
    cases wfs with
    | nil => simp only [projFieldsK] at h; cases h; simp [unknownsOf]
    | cons id v r =>
      simp only [projFieldsK] at h
      split at h
      · cases h
      · cases hfind : fs.find? (fun fl => fl.id == id && d.ttype fl.ty == v.ttype) with
        | some fl =>
          simp only [hfind] at h
          simp only [unknownsOf, hfind, Option.isSome_some, if_true]
          cases hp : projTyK d dp f fl.ty v with
          | none => simp [hp] at h
          | some ov =>
            cases ov with
            | ok pv => simp only [hp] at h; exact ih fs _ unk r slots' unk' h
            | err k => simp [hp] at h
            | panic m => simp [hp] at h
            | fuel => simp [hp] at h
        | none =>
          simp only [hfind] at h
          simp only [unknownsOf, hfind, Option.isSome_none, Bool.false_eq_true, if_false]
          split at h
          · have := ih fs slots _ r slots' unk' h
            rw [this]; simp
          · cases h

end Pilota.TGen
