import PilotaModel.Lemmas.PbRecs
import PilotaModel.Lemmas.PbDefault
/-
  The heart of C05 / C18: decoding the encoding of `y` into any value `x` of the struct gives
  `mergeVal x y` and consumes exactly the encoding — for every well-formed schema, every
  well-typed `y` within the recursion budget, both settings of `pb-encode-default-value`.
  Proved on the records of the encoding (`PbRecs`), field by field (`PbFold`).
-/
namespace Pilota.Proto
open Pilota Spec

theorem tagOk_1 : tagOk 1 = true := by decide

theorem mergeSlot_rep_one (s : Schema) (recur : Recur) (t tag : Nat) (acc : EVals) {c : Codec} {v : SVal} (hok : c.ok v = true)
    (hlen : Codec.lenOk v) :
    mergeSlot s recur (.rep t (.scalar c)) (.rep acc) tag c.wt (c.encPayload v) = .ok (.rep (acc.append (svalsToE [v])), []) := by
  have := Codec.mergeRepeated_one c v hok hlen [] []
  rw [List.append_nil] at this
  simp only [mergeSlot, this, List.nil_append]

/-- one map entry through `hash_map::merge`: inside it the key is field 1 and the value field 2, both with implicit
presence; the records numbered 1 build the key, those numbered 2 the value, in whatever order they come.  `hK` and `hV`
are the hypothesis of `foldSlot_implicit` for the two fields (hence `EVal.s kc.default = .s k`, its `x = v`). -/
theorem mergeSlot_entry (s : Schema) (c t tag : Nat) (kc : Codec) (vty : FTy) (acc : Pairs) (es : List Rec) (k : SVal) (v : EVal)
    (hall : ∀ x ∈ es, x.tag = 1 ∨ x.tag = 2) (hlen : (flat es).length < 2 ^ 64)
    (hK : (∃ r, es.filter (fun x => x.tag == 1) = [r] ∧
            mergeE s (recurOf s c) (.scalar kc) (.s kc.default) r.wt r.payload = .ok (.s k, [])) ∨
          es.filter (fun x => x.tag == 1) = [] ∧ EVal.s kc.default = .s k)
    (hV : (∃ r, es.filter (fun x => x.tag == 2) = [r] ∧ mergeE s (recurOf s c) vty (defaultE s vty) r.wt r.payload = .ok (v, [])) ∨
          es.filter (fun x => x.tag == 2) = [] ∧ defaultE s vty = v) :
    mergeSlot s (recurOf s (c + 1)) (.map t kc vty) (.map acc) tag .len (lenDelim (flat es)) = .ok (.map (acc.insert k v), []) := by
  have e1 : es.filter (fun r => [1].contains r.tag) = es.filter (fun x => x.tag == 1) := by
    congr 1; funext r; by_cases h : r.tag = 1 <;> simp [h]
  have e2 : es.filter (fun r => ([2].contains r.tag && !([1].contains r.tag))) = es.filter (fun x => x.tag == 2) :=
    List.filter_congr fun x hx => by rcases hall x hx with h | h <;> simp [h]
  have e3 : es.filter (fun r => (!([2].contains r.tag) && !([1].contains r.tag))) = [] :=
    List.filter_eq_nil_iff.mpr fun x hx => by rcases hall x hx with h | h <;> simp [h]
  have hfold : foldRecs s (recurOf s c) c (entryDecls kc vty) (entry0 s kc vty) es = .ok (.cons (.req (.s k)) (.cons (.req v) .nil)) := by
    refine foldRecs_split _ _ _ _ _ _ _ _ _ _ (e1 ▸ foldSlot_implicit hK) (foldRecs_split _ _ _ _ _ _ _ _ _ _ ?_ ?_)
    · simp only [FieldDecl.tags, List.filter_filter, e2]; exact foldSlot_implicit hV
    · simp only [FieldDecl.tags, List.filter_filter, e3]; rfl
  have := mergeLoop_flat s c _ es _ _ [] (fun q hq => by rcases hall q hq with h | h <;> rw [h] <;> rfl) hfold hlen
  rw [List.append_nil] at this
  simp only [mergeSlot, recurOf, this, entryResult]

mutual
/-- Throughout the block the value written (`y`, `ys`, `kvs`) has to be well typed (`ok..`: its encoding is what is read)
and within the budget (`need.. ≤ ctx`), the value merged into (`x`, `m`, `M`, `xs`) only of the right shape; the recursion
is on the value written. -/
theorem mergeE_pay (s : Schema) (flag : Bool) (hs : WFSchema s = true) (ty : FTy) (x y : EVal)
    (ctx : Nat) (hy : okE s flag ty y = true) (hn : needE y ≤ ctx) (hsx : shapeE s ty x = true) (rest : Bytes) :
    mergeE s (recurOf s ctx) ty x (wtOf ty) (payE s flag ty y ++ rest) = .ok (mergeValE s ty x y, rest) := by
  cases y with
  | s yv =>
    cases ty with
    | scalar c =>
      have hy := Bool.and_eq_true_iff.mp hy
      simp only [mergeE, wtOf, payE, Codec.merge_enc c yv hy.1 ((lenOk_iff yv).mp hy.2) rest, mergeValE]
    | msg i => cases hy
  | msg ys =>
    cases ty with
    | scalar c => cases hy
    | msg i =>
      cases x with
      | s xv => cases hsx
      | msg xs =>
        simp only [okE, Bool.and_eq_true, decide_eq_true_eq] at hy
        simp only [needE] at hn
        obtain ⟨c, rfl⟩ : ∃ c, ctx = c + 1 := ⟨ctx - 1, by omega⟩
        have hdw := decls_wf s hs i
        have hlen : (flat (recsSlots s flag (decls s i) ys)).length < 2 ^ 64 := by
          rw [flat_recsSlots s flag hs _ ys hy.1, ← lenSlots_eq s flag hs _ hdw.1 ys hy.1]; exact hy.2
        have := mergeLoop_flat s c (decls s i) _ xs _ rest
          (fun r hr => wf_tags_ok _ _ hdw.1 _ (recsSlots_tags s flag _ _ r hr).1)
          (foldRecs_recsSlots s flag hs c (decls s i) ys xs hdw.1 hdw.2 hy.1 (by omega) hsx) hlen
        simp only [mergeE, wtOf, checkWireType, if_true, recurOf, EVal.fields, payE_msg s flag hs i ys hy.1, this, mergeValE]
termination_by structural y
theorem foldSlot_recs (s : Schema) (flag : Bool) (hs : WFSchema s = true) (d : FieldDecl) (hd : d.wfIn s.length = true) (m y : Slot)
    (ctx : Nat) (hy : okSlot s flag d y = true) (hn : needSlot y ≤ ctx) (hsm : shapeSlot s d m = true) :
    foldSlot s (recurOf s ctx) d m (recsSlot s flag d y) = .ok (mergeValSlot s d m y) := by
  cases y with
  | req yv =>
    obtain ⟨t, ty, rfl, hy⟩ := okSlot_req hy
    obtain ⟨xv, rfl, hsm⟩ := shapeSlot_req hsm
    have := mergeE_pay s flag hs ty xv yv ctx hy hn hsm []
    simp only [List.append_nil] at this
    simp only [recsSlot, foldSlot, applySlot, recE, mergeSlot, this, mergeValSlot]
  | none => rcases okSlot_none hy with ⟨t, ty, rfl⟩ | ⟨vs, rfl⟩ <;> rfl
  | some yv =>
    obtain ⟨t, ty, rfl, hy⟩ := okSlot_some hy
    have := mergeE_pay s flag hs ty (optCur s ty m) yv ctx hy hn (shape_optCur s hs t ty m hsm) []
    simp only [List.append_nil] at this
    simp only [recsSlot, foldSlot, applySlot, recE, mergeSlot, this, mergeValSlot]
  | rep ys =>
    obtain ⟨t, ty, rfl, hy⟩ := okSlot_rep hy
    obtain ⟨xs, rfl, _⟩ := shapeSlot_rep hsm
    exact foldSlot_recsEs s flag hs t ty ctx ys xs hy hn
  | map kvs =>
    obtain ⟨t, kc, vty, rfl, hy, _⟩ := okSlot_map hy
    obtain ⟨xs, rfl, _⟩ := shapeSlot_map hsm
    simp only [FieldDecl.wfIn, Bool.and_eq_true] at hd
    exact foldSlot_recsPairs s flag hs t kc hd.1.2 vty ctx kvs xs hy hn
  | one t yv =>
    obtain ⟨vs, ty, rfl, hl, hy⟩ := okSlot_one hy
    have := mergeE_pay s flag hs ty (oneCur s ty t m) yv ctx hy hn (shape_oneCur s hs vs t ty hl m hsm) []
    simp only [List.append_nil] at this
    simp only [recsSlot, hl, foldSlot, applySlot, recE, mergeSlot, this, mergeValSlot]
termination_by structural y
theorem foldRecs_recsSlots (s : Schema) (flag : Bool) (hs : WFSchema s = true) (ctx : Nat) (ds : List FieldDecl) (ys M : Slots)
    (hwf : ds.all (FieldDecl.wfIn s.length) = true) (hnd : nodup (allTags ds) = true) (hy : okSlots s flag ds ys = true)
    (hn : needSlots ys ≤ ctx) (hM : shapeSlots s ds M = true) :
    foldRecs s (recurOf s ctx) ctx ds M (recsSlots s flag ds ys) = .ok (mergeValSlots s ds M ys) := by
  cases ys with
  | nil =>
    cases ds with
    | nil => cases M <;> first | rfl | cases hM
    | cons d ds => cases hy
  | cons y ys =>
    cases ds with
    | nil => cases hy
    | cons d ds =>
      cases M with
      | nil => cases hM
      | cons m M' =>
        simp only [List.all_cons, Bool.and_eq_true] at hwf
        have hy := Bool.and_eq_true_iff.mp hy
        have hM := Bool.and_eq_true_iff.mp hM
        simp only [needSlots] at hn
        have hf := filter_slot s flag d ds y ys hnd
        refine foldRecs_split _ _ _ _ _ _ _ _ _ _ ?_ ?_
        · rw [hf.1]; exact foldSlot_recs s flag hs d hwf.1 m y ctx hy.1 (by omega) hM.1
        · rw [hf.2]; exact foldRecs_recsSlots s flag hs ctx ds ys M' hwf.2 (nodup_tail d ds hnd) hy.2 (by omega) hM.2
termination_by structural ys
theorem foldSlot_recsEs (s : Schema) (flag : Bool) (hs : WFSchema s = true) (t : Nat) (ty : FTy) (ctx : Nat)
    (ys xs : EVals) (hy : okEs s flag ty ys = true) (hn : needEs ys ≤ ctx) :
    foldSlot s (recurOf s ctx) (.rep t ty) (.rep xs) (recsEs s flag t ty ys) = .ok (.rep (xs.append ys)) := by
  cases ys with
  | nil => simp [recsEs, foldSlot, EVals.append_nil]
  | cons y ys =>
    have hy := Bool.and_eq_true_iff.mp hy
    simp only [needEs] at hn
    have hm : mergeSlot s (recurOf s ctx) (.rep t ty) (.rep xs) t (wtOf ty) (payE s flag ty y) = .ok (.rep (xs.append (.cons y .nil)), []) := by
      cases ty with
      | scalar c =>
        cases y with
        | s yv =>
          have hy := Bool.and_eq_true_iff.mp hy.1
          exact mergeSlot_rep_one s _ t t xs hy.1 ((lenOk_iff yv).mp hy.2)
        | msg fs => cases hy.1
      | msg i =>
        have h1 := mergeE_pay s flag hs (.msg i) (defaultE s (.msg i)) y ctx hy.1 (by omega) (shape_defaultE s hs _) []
        simp only [wtOf, List.append_nil] at h1
        simp only [mergeSlot, wtOf, checkWireType, if_true, h1,
          mergeValE_default s flag hs (.msg i) _ y (exactDefault_defaultE s _) (shape_defaultE s hs _) hy.1]
        rfl
    simp only [recsEs, foldSlot, applySlot, recE, hm]
    rw [foldSlot_recsEs s flag hs t ty ctx ys _ hy.2 (by omega), EVals.append_assoc]
    rfl
termination_by structural ys
theorem foldSlot_recsPairs (s : Schema) (flag : Bool) (hs : WFSchema s = true) (t : Nat) (kc : Codec) (hkc : kc.isKey = true) (vty : FTy)
    (ctx : Nat) (kvs xs : Pairs) (hy : okPairs s flag kc vty kvs = true) (hn : needPairs kvs ≤ ctx) :
    foldSlot s (recurOf s ctx) (.map t kc vty) (.map xs) (recsPairs s flag t kc vty kvs) = .ok (.map (insertAll xs kvs)) := by
  cases kvs with
  | nil => rfl
  | cons k v r =>
    obtain ⟨hk, hkl, hve, hdef, hlen, hr⟩ := okPairs_cons hy
    simp only [needPairs] at hn
    obtain ⟨c, rfl⟩ : ∃ c, ctx = c + 1 := ⟨ctx - 1, by omega⟩
    refine (foldSlot_cons (mergeSlot_entry s c t t kc vty xs _ k v (entryRecs_tags s flag kc vty k v)
      (by rw [entry_len s flag hs kc vty k v hkl hve]; exact hlen) ?_ ?_)).trans
      (foldSlot_recsPairs s flag hs t kc hkc vty (c + 1) r _ hr (by omega))
    -- the key: its record through the scalar module, or the default it is equal to
    · rw [entryRecs_key]
      split
      · rename_i h; exact .inr ⟨rfl, congrArg EVal.s (key_default kc k hkc hk (Bool.and_eq_true_iff.mp h).2).symm⟩
      · have hm := Codec.merge_enc kc k hk hkl []
        rw [List.append_nil] at hm
        exact .inl ⟨_, rfl, by simp only [mergeE, hm]⟩
    -- the value: its record through `message::merge` / the scalar module one level down, or the default it is
    · rw [entryRecs_val]
      split
      · rename_i h
        have h := Bool.and_eq_true_iff.mp h
        rcases hdef with h' | h' | h'
        · simp [h'] at h
        · simp [h'] at h
        · exact .inr ⟨rfl, h'.symm⟩
      · have hm := mergeE_pay s flag hs vty (defaultE s vty) v c hve (by omega) (shape_defaultE s hs vty) []
        rw [mergeValE_default s flag hs vty _ v (exactDefault_defaultE s vty) (shape_defaultE s hs vty) hve, List.append_nil] at hm
        exact .inl ⟨_, rfl, hm⟩
termination_by structural kvs
end

theorem loop_slot (s : Schema) (flag : Bool) (hs : WFSchema s = true) (d : FieldDecl) (hd : d.wfIn s.length = true) (m y : Slot)
    (ctx : Nat) (hy : okSlot s flag d y = true) (hn : needSlot y ≤ ctx) (hsm : shapeSlot s d m = true) (B : Bytes) (f : Nat)
    (hf : (encSlot s flag d y ++ B).length < f) :
    mergeLoopGo (slotStep s (recurOf s ctx) d) f m (encSlot s flag d y ++ B) B.length = .ok (mergeValSlot s d m y, B) := by
  obtain ⟨f, rfl⟩ : ∃ g, f = g + 1 := ⟨f - 1, by omega⟩
  rw [← flat_recsSlot s flag hs d y hy] at hf ⊢
  exact foldSlot_loop s ctx d _ m _ (fun r hr => have ht := (recsSlot_tags s flag d y r hr).1; ⟨wfIn_tags_ok hd _ ht, ht⟩)
    (foldSlot_recs s flag hs d hd m y ctx hy hn hsm) B f (by omega)

theorem loop_rep (s : Schema) (flag : Bool) (hs : WFSchema s = true) (t : Nat) (ht : tagOk t = true) (ty : FTy)
    (hty : ty.wfIn s.length = true) (xs ys : EVals) (ctx : Nat) (hy : okEs s flag ty ys = true) (hn : needEs ys ≤ ctx)
    (B : Bytes) (f : Nat) (hf : (encEs s flag t ty ys ++ B).length < f) :
    mergeLoopGo (slotStep s (recurOf s ctx) (.rep t ty)) f (.rep xs) (encEs s flag t ty ys ++ B) B.length
      = .ok (.rep (xs.append ys), B) := by
  obtain ⟨f, rfl⟩ : ∃ g, f = g + 1 := ⟨f - 1, by omega⟩
  rw [← flat_recsEs s flag t ty ys hy] at hf ⊢
  exact foldSlot_loop s ctx _ _ _ _ (fun r hr => by rw [(recsEs_tags s flag t ty ys r hr).1]; exact ⟨ht, by simp [FieldDecl.tags]⟩)
    (foldSlot_recsEs s flag hs t ty ctx ys xs hy hn) B f (by omega)

theorem loop_map (s : Schema) (flag : Bool) (hs : WFSchema s = true) (t : Nat) (ht : tagOk t = true) (kc : Codec)
    (hkc : kc.isKey = true) (vty : FTy) (hvty : vty.wfIn s.length = true) (xs kvs : Pairs) (ctx : Nat)
    (hy : okPairs s flag kc vty kvs = true) (hn : needPairs kvs ≤ ctx) (B : Bytes) (f : Nat)
    (hf : (encPairs s flag t kc vty kvs ++ B).length < f) :
    mergeLoopGo (slotStep s (recurOf s ctx) (.map t kc vty)) f (.map xs) (encPairs s flag t kc vty kvs ++ B) B.length
      = .ok (.map (insertAll xs kvs), B) := by
  obtain ⟨f, rfl⟩ : ∃ g, f = g + 1 := ⟨f - 1, by omega⟩
  rw [← flat_recsPairs s flag hs t kc vty kvs hy] at hf ⊢
  exact foldSlot_loop s ctx _ _ _ _ (fun r hr => by rw [(recsPairs_tags s flag t kc vty kvs r hr).1]; exact ⟨ht, by simp [FieldDecl.tags]⟩)
    (foldSlot_recsPairs s flag hs t kc hkc vty ctx kvs xs hy hn) B f (by omega)

end Pilota.Proto
