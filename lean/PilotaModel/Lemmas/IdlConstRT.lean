import PilotaModel.Lemmas.IdlConstFollow
/-
  C15: `const_rt` — constant values are read back from every rendering.  The statement for a value is
  proved together with the statement for every element of a list and of a list of pairs, by structural
  recursion over the three; the two bracket forms are two instances of `Reads.Loop`.
-/
namespace Pilota.Idl

theorem constValue_close_err (d : Nat) {c : Char} (hc : c = ']' ∨ c = '}') (R : List Char) :
    ConstValue.parse (d + 1) (c :: R) = .err := by
  unfold ConstValue.parse
  rcases hc with h | h <;> subst h <;> exact First.err_cons rfl _

theorem constElems_loop {d : Nat} {xs : List ConstValue}
    (h : ∀ x ∈ xs, x.wf = true ∧ Reads (ConstValue.parse (d + 1)) (rConst x) (ConstFollow x) (Exact x)) :
    Reads.Loop (andThen (opt blank) fun _ => andThen (ConstValue.parse (d + 1)) fun e => andThen (opt blank) fun _ =>
      andThen (opt listSeparator) fun _ => ret e) rConstElem Eq BT ElemAfter ']' xs where
  step x hx last _ hbl := by
    unfold rConstElem
    exact (Reads.optBlankLit hbl (.const (h x hx).1) <| .seq (h x hx).2 .constTail <|
      .tail (fun _ h => ⟨h.1.1, h.1.2.1⟩) (.done ⟨rfl, rfl⟩)).loopStep BT .nil
  start x hx last := (rConst_elemStarts (h x hx).1).seq.mono fun _ h => ⟨h, fun h => by cases h⟩
  atClose T := elemFollow_close (.inl rfl) T
  stop _ T hbl := by rw [andThen_optBlank hbl rfl]; exact andThen_of_err (constValue_close_err d (.inl rfl) T)

theorem constPairs_loop {d : Nat} {kvs : List (ConstValue × ConstValue)}
    (h : ∀ kv ∈ kvs, (kv.1.wf = true ∧ Reads (ConstValue.parse (d + 1)) (rConst kv.1) (ConstFollow kv.1) (Exact kv.1)) ∧
      (kv.2.wf = true ∧ Reads (ConstValue.parse (d + 1)) (rConst kv.2) (ConstFollow kv.2) (Exact kv.2))) :
    Reads.Loop (andThen (opt blank) fun _ => andThen (ConstValue.parse (d + 1)) fun k => andThen (opt blank) fun _ =>
      andThen (tag [':']) fun _ => andThen (opt blank) fun _ => andThen (ConstValue.parse (d + 1)) fun v =>
      andThen (opt blank) fun _ => andThen (opt listSeparator) fun _ => ret (k, v)) rConstPair Eq BT ElemAfter '}' kvs where
  step kv hkv last _ hbl := by
    unfold rConstPair
    exact (Reads.optBlankLit hbl (.const (h kv hkv).1.1) <|
      .seq (h kv hkv).1.2 (.constFollow (fun _ => .sep_lit rfl) (.ahead_lit rfl fun _ => rfl)) <| .optBlank (.lit rfl) <| .lit <|
      .optBlank (.const (h kv hkv).2.1) <| .seq (h kv hkv).2.2 .constTail <|
      .tail (fun _ h => ⟨h.1.1, h.1.2.1⟩) (.done ⟨rfl, rfl⟩)).loopStep BT .nil
  start kv hkv last := (rConst_elemStarts (h kv hkv).1.1).seq.mono fun _ h => ⟨h, fun h => by cases h⟩
  atClose T := elemFollow_close (.inr rfl) T
  stop _ T hbl := by rw [andThen_optBlank hbl rfl]; exact andThen_of_err (constValue_close_err d (.inr rfl) T)

mutual
theorem const_rt : (c : ConstValue) → c.wf = true → c.supported = true → (d : Nat) → c.depth < d → (l : Layout) →
    (r : List Char) → ConstFollow c r → ConstValue.parse d ((rConst c l).1 ++ r) = .ok c r := fun c hw hs d hd l r hf => by
  obtain ⟨d, rfl⟩ : ∃ d', d = d' + 1 := ⟨d - 1, by omega⟩
  match c with
  | .string t =>
    simp only [ConstValue.wf] at hw
    unfold ConstValue.parse
    exact alt_cons_of_ok (pmap_of_ok (by simp only [rConst]; exact rLiteral_rt hw l r))
  | .bool true =>
    simp only [rConst, rLit_fst, if_true]
    unfold ConstValue.parse
    exact First.alt_skip (alt_cons_of_ok (keyword_rt hf))
  | .bool false =>
    simp only [rConst, rLit_fst, Bool.false_eq_true, if_false]
    unfold ConstValue.parse
    exact First.alt_skip <| First.alt_skip <| alt_cons_of_ok (keyword_rt hf)
  | .path p =>
    simp only [ConstValue.wf, Bool.and_eq_true, bne_iff_ne, ne_eq] at hw
    obtain ⟨s, rest, hs, hhead, e, hrest⟩ := rPath_cons hw.1.1 l
    have hr' := hrest r hf.1
    have hpath := path_rt hw.1.1 l hf.1 hf.2
    simp only [rConst] at hpath ⊢
    rw [e, List.append_assoc] at hpath ⊢
    obtain ⟨c0, cs, rfl, hc0, _⟩ := identOk_cons hs
    unfold ConstValue.parse
    refine First.alt_skip (hc := by
      rw [beq_false_of_ne (ne_of_class hc0 rfl), beq_false_of_ne (ne_of_class hc0 rfl)]; rfl) ?_
    show alt _ ((c0 :: cs) ++ (rest ++ r)) = _
    rw [alt_cons_of_err (keyword_word_err (by decide) (identOk_all hs) hr' (by rw [← hhead]; exact hw.1.2)),
      alt_cons_of_err (keyword_word_err (by decide) (identOk_all hs) hr' (by rw [← hhead]; exact hw.2))]
    exact alt_cons_of_ok (pmap_of_ok hpath)
  | .int n =>
    simp only [ConstValue.wf] at hw
    simp only [rConst, rLit_fst]
    have hhead : ∃ c0 x, intText n ++ r = c0 :: x ∧ (isDecDigit c0 = true ∨ c0 = '-') := by
      unfold intText; split
      · exact ⟨'-', _, rfl, Or.inr rfl⟩
      · obtain ⟨c0, cs, e, hc⟩ := decDigits_head n.toNat
        exact ⟨c0, cs ++ r, by rw [e]; rfl, Or.inl hc⟩
    obtain ⟨c0, x, e, hc0⟩ := hhead
    obtain ⟨q1, q2, q3, q4⟩ := numHead_not_word (c := c0) (hc0.elim (fun h => .inr (.inr (.inr h))) .inl)
    have hint : IntConstant.parse (intText n ++ r) = .ok n r := intConstant_rt hw hf
    have hdbl := double_err_int (n := n) hf
    unfold ConstValue.parse
    rw [e] at hint hdbl ⊢
    exact First.alt_skip (hc := q1) <| First.alt_skip (hc := q2) <| First.alt_skip (hc := q3) <| First.alt_skip (hc := q4) <|
      (alt_cons_of_err (pmap_of_err hdbl)).trans <| alt_cons_of_ok (pmap_of_ok hint)
  | .double t =>
    simp only [ConstValue.wf] at hw
    simp only [rConst, rLit_fst]
    obtain ⟨c0, x0, e, hc0⟩ := double_head hw
    have hdr := double_rt hw hf
    obtain ⟨q1, q2, q3, q4⟩ := numHead_not_word hc0
    unfold ConstValue.parse
    rw [e] at hdr ⊢
    exact First.alt_skip (hc := q1) <| First.alt_skip (hc := q2) <| First.alt_skip (hc := q3) <| First.alt_skip (hc := q4) <|
      alt_cons_of_ok (pmap_of_ok hdr)
  | .list xs =>
    simp only [ConstValue.wf] at hw
    simp only [ConstValue.depth] at hd
    obtain ⟨d', rfl⟩ : ∃ d', d = d' + 1 := ⟨d - 1, by omega⟩
    refine Reads.exact (F := fun _ => True) (.seqNil ?_) l trivial
    unfold ConstValue.parse rConst
    rw [rConstElems_slots]
    simp only [rSeq_assoc]
    exact .altFirst <| .altFirst <| .altFirst <| .altFirst <| .altFirst <| .altFirst <|
      .altHere <| .lit <| .blankLit fun _ hbl =>
      .many0 (constElems_loop (const_rt_list xs hw (d' + 1) (by omega))) hbl (fun _ _ _ h => Reads.closeK rfl h) fun ys h => by
        rw [← All2.eq h]; exact .done ⟨rfl, rfl⟩
  | .map kvs =>
    simp only [ConstValue.wf] at hw
    simp only [ConstValue.depth] at hd
    obtain ⟨d', rfl⟩ : ∃ d', d = d' + 1 := ⟨d - 1, by omega⟩
    refine Reads.exact (F := fun _ => True) (.seqNil ?_) l trivial
    unfold ConstValue.parse rConst
    rw [rConstPairs_slots]
    simp only [rSeq_assoc]
    exact .altFirst <| .altFirst <| .altFirst <| .altFirst <| .altFirst <| .altFirst <| .altFirst <|
      .altHere <| .lit <| .blankLit fun _ hbl =>
      .many0 (constPairs_loop (const_rt_pairs kvs hw (d' + 1) (by omega))) hbl (fun _ _ _ h => Reads.closeK rfl h) fun ys h => by
        rw [← All2.eq h]; exact .done ⟨rfl, rfl⟩
termination_by structural c => c
theorem const_rt_list (xs : List ConstValue) (hw : ConstValue.wfList xs = true) (d : Nat) (hd : ConstValue.depthList xs < d) :
    ∀ x ∈ xs, x.wf = true ∧ Reads (ConstValue.parse d) (rConst x) (ConstFollow x) (Exact x) := by
  match xs with
  | [] => exact fun _ h => nomatch h
  | y :: ys =>
    simp only [ConstValue.wfList, Bool.and_eq_true] at hw
    simp only [ConstValue.depthList] at hd
    intro x hx
    rcases List.mem_cons.mp hx with h | hx
    · rw [h]; exact ⟨hw.1, .of_exact fun l r hf => const_rt y hw.1 (cv_supported y) d (by omega) l r hf⟩
    · exact const_rt_list ys hw.2 d (by omega) x hx
termination_by structural xs
theorem const_rt_pairs (kvs : List (ConstValue × ConstValue)) (hw : ConstValue.wfPairs kvs = true) (d : Nat)
    (hd : ConstValue.depthPairs kvs < d) :
    ∀ kv ∈ kvs, (kv.1.wf = true ∧ Reads (ConstValue.parse d) (rConst kv.1) (ConstFollow kv.1) (Exact kv.1)) ∧
      (kv.2.wf = true ∧ Reads (ConstValue.parse d) (rConst kv.2) (ConstFollow kv.2) (Exact kv.2)) := by
  match kvs with
  | [] => exact fun _ h => nomatch h
  | (k, v) :: ys =>
    simp only [ConstValue.wfPairs, Bool.and_eq_true] at hw
    simp only [ConstValue.depthPairs] at hd
    intro kv hkv
    rcases List.mem_cons.mp hkv with h | hkv
    · rw [h]; exact ⟨⟨hw.1.1, .of_exact fun l r hf => const_rt k hw.1.1 (cv_supported k) d (by omega) l r hf⟩,
        ⟨hw.1.2, .of_exact fun l r hf => const_rt v hw.1.2 (cv_supported v) d (by omega) l r hf⟩⟩
    · exact const_rt_pairs ys hw.2 d (by omega) kv hkv
termination_by structural kvs
end

end Pilota.Idl
