import PilotaModel.Lemmas.Varint
import PilotaModel.Thrift.Len
/-  The length calculation agrees, op by op, with the bytes the writers append. -/
namespace Pilota.Thrift.Len
open Pilota Pilota.Thrift Pilota.Thrift.Compact

theorem binOp_eq_wOp_length (e : Endian) (o : Op) (hwf : o.wf = true) : binOp o = (Binary.wOp e o).length := by
  cases o with
  | uuid bs => exact (of_decide_eq_true hwf : bs.length = 16).symm
  | _ => simp only [binOp, Binary.wOp, List.length_cons, List.length_append, List.length_nil, Binary.i, encFixed_length] <;> omega

theorem binLen_eq_run_length (e : Endian) (ops : List Op) (hwf : ∀ o ∈ ops, o.wf = true) : binLen ops = (Binary.run e ops).length := by
  induction ops with
  | nil => rfl
  | cons o os ih =>
    simp only [binLen, List.map_cons, List.sum_cons, Binary.run, List.flatMap_cons, List.length_append] at *
    rw [binOp_eq_wOp_length e o (hwf o (by simp)), ih (fun o ho => hwf o (by simp [ho]))]

theorem fieldHeader_length (last : Int) (ct : Nat) (id : Int) :
    (fieldHeader last ct id).length = fieldHeaderLen last id := by
  unfold fieldHeader fieldHeaderLen
  dsimp only
  split
  · rfl
  · rw [List.length_cons, encVar_length, Nat.add_comm]

theorem collHeader_length (ct n : Nat) : (collHeader ct n).length = if n ≤ 14 then 1 else 1 + varLen (n % 2 ^ 32) := by
  unfold collHeader
  split
  · rfl
  · rw [List.length_cons, encVar_length, Nat.add_comm]

theorem len_sim (s : CW) (o : Op) (hwf : o.wf = true) (s' : CW) (b : Bytes) (h : wStep s o = .ok (s', b)) :
    cmpStep s o = .ok (s', b.length) := by
  cases o with
  | structBegin | listEnd | setEnd | mapEnd => cases h; rfl
  | i8 n => cases h; rfl
  | dbl n => cases h; simp only [cmpStep, encFixed_length]
  | i16 n | i32 n | i64 n => cases h; simp only [cmpStep, encVar_length]
  | uuid bs => cases h; simp only [cmpStep, (of_decide_eq_true hwf : b.length = 16)]
  | bytes bs => cases h; simp only [cmpStep, List.length_append, encVar_length]
  | msgBegin name mt seq => cases h; simp only [cmpStep, List.length_append, List.length_cons, List.length_nil, encVar_length]
  | structEnd =>
    simp only [wStep, cmpStep] at h ⊢
    split at h
    · cases h
    · rename_i hp; simp only [hp]
      cases hst : s.stack <;> simp [hst] at h ⊢
      obtain ⟨rfl, rfl⟩ := h; simp
  | fieldEnd | msgEnd | fieldStop =>
    simp only [wStep, cmpStep] at h ⊢
    split at h <;> cases h
    rename_i hp; rw [if_neg hp]; rfl
  | fieldBegin t id =>
    simp only [wStep, cmpStep] at h ⊢
    split at h
    · rename_i ht; rw [if_pos ht]
      split at h <;> cases h
      rename_i hp; rw [if_neg hp]; rfl
    · rename_i ht; rw [if_neg ht]
      split at h <;> cases h
      rename_i hc; simp only [hc, fieldHeader_length]
  | bool bv =>
    simp only [wStep, cmpStep] at h ⊢
    split at h <;> cases h <;> rename_i hp <;> simp only [hp, fieldHeader_length, List.length_singleton]
  | listBegin et n | setBegin et n =>
    simp only [wStep, cmpStep] at h ⊢
    split at h <;> cases h
    rename_i hc; simp only [hc, collHeader_length]
  | mapBegin kt vt n =>
    simp only [wStep, cmpStep] at h ⊢
    split at h
    · rename_i hn; cases h; rw [if_pos hn]; rfl
    · rename_i hn; rw [if_neg hn]
      split at h <;> cases h
      rename_i hk hv; simp only [hk, hv, List.length_append, encVar_length, List.length_singleton]
end Pilota.Thrift.Len
