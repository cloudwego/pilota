import PilotaModel.Lemmas.IdlConstDef
/-
  C15: a field.  What `Field::parse` returns for a function argument depends on the layout (the keyword of a `required`
  argument may be left out, and the parser then reads the default), so the steps up to the requiredness are stated at a
  layout (`attrPart_rt`, with the value `fieldRead`); from the type on a field is a chain of rules, and the loops over
  fields use only the relation `FieldRel` between the field rendered and the field read.
-/
namespace Pilota.Idl

def Field.depth (f : Field) : Nat := max f.ty.depth (match f.dflt with | none => 0 | some v => v.depth)
def Field.supported (f : Field) : Bool := match f.dflt with | none => true | some v => v.supported

/-- what a field needs of the text after its tail: the next field (a digit) or a closing bracket -/
def FieldFollow (R : List Char) : Prop :=
  NB R ∧ NoSepStart R ∧ hdP (fun c => c != '(') R = true ∧ hdP (fun c => c != '=') R = true ∧
  hdP (fun c => c != '.') R = true

theorem rAttr_NB (argMode : Bool) (a : Attribute) (l : Layout) {X : List Char} (hX : NB X) : NB ((rAttr argMode a l).1 ++ X) := by
  cases a with
  | optional => simp only [rAttr, rSeq_fst, rLit_fst, List.append_assoc]; rw [NB]; rfl
  | required =>
    simp only [rAttr]
    cases argMode with
    | false => simp only [Bool.false_eq_true, if_false, rSeq_fst, rLit_fst, List.append_assoc]; rw [NB]; rfl
    | true =>
      simp only [if_true, rWith_fst]
      cases l.pop.1.flag with
      | true => simpa using hX
      | false => simp only [Bool.false_eq_true, if_false, rSeq_fst, rLit_fst, List.append_assoc]; rw [NB]; rfl
  | default => simpa [rAttr] using hX

theorem attribute_err_type {t : TypeA} (hw : t.wf = true) (h1 : t.headIs cs!"required" = false)
    (h2 : t.headIs cs!"optional" = false) (l : Layout) (x : List Char)
    (hx : t.endsOpen = true → hdP (fun c => !isIdentChar c) x = true) :
    Attribute.parse ((rType t l).1 ++ x) = .err := by
  obtain ⟨w, rest, e, hw', hrest, hor, _⟩ := rType_firstWord hw l x hx
  have hne : ∀ kw, t.headIs kw = false → kw ∉ typeWords → (w == kw) = false := by
    intro kw hk hk'
    rw [beq_eq_false_iff_ne]; rintro rfl
    rcases hor with h | h
    · exact hk' h
    · rw [h] at hk; cases hk
  rw [e]
  exact alt_keywords_none hw' hrest [] [(cs!"required", Attribute.required), (cs!"optional", .optional)] (by decide)
    (by simp only [List.lookup, hne _ h1 (by decide), hne _ h2 (by decide)])

/-- the attribute read back for a rendered one: `none` when nothing was printed -/
def attrOpt (argMode : Bool) (a : Attribute) (l : Layout) : Option Attribute :=
  match a with
  | .optional => some .optional
  | .required => if argMode && l.pop.1.flag then none else some .required
  | .default => none

theorem attrPart_rt {α} (K : Option Attribute → P α) (argMode : Bool) (a : Attribute) (l : Layout) {X : List Char}
    (hX : NB X) (herr : attrOpt argMode a l = none → Attribute.parse X = .err) :
    (andThen (opt Attribute.parse) fun attr => andThen (opt blank) fun _ => K attr) ((rAttr argMode a l).1 ++ X) =
      K (attrOpt argMode a l) X := by
  have hnone : attrOpt argMode a l = none →
      (andThen (opt Attribute.parse) fun attr => andThen (opt blank) fun _ => K attr) X = K none X := by
    intro h
    rw [andThen_of_ok (opt_of_err (herr h)), andThen_of_ok (opt_of_err (blank_err hX))]
  have hreq : ∀ l', (andThen (opt Attribute.parse) fun attr => andThen (opt blank) fun _ => K attr)
      (cs!"required" ++ ((rB1 l').1 ++ X)) = K (some .required) X := by
    intro l'
    have : Attribute.parse (cs!"required" ++ ((rB1 l').1 ++ X)) = .ok .required ((rB1 l').1 ++ X) := by
      unfold Attribute.parse
      exact alt_cons_of_ok (keyword_rt ((rB1_BT l').sep_append (Or.inl (rB1_ne l'))))
    rw [andThen_of_ok (opt_of_ok this), andThen_optBlank (rB1_BT l') hX]
  cases a with
  | optional =>
    simp only [rAttr, rSeq_fst, rLit_fst, rLit_snd, List.append_assoc, attrOpt]
    have : Attribute.parse (cs!"optional" ++ ((rB1 l).1 ++ X)) = .ok .optional ((rB1 l).1 ++ X) := by
      unfold Attribute.parse
      rw [alt_cons_of_err (show keyword _ _ _ = .err from andThen_of_err (by simp [tag, stripPrefix]))]
      exact alt_cons_of_ok (keyword_rt ((rB1_BT l).sep_append (Or.inl (rB1_ne l))))
    rw [andThen_of_ok (opt_of_ok this), andThen_optBlank (rB1_BT l) hX]
  | required =>
    simp only [rAttr, attrOpt]
    cases argMode with
    | false => simp only [Bool.false_eq_true, if_false, rSeq_fst, rLit_fst, rLit_snd, List.append_assoc, Bool.false_and]; exact hreq l
    | true =>
      simp only [if_true, rWith_fst, Bool.true_and]
      cases hf : l.pop.1.flag with
      | true => simp only [if_true, rLit_fst, List.nil_append]; exact hnone (by simp [attrOpt, hf])
      | false => simp only [Bool.false_eq_true, if_false, rSeq_fst, rLit_fst, rLit_snd, List.append_assoc]; exact hreq _
  | default => simp only [rAttr, rLit_fst, List.nil_append, attrOpt]; exact hnone rfl

/-- the field that `Field::parse` returns for a rendered field: in an argument list an omitted
`required` is read as no requiredness (function.rs turns it back into `required`).
`(rB0 (rB0 l).2).2` is the layout after the two blanks around the `:`, where `rAttr` takes its choice. -/
def fieldRead (argMode : Bool) (f : Field) (l : Layout) : Field :=
  { f with attr := (attrOpt argMode f.attr ((rB0 (rB0 l).2).2)).getD .default }

theorem fieldId_rt {id : Int} (h0 : 0 ≤ id) (h1 : id ≤ i32Max) {b x : List Char} (hb : BT b) :
    mapRes (andThen digit1 fun id => andThen (opt blank) fun _ => andThen (tag [':']) fun _ => ret id) parseI32Dec
      (decDigits id.toNat ++ (b ++ ([':'] ++ x))) = .ok id x := by
  obtain ⟨hne, hd, _⟩ := decDigits_spec id.toNat
  have hfol : hdP (fun c => !isDecDigit c) (b ++ ([':'] ++ x)) = true :=
    (hb.sep_append (Or.inr rfl)).noDigit
  have : (andThen digit1 fun id => andThen (opt blank) fun _ => andThen (tag [':']) fun _ => ret id)
      (decDigits id.toNat ++ (b ++ ([':'] ++ x))) = .ok (decDigits id.toNat) x := by
    rw [andThen_of_ok (digit1_rt hne hd hfol), andThen_optBlank hb rfl,
      andThen_of_ok (tag_append _ _)]
    rfl
  unfold mapRes
  rw [this]
  simp only [PR.bind, fieldId_digits h0 h1]

theorem fieldFollow_props {R : List Char} (h : FieldFollow R) :
    SplitNot '=' R ∧ SplitNot '.' R := ⟨splitNot_of h.1 h.2.2.2.1, splitNot_of h.1 h.2.2.2.2⟩

abbrev FieldAfter := After FieldFollow

theorem FieldFollow.punct {T : List Char} (h : FieldFollow T) : NB T ∧ NoSepStart T ∧ Hd (· != '(') T := ⟨h.1, h.2.1, h.2.2.1⟩

def rFieldRest (f : Field) (last : Bool) : R :=
  rType f.ty +> rGap f.ty.endsOpen +> rLit f.name +>
  (match f.dflt with
   | none => rLit []
   | some v => rB0 +> rLit ['='] +> rB0 +> rConst v) +>
  rOptAnns f.annotations +> rTail f.endsOpen last

theorem rField_eq (argMode : Bool) (f : Field) (last : Bool) :
    rField argMode f last = rLit (decDigits f.id.toNat) +> rB0 +> rLit [':'] +> rB0 +> rAttr argMode f.attr +> rFieldRest f last := rfl

theorem field_step {d : Nat} {f : Field} (hw : f.wf = true) (hd : f.depth < d)
    (argMode : Bool) (last : Bool) (l : Layout)
    (hhead : attrOpt argMode f.attr ((rB0 (rB0 l).2).2) = none →
      f.ty.headIs cs!"required" = false ∧ f.ty.headIs cs!"optional" = false)
    {bl R : List Char} (hbl : BT bl) (hR : FieldFollow R) (hlast : last = true → Sep R) :
    skip (opt blank) (Field.parse d) (bl ++ ((rField argMode f last l).1 ++ R)) = .ok (fieldRead argMode f l) R := by
  obtain ⟨id, name, attr, ty, dflt, anns⟩ := f
  simp only [Field.wf, Bool.and_eq_true, decide_eq_true_eq] at hw
  obtain ⟨⟨⟨⟨⟨⟨⟨h0, h1⟩, hname⟩, hty⟩, hdf⟩, han⟩, hcpp⟩, _⟩ := hw
  simp only [Field.depth] at hd
  have hdig : ∀ x, NB (decDigits id.toNat ++ x) := by
    intro x
    obtain ⟨c0, cs, e, hc⟩ := decDigits_head id.toNat
    rw [e]; exact (digit_props hc).1
  have hgap : ∀ l1, (rGap ty.endsOpen l1).1 ≠ [] ∨ ty.endsOpen = false := by
    intro l1
    cases ho : ty.endsOpen with
    | true => exact Or.inl (rGap_ne rfl _)
    | false => exact Or.inr rfl
  have hrest : ∀ l', NB ((rFieldRest ⟨id, name, attr, ty, dflt, anns⟩ last l').1 ++ R) := fun l' => ((rType_starts hty).seq l').2 R
  rw [rField_eq]
  simp only [rSeq_fst, rLit_fst, rLit_snd, List.append_assoc]
  rw [skip_of_ok (optBlank_rt hbl (hdig _))]
  unfold Field.parse Type.parse
  rw [andThen_of_ok (fieldId_rt h0 h1 (rB0_BT _)), andThen_optBlank (rB0_BT _) (rAttr_NB _ _ _ (hrest _)),
    attrPart_rt _ argMode attr _ (hrest _) fun hn => by
      rw [rFieldRest, rSeq_fst, List.append_assoc]
      refine attribute_err_type hty (hhead hn).1 (hhead hn).2 _ _ fun ho => ?_
      exact (Follows.sep_gap (F := fun _ => True) ho _ R trivial).noIdent]
  -- from here on no layout choice changes the value
  refine Reads.exact (F := FieldAfter last) ?_ _ ⟨hR, hlast⟩
  have hd' : ty.depth < d := by omega
  cases dflt with
  | none =>
    have hsep : Follows (rOptAnns anns +> rTail anns.isEmpty last) (FieldAfter last) Sep :=
      .annsTail_sep fun has _ h => by subst has; exact h.need rfl
    simp only [rFieldRest, Field.endsOpen, rLit_nil_seq, Bool.and_true]
    exact .type hty hd' (.typeName hgap hname hcpp hsep) <| .optBlank (.ident hname) <| .ident hname hsep <|
      .optAbsent ((Follows.annsTail_aheadNe (c := '=') (by decide) fun _ h => ⟨h.1.1, h.1.2.2.2.1⟩).mono
        fun _ h => h.mono fun _ h => andThen_of_err (tag_hd h)) <|
      .annsTail han (fun _ h => h.1.punct) (by rw [annOpt_getD]; rfl)
  | some v =>
    have hdv : v.depth < d := by have : max ty.depth v.depth < d := hd; omega
    simp only [rFieldRest, Field.endsOpen, rSeq_assoc]
    exact .type hty hd' (.typeName hgap hname hcpp (.sep_lit rfl)) <| .optBlank (.ident hname) <| .ident hname (.sep_lit rfl) <|
      .optBlank (.lit rfl) <| .group3 <|
      .optSome (.lit <| .optBlank ((rConst_starts hdf).mono fun _ h => hdP_mono (fun _ hc => (constStart_props hc).1) h).follows <|
          .of_exact fun l x hx => const_rt v hdf (cv_supported v) d hdv l x hx)
        (.constFollow (fun ho => .annsTail_sep fun has _ h => by subst has; exact h.need ho)
          (.annsTail_aheadNe (by decide) fun _ h => ⟨h.1.1, h.1.2.2.2.2⟩)) <|
      .annsTail han (fun _ h => h.1.punct) (by rw [annOpt_getD]; rfl)

end Pilota.Idl
