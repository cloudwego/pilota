import PilotaModel.Lemmas.BinaryRT
import PilotaModel.Lemmas.SkipPrims
import PilotaModel.Props.Tables
/-
  The unchecked reader's iterative skipper (`Skip.iterRun`) consumes exactly the encoding of every well-typed value, at
  every nesting depth: refinement of the stack machine to the structure of the value.  A frame `⟨t0, t1, len⟩` on the stack
  stands for `len` pending values whose types alternate by the parity of the counter.

  `iterBottom`, the stack inspection that ends an iteration, returns the result OR the next state; `resume g x` is the
  four-way `match` of `iterRun` on the outcome `x` of a step with the fuel `g` that is left, so that
  `resume g (iterBottom ..)` is "the machine from the stack inspection on".  Every statement is an equation
  `iterRun (g + k) s = resume g (iterBottom ..)`, with `resume (g + k) (iterBottom ..)` on the left for a value under a
  frame, which starts at the inspection that selects its type; one ends where the next starts, and they chain by `rw`.
  The number `k` of iterations is EXACT (`itersV`), and the equation holds for all `g`, also where both sides are `.fuel`:
  "at most `k`" would not compose without a lemma that spare fuel leaves an answer other than `.fuel` unchanged.  The
  price is `itersV_le`, used once, to split the top-level budget `len + 1` in `iterSkip_enc`.

  For every input: no step runs out of fuel and a step that continues has consumed a byte (`iterRun_nofuel`, for C09); the
  unchecked reader may panic (that is its contract).
-/
namespace Pilota.Thrift.Skip
open Pilota Pilota.Thrift Pilota.Props.Tables

def resume (g : Nat) (x : Out (Sum (Nat × Bytes) IState)) : Out (Nat × Bytes) :=
  match x with
  | .ok (.inl res) => .ok res
  | .ok (.inr s') => iterRun g s'
  | .err k => .err k | .panic m => .panic m | .fuel => .fuel

theorem iterRun_succ (g : Nat) (s : IState) : iterRun (g + 1) s = resume g (iterStep s) := by
  simp only [iterRun, resume]; split <;> simp_all

def isFixed (t : TType) : Bool := decide (0 < fixedWidth t)

theorem isFixed_iff {t : TType} : isFixed t = true ↔ 0 < fixedWidth t := decide_eq_true_iff

theorem fixedSize_eq (t : TType) : fixedSize t = .ok (fixedWidth t) := by
  have := fixed_size_table t (by cases t <;> simp [TType.all])
  simp [fixedSize, this]

mutual
def itersV : TVal → Nat
  | .struct fs => itersF fs
  | .list et xs => if xs.length = 0 ∨ isFixed et = true then 1 else 1 + itersL xs
  | .set et xs => if xs.length = 0 ∨ isFixed et = true then 1 else 1 + itersL xs
  | .map kt vt kvs => if kvs.length = 0 ∨ (isFixed kt = true ∧ isFixed vt = true) then 1 else 1 + itersP kvs
  | _ => 1
def itersL : TVals → Nat
  | .nil => 0
  | .cons v vs => itersV v + itersL vs
def itersF : TFields → Nat
  | .nil => 1
  | .cons _ v r => if isFixed v.ttype = true then 1 + itersF r else 1 + itersV v + itersF r
def itersP : TPairs → Nat
  | .nil => 0
  | .cons k v r => itersV k + itersV v + itersP r
end

/-- the stack after `skip_stack_pop!` on a frame with a positive counter. -/
def popped (top : Frame) (st : List Frame) : List Frame :=
  if top.len = 1 then st else { top with len := top.len - 1 } :: st

theorem pop_eq (top : Frame) (st : List Frame) (h : 1 ≤ top.len) : pop (top :: st) = .ok (popped top st) := by
  unfold pop popped
  have : top.len ≠ 0 := by omega
  simp only [this, if_false]
  split <;> rfl

theorem enc_fixed_len (v : TVal) (hw : v.wt = true) (hf : isFixed v.ttype = true) :
    (Binary.enc .be v).length = fixedWidth v.ttype := by
  cases v <;> simp [TVal.ttype, isFixed, fixedWidth] at hf <;> simp [Binary.enc, Binary.i, TVal.ttype, fixedWidth]
  case uuid bs => simpa [TVal.wt] using hw

theorem encVals_fixed_len (xs : TVals) (et : TType) (hw : xs.wt et = true) (hf : isFixed et = true) :
    (Binary.encVals .be xs).length = fixedWidth et * xs.length := by
  match xs with
  | .nil => simp [Binary.encVals, TVals.length]
  | .cons v vs =>
    simp [TVals.wt] at hw
    obtain ⟨⟨ht, hv⟩, hr⟩ := hw
    have := enc_fixed_len v hv (by rw [ht]; exact hf)
    have ih := encVals_fixed_len vs et hr hf
    simp [Binary.encVals, TVals.length, ih, this, ht, Nat.mul_add]; omega

theorem encPairs_fixed_len (kvs : TPairs) (kt vt : TType) (hw : kvs.wt kt vt = true) (hk : isFixed kt = true) (hv : isFixed vt = true) :
    (Binary.encPairs .be kvs).length = (fixedWidth kt + fixedWidth vt) * kvs.length := by
  match kvs with
  | .nil => simp [Binary.encPairs, TPairs.length]
  | .cons k v r =>
    simp [TPairs.wt] at hw
    obtain ⟨⟨⟨⟨hkt, hvt⟩, hkw⟩, hvw⟩, hr⟩ := hw
    have h1 := enc_fixed_len k hkw (by rw [hkt]; exact hk)
    have h2 := enc_fixed_len v hvw (by rw [hvt]; exact hv)
    have ih := encPairs_fixed_len r kt vt hr hk hv
    simp [Binary.encPairs, TPairs.length, ih, h1, h2, hkt, hvt, Nat.mul_add]; omega

theorem uAdvance_append (w : Nat) (a r : Bytes) (n : Nat) (h : a.length = w) : uAdvance w n (a ++ r) = .ok (n + w, r) := by
  subst h; simp [uAdvance]

theorem rawListBegin_enc (et : TType) (n : Nat) (h : n < 2 ^ 31) (r : Bytes) :
    rawListBegin (UInt8.ofNat et.toByte :: (Binary.i .be 4 (toS 4 n) ++ r)) = .ok ((et, n), r) := by
  simp [rawListBegin, Binary.readTType_cons, Binary.readLen .be n, Binary.asUsize_toS4 _ h]

theorem rawMapBegin_enc (kt vt : TType) (n : Nat) (h : n < 2 ^ 31) (r : Bytes) :
    rawMapBegin (UInt8.ofNat kt.toByte :: UInt8.ofNat vt.toByte :: (Binary.i .be 4 (toS 4 n) ++ r)) = .ok ((kt, vt, n), r) := by
  simp [rawMapBegin, Binary.readTType_cons, Binary.readLen .be n, Binary.asUsize_toS4 _ h]

theorem sel_same (t : TType) (m : Nat) : ({ t0 := t, t1 := t, len := m } : Frame).sel = t := by
  unfold Frame.sel; split <;> rfl

/-- `v` stands under a frame whose parity selects its type: the machine skips it and pops. -/
def UnderFrame (v : TVal) : Prop :=
  ∀ g n r top st, top.sel = v.ttype → 1 ≤ top.len →
    resume (g + itersV v) (iterBottom n (Binary.enc .be v ++ r) (top :: st))
      = resume g (iterBottom (n + (Binary.enc .be v).length) r (popped top st))

/-- a value run with the machine's `tt` set to its type, on any stack.  Asked of values other than structs only: a struct never
runs without a frame (`iterInit` pushes one; a struct element keeps its parent's frame until its `Stop`), and what holds of it
is `StmtB` of its fields. -/
def StmtA (v : TVal) : Prop :=
  ∀ g n r st, iterRun (g + itersV v) { tt := v.ttype, n := n, bs := Binary.enc .be v ++ r, stack := st }
    = resume g (iterBottom (n + (Binary.enc .be v).length) r st)

/-- the fields of a struct, run under the frame that selected `struct`; `Stop` pops that frame. -/
def StmtB (fs : TFields) : Prop :=
  ∀ g n r top st, top.sel = .struct → 1 ≤ top.len →
    iterRun (g + itersF fs) { tt := .struct, n := n, bs := Binary.encFields .be fs ++ r, stack := top :: st }
      = resume g (iterBottom (n + (Binary.encFields .be fs).length) r (popped top st))

theorem iterBottom_struct {top : Frame} (hsel : top.sel = .struct) (n bs st) :
    iterBottom n bs (top :: st) = .ok (.inr { tt := .struct, n := n, bs := bs, stack := top :: st }) := by
  simp [iterBottom, hsel]

theorem under_frame (v : TVal) (hA : v.ttype ≠ .struct → StmtA v) (hB : ∀ fs, v = .struct fs → StmtB fs) : UnderFrame v := by
  intro g n r top st hsel hlen
  by_cases hs : v.ttype = .struct
  · obtain ⟨fs, rfl⟩ : ∃ fs, v = .struct fs := by
      cases v <;> simp [TVal.ttype] at hs; exact ⟨_, rfl⟩
    rw [iterBottom_struct hsel]
    simp only [resume, itersV, Binary.enc]
    exact hB fs rfl g n r top st (by simpa [TVal.ttype] using hsel) hlen
  · have h1 : iterBottom n (Binary.enc .be v ++ r) (top :: st)
        = .ok (.inr { tt := v.ttype, n := n, bs := Binary.enc .be v ++ r, stack := popped top st }) := by
      simp [iterBottom, hsel, hs, pop_eq top st hlen]
    rw [h1]
    simp only [resume]
    exact hA hs g n r (popped top st)

theorem fixedWidth_le (t : TType) : fixedWidth t ≤ 16 := by cases t <;> simp [fixedWidth]

/-- the products the fast paths form cannot overflow a `u64` when the count is an `i32`. -/
theorem mul_lt_u64 {w n : Nat} (hw : w ≤ 32) (hn : n < 2 ^ 31) : w * n < 2 ^ 64 :=
  calc w * n ≤ 32 * n := Nat.mul_le_mul_right _ hw
    _ < 2 ^ 64 := by omega

theorem iterRun_bottom {tt n bs st n' bs' st'} (g) (h : iterBody tt n bs st = .ok (.bottom, n', bs', st')) :
    iterRun (g + 1) { tt := tt, n := n, bs := bs, stack := st } = resume g (iterBottom n' bs' st') := by
  rw [iterRun_succ]; unfold iterStep; dsimp only; rw [h]

theorem iterRun_again {tt n bs st n' bs' st'} (g) (h : iterBody tt n bs st = .ok (.again, n', bs', st')) :
    iterRun (g + 1) { tt := tt, n := n, bs := bs, stack := st } = iterRun g { tt := tt, n := n', bs := bs', stack := st' } := by
  rw [iterRun_succ]; unfold iterStep; dsimp only; rw [h]; rfl

theorem body_leaf (v : TVal) (hw : v.wt = true) (hf : isFixed v.ttype = true) (n r st) :
    iterBody v.ttype n (Binary.enc .be v ++ r) st = .ok (.bottom, n + (Binary.enc .be v).length, r, st) := by
  have hl := enc_fixed_len v hw hf
  cases v <;> simp [TVal.ttype, isFixed, fixedWidth] at hf hl <;>
    simp only [iterBody, TVal.ttype] <;> rw [uAdvance_append _ _ r n hl] <;> simp [hl]

theorem body_bin (b) (h : b.length < 2 ^ 31) (n r st) :
    iterBody .binary n (Binary.i .be 4 (toS 4 b.length) ++ (b ++ r)) st = .ok (.bottom, n + 4 + b.length, r, st) := by
  simp only [iterBody, Binary.readLen .be b.length, unchecked, Binary.asUsize_toS4 _ h, uAdvance_append _ b r _ rfl]

/-! The header of a list or set of `k` elements of type `et`: nothing follows an empty one (`_nil`); elements of
fixed width are skipped at once (`_fixed`: `a`, of `fixedWidth et * k` bytes); otherwise a frame of `k` pending
values is pushed (`_open`).  The same for a map header, whose frame holds `2 * k` values of alternating types. -/

theorem body_coll_nil {tt} (htt : tt = .list ∨ tt = .set) (et : TType) (n r st) :
    iterBody tt n (UInt8.ofNat et.toByte :: (Binary.i .be 4 (toS 4 0) ++ r)) st = .ok (.bottom, n + 5, r, st) := by
  rcases htt with rfl | rfl <;> simp [iterBody, rawListBegin_enc et 0 (by decide), unchecked]

theorem body_coll_fixed {tt} (htt : tt = .list ∨ tt = .set) (et : TType) (hf : 0 < fixedWidth et) {k} (hk : k < 2 ^ 31)
    (hk0 : k ≠ 0) (a) (ha : a.length = fixedWidth et * k) (n r st) :
    iterBody tt n (UInt8.ofNat et.toByte :: (Binary.i .be 4 (toS 4 k) ++ (a ++ r))) st = .ok (.bottom, n + 5 + fixedWidth et * k, r, st) := by
  have hmul := mul_lt_u64 (w := fixedWidth et) (by have := fixedWidth_le et; omega) hk
  rcases htt with rfl | rfl <;>
    simp only [iterBody, rawListBegin_enc et k hk, unchecked, hk0, ne_eq, not_false_eq_true, if_true, fixedSize_eq, hf, hmul,
      uAdvance_append _ a r _ ha]

theorem body_coll_open {tt} (htt : tt = .list ∨ tt = .set) (et : TType) (hf : ¬ 0 < fixedWidth et) {k} (hk : k < 2 ^ 31)
    (hk0 : k ≠ 0) (n r st) :
    iterBody tt n (UInt8.ofNat et.toByte :: (Binary.i .be 4 (toS 4 k) ++ r)) st
      = .ok (.bottom, n + 5, r, { t0 := et, t1 := et, len := k } :: st) := by
  rcases htt with rfl | rfl <;>
    simp only [iterBody, rawListBegin_enc et k hk, unchecked, hk0, ne_eq, not_false_eq_true, if_true, fixedSize_eq, hf, if_false,
      show k % 2 ^ 32 = k by omega]

theorem body_map_nil (kt vt : TType) (n r st) :
    iterBody .map n (UInt8.ofNat kt.toByte :: UInt8.ofNat vt.toByte :: (Binary.i .be 4 (toS 4 0) ++ r)) st = .ok (.bottom, n + 6, r, st) := by
  simp [iterBody, rawMapBegin_enc kt vt 0 (by decide), unchecked]

theorem body_map_fixed (kt vt : TType) (hk : 0 < fixedWidth kt) (hv : 0 < fixedWidth vt) {k} (hk31 : k < 2 ^ 31) (hk0 : k ≠ 0)
    (a) (ha : a.length = (fixedWidth kt + fixedWidth vt) * k) (n r st) :
    iterBody .map n (UInt8.ofNat kt.toByte :: UInt8.ofNat vt.toByte :: (Binary.i .be 4 (toS 4 k) ++ (a ++ r))) st
      = .ok (.bottom, n + 6 + (fixedWidth kt + fixedWidth vt) * k, r, st) := by
  have hmul := mul_lt_u64 (w := fixedWidth kt + fixedWidth vt) (by have := fixedWidth_le kt; have := fixedWidth_le vt; omega) hk31
  have hpos : k > 0 := by omega
  simp only [iterBody, rawMapBegin_enc kt vt k hk31, unchecked, hpos, if_true, fixedSize_eq, hk, hv, and_self, hmul,
    uAdvance_append _ a r _ ha]

theorem body_map_open (kt vt : TType) (hf : ¬ (0 < fixedWidth kt ∧ 0 < fixedWidth vt)) {k} (hk31 : k < 2 ^ 31) (hk0 : k ≠ 0)
    (n r st) :
    iterBody .map n (UInt8.ofNat kt.toByte :: UInt8.ofNat vt.toByte :: (Binary.i .be 4 (toS 4 k) ++ r)) st
      = .ok (.bottom, n + 6, r, { t0 := kt, t1 := vt, len := 2 * k } :: st) := by
  have hpos : k > 0 := by omega
  have h2 : k * 2 < 2 ^ 64 := by omega
  have h3 : (k * 2) % 2 ^ 32 = 2 * k := by omega
  simp only [iterBody, rawMapBegin_enc kt vt k hk31, unchecked, hpos, if_true, fixedSize_eq, hf, if_false, h2, h3]

/-! A struct under its frame: `Stop` pops the frame; a field of fixed width is skipped in place (`again`);
any other field pushes a frame for its one value. -/

theorem body_stop (n r top st) (hlen : 1 ≤ top.len) :
    iterBody .struct n ((0 : UInt8) :: r) (top :: st) = .ok (.bottom, n + 1, r, popped top st) := by
  simp [iterBody, Binary.readFieldBegin_stop, unchecked, pop_eq top st hlen]

theorem body_field_fixed (t) (hs : t ≠ .stop) (id) (hid : inS 2 id) (hf : 0 < fixedWidth t) (a)
    (ha : a.length = fixedWidth t) (n r st) :
    iterBody .struct n (UInt8.ofNat t.toByte :: (Binary.i .be 2 id ++ (a ++ r))) st = .ok (.again, n + 3 + fixedWidth t, r, st) := by
  simp only [iterBody, Binary.readFieldBegin_enc .be _ hs id hid, unchecked, hs, if_false, fixedSize_eq, hf, if_true, uAdvance_append _ a r _ ha]

theorem body_field_open (t) (hs : t ≠ .stop) (id) (hid : inS 2 id) (hf : ¬ 0 < fixedWidth t) (n r st) :
    iterBody .struct n (UInt8.ofNat t.toByte :: (Binary.i .be 2 id ++ r)) st
      = .ok (.bottom, n + 3, r, { t0 := t, t1 := t, len := 1 } :: st) := by
  simp only [iterBody, Binary.readFieldBegin_enc .be _ hs id hid, unchecked, hs, if_false, fixedSize_eq, hf]

theorem stmtA_coll {tt} (htt : tt = .list ∨ tt = .set) (et : TType) (xs : TVals) (hl : xs.length < 2 ^ 31) (hx : xs.wt et = true)
    (hL : 1 ≤ xs.length → ∀ g n r st,
      resume (g + itersL xs) (iterBottom n (Binary.encVals .be xs ++ r) ({ t0 := et, t1 := et, len := xs.length } :: st))
        = resume g (iterBottom (n + (Binary.encVals .be xs).length) r st)) (g n r st) :
    iterRun (g + if xs.length = 0 ∨ isFixed et = true then 1 else 1 + itersL xs)
        { tt := tt, n := n, bs := UInt8.ofNat et.toByte :: (Binary.i .be 4 (toS 4 xs.length) ++ Binary.encVals .be xs) ++ r, stack := st }
      = resume g (iterBottom (n + (UInt8.ofNat et.toByte :: (Binary.i .be 4 (toS 4 xs.length) ++ Binary.encVals .be xs)).length) r st) := by
  simp only [List.cons_append, List.append_assoc]
  by_cases h0 : xs.length = 0
  · have : xs = .nil := by cases xs <;> simp [TVals.length] at h0; rfl
    subst this
    simp only [TVals.length, true_or, if_true, Binary.encVals, List.nil_append]
    rw [iterRun_bottom g (body_coll_nil htt et n r st)]
    simp [Binary.i]
  · by_cases hf : isFixed et = true
    · have hlen := encVals_fixed_len xs et hx hf
      simp only [hf, or_true, if_true]
      rw [iterRun_bottom g (body_coll_fixed htt et (isFixed_iff.mp hf) hl h0 _ hlen n r st)]
      simp [Binary.i, hlen]; congr 2; omega
    · simp only [h0, hf, false_or, Bool.false_eq_true, if_false, show ∀ k, g + (1 + k) = (g + k) + 1 by omega]
      rw [iterRun_bottom _ (body_coll_open htt et (mt isFixed_iff.mpr hf) hl h0 n _ st), hL (by omega) g (n + 5) r st]
      simp [Binary.i]; congr 2; omega

mutual
theorem stmtV (v : TVal) (hw : v.wt = true) : (v.ttype ≠ .struct → StmtA v) ∧ ∀ fs, v = .struct fs → StmtB fs := by
  match v, hw with
  | .struct fs, hw => exact ⟨fun hs => absurd rfl hs, fun _ h => by cases h; exact stmtB fs (by simpa [TVal.wt] using hw)⟩
  | .bool _, hw | .i8 _, hw | .i16 _, hw | .i32 _, hw | .i64 _, hw | .dbl _, hw | .uuid _, hw =>
    exact ⟨fun _ g n r st => iterRun_bottom g (body_leaf _ hw rfl n r st), nofun⟩
  | .bin b, hw =>
    refine ⟨fun _ g n r st => ?_, nofun⟩
    have hb : b.length < 2 ^ 31 := by simpa [TVal.wt] using hw
    simp only [TVal.ttype, Binary.enc, List.append_assoc, itersV]
    rw [iterRun_bottom g (body_bin b hb n r st)]
    simp [Binary.i]; congr 2; omega
  | .list et xs, hw =>
    simp [TVal.wt] at hw
    exact ⟨fun _ => stmtA_coll (.inl rfl) et xs hw.1.2 hw.2 (stmtL xs et hw.2), nofun⟩
  | .set et xs, hw =>
    simp [TVal.wt] at hw
    exact ⟨fun _ => stmtA_coll (.inr rfl) et xs hw.1.2 hw.2 (stmtL xs et hw.2), nofun⟩
  | .map kt vt kvs, hw =>
    refine ⟨fun _ g n r st => ?_, nofun⟩
    simp [TVal.wt] at hw
    obtain ⟨⟨⟨hk, hv⟩, hl⟩, hx⟩ := hw
    have hl : _ < 2 ^ 31 := hl
    simp only [TVal.ttype, Binary.enc, List.cons_append, List.append_assoc]
    by_cases h0 : kvs.length = 0
    · have : kvs = .nil := by cases kvs <;> simp [TPairs.length] at h0; rfl
      subst this
      simp only [itersV, TPairs.length, true_or, if_true, Binary.encPairs, List.nil_append]
      rw [iterRun_bottom g (body_map_nil kt vt n r st)]
      simp [Binary.i]
    · by_cases hf : isFixed kt = true ∧ isFixed vt = true
      · have hlen := encPairs_fixed_len kvs kt vt hx hf.1 hf.2
        simp only [itersV, hf, and_self, or_true, if_true]
        rw [iterRun_bottom g (body_map_fixed kt vt (isFixed_iff.mp hf.1) (isFixed_iff.mp hf.2) hl h0 _ hlen n r st)]
        simp [Binary.i, hlen]; congr 2; omega
      · simp only [itersV, h0, hf, false_or, if_false, show ∀ k, g + (1 + k) = (g + k) + 1 by omega]
        rw [iterRun_bottom _ (body_map_open kt vt (fun h => hf ⟨isFixed_iff.mpr h.1, isFixed_iff.mpr h.2⟩) hl h0 n _ st),
          stmtP kvs kt vt hx (by omega) g (n + 6) r st]
        simp [Binary.i]; congr 2; omega
termination_by structural v
theorem stmtB (fs : TFields) (hw : fs.wt = true) : StmtB fs := by
  intro g n r top st hsel hlen
  match fs, hw with
  | .nil, _ => exact iterRun_bottom g (body_stop n r top st hlen)
  | .cons id v rest, hw =>
    simp [TFields.wt] at hw
    obtain ⟨⟨hid, hv⟩, hr⟩ := hw
    have hns : v.ttype ≠ .stop := TType.isValue_ne_stop _ (TVal.ttype_isValue v)
    simp only [Binary.encFields, List.cons_append, List.append_assoc]
    by_cases hf : isFixed v.ttype = true
    · have hlen' := enc_fixed_len v hv hf
      simp only [itersF, hf, if_true, show ∀ k, g + (1 + k) = (g + k) + 1 by omega]
      rw [iterRun_again _ (body_field_fixed _ hns id hid (isFixed_iff.mp hf) _ hlen' n _ _),
        stmtB rest hr g (n + 3 + fixedWidth v.ttype) r top st hsel hlen]
      simp [Binary.i, hlen']; congr 2; omega
    · have e : g + (1 + itersV v + itersF rest) = ((g + itersF rest) + itersV v) + 1 := by omega
      simp only [itersF, hf, Bool.false_eq_true, if_false, e]
      -- the field's value runs under a frame of its own, which it pops; the struct's frame is on top again
      rw [iterRun_bottom _ (body_field_open _ hns id hid (mt isFixed_iff.mpr hf) n _ _),
        under_frame v (stmtV v hv).1 (stmtV v hv).2 (g + itersF rest) (n + 3) (Binary.encFields .be rest ++ r)
          { t0 := v.ttype, t1 := v.ttype, len := 1 } (top :: st) (sel_same _ _) (Nat.le_refl 1)]
      rw [show popped { t0 := v.ttype, t1 := v.ttype, len := 1 } (top :: st) = top :: st from rfl, iterBottom_struct hsel]
      simp only [resume]
      rw [stmtB rest hr g (n + 3 + (Binary.enc .be v).length) r top st hsel hlen]
      simp [Binary.i]; congr 2; omega
termination_by structural fs
theorem stmtL (xs : TVals) (et : TType) (hw : xs.wt et = true) (hpos : 1 ≤ xs.length) :
    ∀ g n r st, resume (g + itersL xs) (iterBottom n (Binary.encVals .be xs ++ r) ({ t0 := et, t1 := et, len := xs.length } :: st))
      = resume g (iterBottom (n + (Binary.encVals .be xs).length) r st) := by
  intro g n r st
  match xs, hw, hpos with
  | .nil, _, hpos => simp [TVals.length] at hpos
  | .cons v vs, hw, hpos =>
    simp [TVals.wt] at hw
    obtain ⟨⟨ht, hv⟩, hr⟩ := hw
    have hU : UnderFrame v := under_frame v (stmtV v hv).1 (stmtV v hv).2
    have e : g + (itersV v + itersL vs) = (g + itersL vs) + itersV v := by omega
    simp only [itersL, e, Binary.encVals, List.append_assoc, TVals.length]
    have := hU (g + itersL vs) n (Binary.encVals .be vs ++ r) { t0 := et, t1 := et, len := vs.length + 1 } st
      (by rw [sel_same, ht]) (by simp)
    rw [this]
    by_cases hn : vs.length = 0
    · have : vs = .nil := by cases vs <;> simp [TVals.length] at hn; rfl
      subst this
      simp [popped, TVals.length, itersL, Binary.encVals]
    · have hp : popped { t0 := et, t1 := et, len := vs.length + 1 } st = { t0 := et, t1 := et, len := vs.length } :: st := by
        simp [popped, hn]
      rw [hp]
      have := stmtL vs et hr (by omega) g (n + (Binary.enc .be v).length) r st
      rw [this]
      simp; congr 2; omega
termination_by structural xs
theorem stmtP (kvs : TPairs) (kt vt : TType) (hw : kvs.wt kt vt = true) (hpos : 1 ≤ kvs.length) :
    ∀ g n r st, resume (g + itersP kvs) (iterBottom n (Binary.encPairs .be kvs ++ r) ({ t0 := kt, t1 := vt, len := 2 * kvs.length } :: st))
      = resume g (iterBottom (n + (Binary.encPairs .be kvs).length) r st) := by
  intro g n r st
  match kvs, hw, hpos with
  | .nil, _, hpos => simp [TPairs.length] at hpos
  | .cons k v rest, hw, hpos =>
    simp [TPairs.wt] at hw
    obtain ⟨⟨⟨⟨hkt, hvt⟩, hkw⟩, hvw⟩, hr⟩ := hw
    have hUk : UnderFrame k := under_frame k (stmtV k hkw).1 (stmtV k hkw).2
    have hUv : UnderFrame v := under_frame v (stmtV v hvw).1 (stmtV v hvw).2
    have e : g + (itersV k + itersV v + itersP rest) = ((g + itersP rest) + itersV v) + itersV k := by omega
    simp only [itersP, e, Binary.encPairs, List.append_assoc, TPairs.length]
    have h1 := hUk ((g + itersP rest) + itersV v) n (Binary.enc .be v ++ (Binary.encPairs .be rest ++ r))
      { t0 := kt, t1 := vt, len := 2 * (rest.length + 1) } st
      (by simp [Frame.sel, hkt]) (by simp; omega)
    rw [h1]
    have hp1 : popped { t0 := kt, t1 := vt, len := 2 * (rest.length + 1) } st = { t0 := kt, t1 := vt, len := 2 * rest.length + 1 } :: st := by
      have : 2 * (rest.length + 1) ≠ 1 := by omega
      simp [popped, this] <;> omega
    rw [hp1]
    have h2 := hUv (g + itersP rest) (n + (Binary.enc .be k).length) (Binary.encPairs .be rest ++ r)
      { t0 := kt, t1 := vt, len := 2 * rest.length + 1 } st
      (by simp [Frame.sel, hvt] <;> omega) (by simp)
    rw [h2]
    by_cases hn : rest.length = 0
    · have : rest = .nil := by cases rest <;> simp [TPairs.length] at hn; rfl
      subst this
      simp [popped, TPairs.length, itersP, Binary.encPairs]; congr 2; omega
    · have hp : popped { t0 := kt, t1 := vt, len := 2 * rest.length + 1 } st = { t0 := kt, t1 := vt, len := 2 * rest.length } :: st := by
        have : 2 * rest.length + 1 ≠ 1 := by omega
        simp [popped] <;> omega
      rw [hp]
      have := stmtP rest kt vt hr (by omega) g (n + (Binary.enc .be k).length + (Binary.enc .be v).length) r st
      rw [this]
      simp; congr 2; omega
termination_by structural kvs
end

theorem stmtA (v : TVal) (hw : v.wt = true) (hs : v.ttype ≠ .struct) : StmtA v := (stmtV v hw).1 hs

mutual
theorem itersV_le (v : TVal) (hw : v.wt = true) : itersV v ≤ (Binary.enc .be v).length := by
  cases v with
  | struct fs => simp [TVal.wt] at hw; simpa [itersV, Binary.enc] using itersF_le fs hw
  | list et xs | set et xs =>
    simp [TVal.wt] at hw
    have := itersL_le xs et hw.2
    simp only [itersV, Binary.enc]; split <;> simp [Binary.i] <;> omega
  | map kt vt kvs =>
    simp [TVal.wt] at hw
    have := itersP_le kvs kt vt hw.2
    simp only [itersV, Binary.enc]; split <;> simp [Binary.i] <;> omega
  | uuid bs => simp [TVal.wt] at hw; simp [itersV, Binary.enc, hw]
  | bin bs => simp [itersV, Binary.enc, Binary.i]; omega
  | bool b => simp [itersV, Binary.enc]
  | i8 x | i16 x | i32 x | i64 x => simp [itersV, Binary.enc, Binary.i]
  | dbl x => simp [itersV, Binary.enc]
theorem itersL_le (xs : TVals) (et : TType) (hw : xs.wt et = true) : itersL xs ≤ (Binary.encVals .be xs).length := by
  cases xs with
  | nil => simp [itersL]
  | cons v vs =>
    simp [TVals.wt] at hw
    have := itersV_le v hw.1.2
    have := itersL_le vs et hw.2
    simp [itersL, Binary.encVals]; omega
theorem itersF_le (fs : TFields) (hw : fs.wt = true) : itersF fs ≤ (Binary.encFields .be fs).length := by
  cases fs with
  | nil => simp [itersF, Binary.encFields]
  | cons id v rest =>
    simp [TFields.wt] at hw
    have := itersV_le v hw.1.2
    have := itersF_le rest hw.2
    simp only [itersF, Binary.encFields]; split <;> simp [Binary.i] <;> omega
theorem itersP_le (kvs : TPairs) (kt vt : TType) (hw : kvs.wt kt vt = true) : itersP kvs ≤ (Binary.encPairs .be kvs).length := by
  cases kvs with
  | nil => simp [itersP]
  | cons k v rest =>
    simp [TPairs.wt] at hw
    have := itersV_le k hw.1.1.2
    have := itersV_le v hw.1.2
    have := itersP_le rest kt vt hw.2
    simp [itersP, Binary.encPairs]; omega
end

/-- the iterative skipper on the encoding of any well-typed value followed by anything:
exactly the value is consumed and counted — no depth bound. -/
theorem iterSkip_enc (v : TVal) (hw : v.wt = true) (r : Bytes) :
    iterSkip v.ttype (Binary.enc .be v ++ r) = .ok ((Binary.enc .be v).length, r) := by
  have hle := itersV_le v hw
  unfold iterSkip iterInit
  obtain ⟨g, hg⟩ : ∃ g, (Binary.enc .be v ++ r).length + 1 = g + itersV v := ⟨(Binary.enc .be v ++ r).length + 1 - itersV v, by simp; omega⟩
  rw [hg]
  by_cases hs : v.ttype = .struct
  · obtain ⟨fs, rfl⟩ : ∃ fs, v = .struct fs := by
      cases v <;> simp [TVal.ttype] at hs; exact ⟨_, rfl⟩
    simp only [TVal.ttype, if_true, itersV, Binary.enc]
    have := stmtB fs (by simpa [TVal.wt] using hw) g 0 r { t0 := .struct, t1 := .struct, len := 1 } [] (sel_same _ _) (by simp)
    rw [this]
    simp [popped, iterBottom, resume]
  · simp only [hs, if_false]
    have := stmtA v hw hs g 0 r []
    rw [this]
    simp [iterBottom, resume]

theorem uAdvance_safe (w n bs) : (uAdvance w n bs).Safe True False fun x => x.2.length + w = bs.length := by
  unfold uAdvance
  split
  · dsimp only [Out.Safe]; rw [List.length_drop]; omega
  · trivial

theorem unchecked_safe {α} {x : Out α} {P : α → Prop} (hx : x.Safe False False P) : (unchecked x).Safe True False P := by
  unfold unchecked
  split
  · trivial
  · exact hx.mono (fun _ => trivial) id fun _ => id

theorem pop_safe (st) : (pop st).Safe True False fun _ => True := by
  unfold pop
  split
  · trivial
  · split
    · trivial
    · split <;> trivial

theorem iterBody_safe (tt n bs st) : (iterBody tt n bs st).Safe True False fun x => x.2.2.1.length + 1 ≤ bs.length := by
  cases tt <;> dsimp only [iterBody]
  case stop | void => trivial
  case bool | i8 | i16 | i32 | i64 | double | uuid => safe_step uAdvance_safe _ _ _; safe_ok
  case binary =>
    safe_step unchecked_safe (Binary.readI_reads []).safe
    safe_step uAdvance_safe _ _ _
    safe_ok
  case struct =>
    safe_step unchecked_safe (Binary.readFieldBegin_reads []).safe
    split
    · safe_step pop_safe _
      safe_ok
    · rw [fixedSize_eq]
      dsimp only
      split
      · safe_step uAdvance_safe _ _ _
        safe_ok
      · safe_ok
  case list | set =>
    safe_step unchecked_safe (rawListBegin_safe _)
    split
    · rw [fixedSize_eq]
      dsimp only
      split
      · split
        · safe_step uAdvance_safe _ _ _
          safe_ok
        · trivial
      · safe_ok
    · safe_ok
  case map =>
    safe_step unchecked_safe (rawMapBegin_safe _)
    split
    · rw [fixedSize_eq, fixedSize_eq]
      dsimp only
      split
      · split
        · safe_step uAdvance_safe _ _ _
          safe_ok
        · trivial
      · split
        · safe_ok
        · trivial
    · safe_ok

theorem iterStep_safe (s : IState) : (iterStep s).Safe True False fun x =>
    ∀ s', x = .inr s' → s'.bs.length + 1 ≤ s.bs.length := by
  unfold iterStep
  split
  · intro s' h; cases h
    exact (iterBody_safe _ _ _ _).ok ‹_›
  · have := (iterBody_safe _ _ _ _).ok ‹_›
    unfold iterBottom
    split
    · exact nofun
    · dsimp only
      split
      · safe_step pop_safe _
        intro s' h; cases h; exact this
      · intro s' h; cases h; exact this
  · trivial
  · trivial
  · exact (iterBody_safe _ _ _ _).fuel ‹_›

theorem iterRun_nofuel : ∀ f s, s.bs.length + 1 ≤ f → iterRun f s ≠ .fuel := by
  intro f
  induction f with
  | zero => intro s h; omega
  | succ f ih =>
    intro s hf h
    unfold iterRun at h
    split at h
    · cases h
    · exact ih _ (by have := (iterStep_safe s).ok ‹_› _ rfl; omega) h
    · cases h
    · cases h
    · exact (iterStep_safe s).fuel ‹_›

end Pilota.Thrift.Skip
