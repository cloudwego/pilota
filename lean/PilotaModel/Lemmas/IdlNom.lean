import PilotaModel.Idl.Parser
/-
  Invariant tower for C16.

  `Good w p` bundles, for every input `s`:
    * a successful `p` returns a SUFFIX of its input (so nothing grows, loops terminate);
    * `p` never takes a panic branch;
    * `p` runs out of recursion budget only when `s` contains at least `w` nesting characters
      (`<`, `[`, `{`: the characters that open a recursive frame of `Ty::parse`, `ConstValue::parse`).
  Every combinator preserves `Good w`; consuming a tag that contains a nesting character pays
  for one more level (`Good.andThen_tag_nest`).
-/
namespace Pilota.Idl

def isNestChar (c : Char) : Bool := c == '<' || c == '[' || c == '{'

def nest (s : List Char) : Nat := s.countP isNestChar

theorem nest_append (a b : List Char) : nest (a ++ b) = nest a + nest b := List.countP_append

theorem nest_suffix {r s : List Char} (h : r <:+ s) : nest r ≤ nest s :=
  List.Sublist.countP_le h.sublist

theorem nest_le_length (s : List Char) : nest s ≤ s.length := List.countP_le_length

/-- the invariant on one result, relative to the input `s` it was computed from -/
def PR.Inv {α} (w : Nat) (s : List Char) : PR α → Prop
  | .ok _ r => r <:+ s
  | .panic _ => False
  | .fuel => ¬ nest s < w
  | _ => True

@[simp] theorem PR.Inv_ok {α} (w s) (a : α) (r) : (PR.ok a r).Inv w s = (r <:+ s) := rfl
@[simp] theorem PR.Inv_err {α} (w s) : (PR.err : PR α).Inv w s = True := rfl
@[simp] theorem PR.Inv_fail {α} (w s) : (PR.fail : PR α).Inv w s = True := rfl
@[simp] theorem PR.Inv_panic {α} (w s m) : (PR.panic m : PR α).Inv w s = False := rfl
@[simp] theorem PR.Inv_fuel {α} (w s) : (PR.fuel : PR α).Inv w s = (¬ nest s < w) := rfl

def Good {α} (w : Nat) (p : P α) : Prop := ∀ s, (p s).Inv w s

/-- continue after a success with `A`, after a recoverable error with `B`; `fail`, `panic`, `fuel` pass.
Every combinator of `Nom.lean` that matches on `p s` is `(p s).handle A B` by unfolding (`bind` with `B := err`; `alt`
through `alt_cons_eq`), so what `Good`, `Ext` and `SepStable` need of a combinator is proved once each, for `handle`. -/
def PR.handle {α β} (x : PR α) (A : α → List Char → PR β) (B : PR β) : PR β :=
  match x with
  | .ok a r => A a r
  | .err => B
  | .fail => .fail | .panic m => .panic m | .fuel => .fuel

theorem alt_cons_eq {α} (p : P α) (ps s) : alt (p :: ps) s = (p s).handle .ok (alt ps s) := by
  simp only [alt]; cases p s <;> rfl

namespace PR.Inv
variable {α β : Type} {w : Nat}

theorem weaken {x : PR α} {r s : List Char} (h : r <:+ s) (hx : x.Inv w r) : x.Inv w s := by
  cases x with
  | ok a r' => exact List.IsSuffix.trans hx h
  | err => trivial
  | fail => trivial
  | panic m => exact hx
  | fuel => intro hh; exact hx (Nat.lt_of_le_of_lt (nest_suffix h) hh)

/-- `handle` where `x` was computed from an end piece `s0` of the outer input `s` -/
theorem handle_to {x : PR α} {A : α → List Char → PR β} {B : PR β} {s0 s : List Char} (h0 : s0 <:+ s) (hx : x.Inv w s0)
    (hA : ∀ a r, x = .ok a r → (A a r).Inv w s) (hB : B.Inv w s) : (x.handle A B).Inv w s := by
  cases x with
  | ok a r => exact hA _ _ rfl
  | err => exact hB
  | fail => trivial
  | panic m => exact hx
  | fuel => exact weaken (x := (PR.fuel : PR β)) h0 hx

theorem handle {x : PR α} {A : α → List Char → PR β} {B : PR β} {s : List Char} (hx : x.Inv w s)
    (hA : ∀ a r, x = .ok a r → (A a r).Inv w r) (hB : B.Inv w s) : (x.handle A B).Inv w s :=
  handle_to (List.suffix_refl s) hx (fun a r e => by subst e; exact weaken hx (hA _ _ rfl)) hB

theorem bind {x : PR α} {f : α → List Char → PR β} {s : List Char} (hx : x.Inv w s)
    (hf : ∀ a r, x = .ok a r → (f a r).Inv w r) : (x.bind f).Inv w s := handle hx hf trivial

theorem map {x : PR α} (f : α → β) {s : List Char} (hx : x.Inv w s) : (x.map f).Inv w s :=
  bind hx (fun _ r _ => List.suffix_refl r)

theorem bind_to {x : PR α} {f : α → List Char → PR β} {s0 s : List Char} (h0 : s0 <:+ s) (hx : x.Inv w s0)
    (hf : ∀ a r, x = .ok a r → (f a r).Inv w s) : (x.bind f).Inv w s := handle_to h0 hx hf trivial

end PR.Inv

namespace Good
variable {α β : Type} {w : Nat}

theorem suffix {p : P α} (h : Good w p) {s a r} (e : p s = .ok a r) : r <:+ s := by
  have := h s; rw [e] at this; exact this

theorem length_le {p : P α} (h : Good w p) {s a r} (e : p s = .ok a r) : r.length ≤ s.length :=
  (h.suffix e).length_le

theorem no_panic {p : P α} (h : Good w p) (s m) : p s ≠ .panic m := by
  intro e; have := h s; rw [e] at this; exact this

theorem no_fuel {p : P α} (h : Good w p) {s} (hs : nest s < w) : p s ≠ .fuel := by
  intro e; have := h s; rw [e] at this; exact this hs

theorem mono {p : P α} {w' : Nat} (h : Good w p) (hw : w' ≤ w) : Good w' p := by
  intro s; have := h s
  cases hp : p s with
  | ok a r => rw [hp] at this; exact this
  | err => trivial
  | fail => trivial
  | panic m => rw [hp] at this; exact this
  | fuel => rw [hp] at this; intro hh; exact this (Nat.lt_of_lt_of_le hh hw)

theorem ret (a : α) : Good w (ret a) := fun s => List.suffix_refl s

theorem pmap (f : α → β) {p : P α} (h : Good w p) : Good w (pmap f p) := fun s => (h s).map f

theorem mapRes {p : P α} (f : α → Option β) (h : Good w p) : Good w (mapRes p f) := by
  intro s; refine (h s).bind ?_
  intro a r _; cases f a <;> simp

theorem pmapChecked {p : P α} (f : α → Except String β) (h : Good w p)
    (hv : ∀ s a r, p s = .ok a r → ∃ b, f a = .ok b) : Good w (pmapChecked f p) := by
  intro s; refine (h s).bind ?_
  intro a r e; obtain ⟨b, hb⟩ := hv _ _ _ e; simp [hb]

theorem andThen {p : P α} {f : α → P β} (hp : Good w p) (hf : ∀ a, Good w (f a)) : Good w (andThen p f) :=
  fun s => (hp s).bind (fun a r _ => hf a r)

theorem skip {p : P α} {q : P β} (hp : Good w p) (hq : Good w q) : Good w (skip p q) :=
  andThen hp (fun _ => hq)

theorem terminated {p : P α} {q : P β} (hp : Good w p) (hq : Good w q) : Good w (terminated p q) :=
  andThen hp (fun _ => pmap _ hq)

theorem opt {p : P α} (h : Good w p) : Good w (opt p) := fun s =>
  (h s).handle (fun _ r _ => List.suffix_refl r) (List.suffix_refl s)

theorem alt_nil : Good w (alt ([] : List (P α))) := fun _ => trivial

theorem alt_cons {p : P α} {ps : List (P α)} (hp : Good w p) (hps : Good w (alt ps)) : Good w (alt (p :: ps)) := fun s => by
  rw [alt_cons_eq]; exact (hp s).handle (fun _ r _ => List.suffix_refl r) (hps s)

theorem alt_of_forall {ps : List (P α)} (h : ∀ p ∈ ps, Good w p) : Good w (alt ps) := by
  induction ps with
  | nil => exact alt_nil
  | cons p ps ih => exact alt_cons (h p (by simp)) (ih (fun q hq => h q (by simp [hq])))

theorem peek {p : P α} (h : Good w p) : Good w (peek p) :=
  fun s => (h s).bind_to (List.suffix_refl s) fun _ _ _ => List.suffix_refl s

theorem pnot {p : P α} (h : Good w p) : Good w (pnot p) := fun s =>
  (h s).handle (fun _ _ _ => trivial) (List.suffix_refl s)

theorem recognize {p : P α} (h : Good w p) : Good w (recognize p) :=
  fun s => (h s).bind (fun _ r _ => List.suffix_refl r)

theorem eof : Good w eof := by
  intro s; unfold Idl.eof; cases s <;> simp

end Good

theorem stripPrefix_eq {t s r : List Char} (h : stripPrefix t s = some r) : s = t ++ r := by
  induction t generalizing s with
  | nil => simp [stripPrefix] at h; simp [h]
  | cons c t ih =>
    cases s with
    | nil => simp [stripPrefix] at h
    | cons d s =>
      simp only [stripPrefix] at h
      split at h
      · rename_i hcd; subst hcd; rw [ih h]; rfl
      · cases h

theorem stripPrefix_append (t r : List Char) : stripPrefix t (t ++ r) = some r := by
  induction t with
  | nil => rfl
  | cons c t ih => simp [stripPrefix, ih]

namespace Good
variable {α β : Type} {w : Nat}

theorem tag (t : List Char) : Good w (tag t) := by
  intro s; unfold Idl.tag
  cases h : stripPrefix t s with
  | none => trivial
  | some r => show r <:+ s; rw [stripPrefix_eq h]; exact List.suffix_append _ _

theorem andThen_tag_nest {t : List Char} {f : List Char → P β} (ht : 1 ≤ nest t) (hf : ∀ a, Good w (f a)) :
    Good (w + 1) (Idl.andThen (Idl.tag t) f) := by
  intro s; unfold Idl.andThen Idl.tag
  cases h : stripPrefix t s with
  | none => trivial
  | some r =>
    have hs := stripPrefix_eq h
    have h2 := hf t r
    show (f t r).Inv (w + 1) s
    cases e2 : f t r with
    | ok b r' => rw [e2] at h2; show r' <:+ s; rw [hs]; exact List.IsSuffix.trans h2 (List.suffix_append _ _)
    | err => trivial
    | fail => trivial
    | panic m => rw [e2] at h2; exact h2
    | fuel =>
      rw [e2] at h2
      intro hh; apply h2; rw [hs, nest_append] at hh; omega

end Good

theorem stripPrefixNoCase_eq {t s m r : List Char} (h : stripPrefixNoCase t s = some (m, r)) :
    s = m ++ r ∧ m.length = t.length ∧ ∀ i (hi : i < m.length) (hj : i < t.length), lowerEq m[i] t[i] = true := by
  induction t generalizing s m r with
  | nil => simp [stripPrefixNoCase] at h; obtain ⟨rfl, rfl⟩ := h; simp
  | cons c t ih =>
    cases s with
    | nil => simp [stripPrefixNoCase] at h
    | cons d s =>
      simp only [stripPrefixNoCase] at h
      split at h
      · rename_i hl
        cases h2 : stripPrefixNoCase t s with
        | none => simp [h2] at h
        | some mr =>
          obtain ⟨m', r'⟩ := mr
          simp only [h2, Option.some.injEq, Prod.mk.injEq] at h
          obtain ⟨rfl, rfl⟩ := h
          obtain ⟨e1, e2, e3⟩ := ih h2
          refine ⟨by rw [e1]; rfl, by simp [e2], ?_⟩
          intro i hi hj
          cases i with
          | zero => exact hl
          | succ i => simp only [List.getElem_cons_succ]; exact e3 i (by simpa using hi) (by simpa using hj)
      · cases h

/-- the only characters whose ASCII lower-case form is `e` are `e` and `E`: one byte each, so
`tag_no_case("e")` never splits inside a character. -/
theorem lowerEq_e_utf8 (c : Char) (h : lowerEq c 'e' = true) : c.utf8Size = 1 := by
  unfold lowerEq at h
  have h' : c.toLower = 'e' := by simpa using h
  unfold Char.toLower at h'
  split at h'
  · rename_i hr
    unfold Char.utf8Size
    have : c.val ≤ 127 := UInt32.le_trans hr.2 (by decide)
    simp [this]
  · subst h'; decide

namespace Good
variable {α β : Type} {w : Nat}

theorem tagNoCase_e : Good w (tagNoCase ['e']) := by
  intro s; unfold Idl.tagNoCase
  cases h : stripPrefixNoCase ['e'] s with
  | none => trivial
  | some mr =>
    obtain ⟨m, r⟩ := mr
    obtain ⟨e1, e2, e3⟩ := stripPrefixNoCase_eq h
    simp only
    match m, e2 with
    | [c], _ =>
      have hc := e3 0 (by simp) (by simp)
      simp only [List.getElem_cons_zero] at hc
      have : utf8Len [c] = utf8Len ['e'] := by
        simp only [utf8Len, List.map, List.sum_cons, List.sum_nil, lowerEq_e_utf8 c hc]; decide
      simp only [this, if_true]
      show r <:+ s
      rw [e1]; exact List.suffix_append _ _

theorem satisfy (f : Char → Bool) : Good w (satisfy f) := by
  intro s; unfold Idl.satisfy
  cases s with
  | nil => trivial
  | cons c r =>
    by_cases h : f c
    · simp only [h, if_true]; exact List.suffix_cons c r
    · simp only [h]; trivial

theorem oneOf (cs : List Char) : Good w (oneOf cs) := satisfy _
theorem noneOf (cs : List Char) : Good w (noneOf cs) := satisfy _

theorem takeWhile (f : Char → Bool) : Good w (takeWhile f) := fun _ => List.dropWhile_suffix f

theorem takeWhile1 (f : Char → Bool) : Good w (takeWhile1 f) := by
  intro s; unfold Idl.takeWhile1
  cases s with
  | nil => trivial
  | cons c r =>
    by_cases h : f c
    · simp only [h, if_true]; exact List.dropWhile_suffix f
    · simp only [h]; trivial

theorem takeTill (f : Char → Bool) : Good w (takeTill f) := takeWhile _
theorem digit1 : Good w digit1 := takeWhile1 _
theorem hexDigit1 : Good w hexDigit1 := takeWhile1 _
theorem multispace1 : Good w multispace1 := takeWhile1 _

end Good

theorem findSub_eq {t s b r : List Char} (h : findSub t s = some (b, r)) : s = b ++ r := by
  induction s generalizing b r with
  | nil =>
    simp only [findSub] at h
    split at h
    · simp at h; obtain ⟨rfl, rfl⟩ := h; rfl
    · cases h
  | cons c s ih =>
    simp only [findSub] at h
    split at h
    · simp at h; obtain ⟨rfl, rfl⟩ := h; rfl
    · cases h2 : findSub t s with
      | none => simp [h2] at h
      | some br =>
        obtain ⟨b', r'⟩ := br
        simp only [h2, Option.some.injEq, Prod.mk.injEq] at h
        obtain ⟨rfl, rfl⟩ := h
        rw [ih h2]; rfl

namespace Good
variable {α β : Type} {w : Nat}

theorem takeUntil (t : List Char) : Good w (takeUntil t) := by
  intro s; unfold Idl.takeUntil
  cases h : findSub t s with
  | none => trivial
  | some br =>
    obtain ⟨b, r⟩ := br
    show r <:+ s; rw [findSub_eq h]; exact List.suffix_append _ _

/-- the loop of `many0`: with fuel above the input length the budget is never the reason to stop. -/
theorem many0F {p : P α} (hp : Good w p) : ∀ (n : Nat) (s : List Char), s.length < n →
    (Idl.many0F p n s).Inv w s
  | n + 1, s, hn => (hp s).handle (fun a r e => by
      split
      · trivial
      · exact (many0F hp n r (by have := hp.length_le e; omega)).map _) (List.suffix_refl s)

theorem many0 {p : P α} (hp : Good w p) : Good w (many0 p) :=
  fun s => many0F hp (s.length + 1) s (by omega)

theorem many1 {p : P α} (hp : Good w p) : Good w (many1 p) := by
  intro s; unfold Idl.many1
  exact (hp s).bind (fun a r _ => (many0F hp (r.length + 1) r (by omega)).map _)

theorem sepLoopF {sep : P β} {p : P α} (hs : Good w sep) (hp : Good w p) : ∀ (n : Nat) (i : List Char), i.length < n →
    (Idl.sepLoopF sep p n i).Inv w i
  | n + 1, i, hn => (hs i).handle_to (List.suffix_refl i) (fun _ i1 e1 => by
      split
      · trivial
      · exact (hp i1).handle_to (hs.suffix e1) (fun a i2 e2 =>
          PR.Inv.weaken ((hp.suffix e2).trans (hs.suffix e1))
            ((sepLoopF hs hp n i2 (by have := hp.length_le e2; have := hs.length_le e1; omega)).map _))
          (List.suffix_refl i)) (List.suffix_refl i)

theorem separatedList1 {sep : P β} {p : P α} (hs : Good w sep) (hp : Good w p) : Good w (separatedList1 sep p) := by
  intro s; unfold Idl.separatedList1
  exact (hp s).bind (fun a r _ => (sepLoopF hs hp (r.length + 1) r (by omega)).map _)

theorem manyTillF {p : P α} {g : P β} (hp : Good w p) (hg : Good w g) : ∀ (n : Nat) (s : List Char), s.length < n →
    (Idl.manyTillF p g n s).Inv w s
  | n + 1, s, hn => (hg s).handle (fun _ r _ => List.suffix_refl r) <| (hp s).bind fun a r e => by
      split
      · trivial
      · exact (manyTillF hp hg n r (by have := hp.length_le e; omega)).map _

theorem manyTill {p : P α} {g : P β} (hp : Good w p) (hg : Good w g) : Good w (manyTill p g) :=
  fun s => manyTillF hp hg (s.length + 1) s (by omega)

/-- `escaped`: `i` is always a suffix of `input`; the `unwrap()` is guarded by the loop condition. -/
theorem escapedF {normal : P α} {esc : P β} (ctrl : Char) (hn : Good w normal) (he : Good w esc) (input : List Char) :
    ∀ (n : Nat) (i : List Char), i.length < n → i <:+ input →
    (Idl.escapedF normal ctrl esc input n i).Inv w input := by
  intro n
  induction n with
  | zero => intro s h; omega
  | succ n ih =>
    intro i hlen hi
    simp only [Idl.escapedF]
    split
    · exact List.nil_suffix
    · rename_i hne
      have h1 := hn i
      cases e : normal i with
      | ok a i2 =>
        rw [e] at h1
        simp only
        split
        · exact List.nil_suffix
        · split
          · exact List.IsSuffix.trans h1 hi
          · rename_i hne2
            have hlt : i2.length < i.length := Nat.lt_of_le_of_ne (List.IsSuffix.length_le h1) hne2
            exact ih i2 (by omega) (List.IsSuffix.trans h1 hi)
      | err =>
        cases i with
        | nil => simp at hne
        | cons c rest =>
          simp only
          split
          · split
            · trivial
            · have hrest : rest <:+ input := List.IsSuffix.trans (List.suffix_cons c rest) hi
              refine PR.Inv.bind_to hrest (he rest) ?_
              intro b i2 e2
              have h2 : i2 <:+ rest := he.suffix e2
              split
              · exact List.nil_suffix
              · exact ih i2 (by have := List.IsSuffix.length_le h2; simp at hlen; omega) (List.IsSuffix.trans h2 hrest)
          · split
            · trivial
            · exact hi
      | fail => trivial
      | panic m => rw [e] at h1; exact h1
      | fuel => rw [e] at h1; exact PR.Inv.weaken (x := (PR.fuel : PR (List Char))) hi h1

theorem escaped {normal : P α} {esc : P β} (ctrl : Char) (hn : Good w normal) (he : Good w esc) :
    Good w (escaped normal ctrl esc) :=
  fun s => escapedF ctrl hn he s (s.length + 1) s (by omega) (List.suffix_refl s)

theorem permutation2 {p : P α} {q : P β} (hp : Good w p) (hq : Good w q) : Good w (permutation2 p q) := fun s =>
  (hp s).handle (fun _ s1 _ => (hq s1).map _) ((hq s).bind fun _ s1 _ => (hp s1).map _)

end Good
end Pilota.Idl
