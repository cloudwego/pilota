import PilotaModel.TGen.Mem
/-  In the ownership ledger (TGen/Mem.lean) a failing decode leaves something unreachable only in the
    list arm, and only where elements are written before `set_len` (the synchronous template). -/
namespace Pilota.TGen
open Pilota Pilota.Thrift

/-- values of declared type `e` never own heap memory or input-buffer references -/
def OwnsNothing (d : Doc) (e : STy) : Prop := ∀ f v, owned d f e v = 0

/-- a value of this type is never an empty `binary` read at the very end of the buffer, nor ends with one: scalars, strings,
uuids, and named structs / unions / enums (a struct ends with its stop byte).  Containers and `binary` itself are excluded
(they own something anyway when non-empty); typedefs are excluded for simplicity. -/
def TailFree (d : Doc) : STy → Prop
  | .binary | .list _ | .set _ | .map _ _ => False
  | .ref n => ∀ t, d.find n ≠ some (.typedef t)
  | _ => True

/-- every list inside the type has elements that own nothing and are tail-free -/
def ListSafe (d : Doc) : STy → Prop
  | .list e => OwnsNothing d e ∧ TailFree d e ∧ ListSafe d e
  | .set e => ListSafe d e
  | .map k v => ListSafe d k ∧ ListSafe d v
  | _ => True

def DocSafe (d : Doc) : Prop :=
  (∀ n fs, d.find n = some (.struct fs) → ∀ fl ∈ fs, ListSafe d fl.ty) ∧
  (∀ n vs, d.find n = some (.union vs) → ∀ v ∈ vs, ListSafe d v.2) ∧
  (∀ n t, d.find n = some (.typedef t) → ListSafe d t)

variable {σ : Type} (R : Rd σ) (d : Doc) (sync : Bool)

theorem ofOut_err_zero {α} (o : Out α) (l : Nat) (h : OutL.ofOut o = .err l) : l = 0 := by
  cases o <;> cases h; rfl

theorem ofOut_ok_tail {α} (o : Out α) (a : α) (t : Bool) (h : OutL.ofOut o = .ok a t) : t = false := by
  cases o <;> cases h; rfl

theorem tailFree_ok (f : Nat) (e : STy) (he : TailFree d e) (s : σ) (x : TVal × σ) (t : Bool)
    (h : decTyL R d sync f e s = .ok x t) : t = false := by
  cases f with
  | zero => cases h
  | succ f =>
    cases e with
    | binary | list | set | map => exact he.elim
    | ref n =>
      simp only [decTyL] at h
      split at h
      -- a struct or a union comes back with the flag at its default
      · repeat' split at h
        all_goals cases h <;> rfl
      · repeat' split at h
        all_goals cases h <;> rfl
      · exact ofOut_ok_tail _ _ _ h
      · exact absurd ‹_› (he _)
      · cases h
    | _ => exact ofOut_ok_tail _ _ _ h

/-- `Q` passes from a type to the types under it (through the document at a `ref`), and where the elements of a list
are written before `set_len` it admits the list only if they own nothing and cannot carry the end-of-buffer flag.
The two instances: `Hereditary.async` (every type, the async template) and `DocSafe.hereditary` (`ListSafe d`). -/
structure Hereditary (Q : STy → Prop) : Prop where
  list : ∀ e, Q (.list e) → Q e ∧ (sync = true → OwnsNothing d e ∧ TailFree d e)
  set : ∀ e, Q (.set e) → Q e
  map : ∀ k v, Q (.map k v) → Q k ∧ Q v
  struct : ∀ n fs, d.find n = some (.struct fs) → ∀ fl ∈ fs, Q fl.ty
  union : ∀ n vs, d.find n = some (.union vs) → ∀ v ∈ vs, Q v.2
  typedef : ∀ n t, d.find n = some (.typedef t) → Q t

/-- The list arm is the only place where a failing decode leaks: one induction on the budget for the six mutually
recursive decoders.  The list loop needs, besides `Q e`, that what it has accumulated is owned by nobody. -/
theorem no_leak_all {Q : STy → Prop} (hQ : Hereditary d sync Q) : ∀ f : Nat,
    (∀ ty s l, Q ty → decTyL R d sync f ty s = .err l → l = 0) ∧
    (∀ e n acc t s l, Q e → (sync = true → OwnsNothing d e ∧ TailFree d e ∧ t = false) →
      decNL R d sync f e n acc t s = .err l → l = 0) ∧
    (∀ e n acc t s l, Q e → decNS R d sync f e n acc t s = .err l → l = 0) ∧
    (∀ k v n acc t s l, Q k → Q v → decPairsL R d sync f k v n acc t s = .err l → l = 0) ∧
    (∀ fs slots s l, (∀ fl ∈ fs, Q fl.ty) → decFieldsL R d sync f fs slots s = .err l → l = 0) ∧
    (∀ vs ret s l, (∀ v ∈ vs, Q v.2) → decUnionL R d sync f vs ret s = .err l → l = 0) := by
  intro f
  induction f with
  | zero => refine ⟨?_, ?_, ?_, ?_, ?_, ?_⟩ <;> intros <;> contradiction
  | succ f ih =>
    obtain ⟨ihT, ihN, ihS, ihP, ihF, ihU⟩ := ih
    refine ⟨?_, ?_, ?_, ?_, ?_, ?_⟩
    · intro ty s l hs h
      cases ty with
      | list e =>
        simp only [decTyL] at h
        split at h
        · split at h <;> cases h
          have ⟨hq, hg⟩ := hQ.list e hs
          exact ihN _ _ _ _ _ _ hq (fun hy => ⟨(hg hy).1, (hg hy).2, rfl⟩) ‹_›
        · exact ofOut_err_zero _ _ h
      | set e =>
        simp only [decTyL] at h
        split at h
        · split at h <;> cases h
          exact ihS _ _ _ _ _ _ (hQ.set e hs) ‹_›
        · exact ofOut_err_zero _ _ h
      | map k v =>
        simp only [decTyL] at h
        split at h
        · split at h <;> cases h
          exact ihP _ _ _ _ _ _ _ (hQ.map k v hs).1 (hQ.map k v hs).2 ‹_›
        · exact ofOut_err_zero _ _ h
      | ref n =>
        simp only [decTyL] at h
        split at h
        · split at h
          · repeat' split at h
            all_goals cases h <;> rfl
          · cases h; exact ihF _ _ _ _ (hQ.struct n _ ‹_›) ‹_›
          · cases h
          · cases h
        · split at h
          · repeat' split at h
            all_goals cases h <;> rfl
          · cases h; exact ihU _ _ _ _ (hQ.union n _ ‹_›) ‹_›
          · cases h
          · cases h
        · exact ofOut_err_zero _ _ h
        · exact ihT _ _ _ (hQ.typedef n _ ‹_›) h
        · cases h
      | binary =>
        simp only [decTyL] at h
        split at h
        · cases h
        · exact ofOut_err_zero _ _ h
      | _ => exact ofOut_err_zero _ _ h
    · intro e n acc t s l hq hg h
      cases n with
      | zero => cases h
      | succ n =>
        simp only [decNL] at h
        split at h
        · exact ihN _ _ _ _ _ _ hq (fun hy => ⟨(hg hy).1, (hg hy).2.1, tailFree_ok R d sync f e (hg hy).2.1 _ _ _ ‹_›⟩) h
        · have h0 := ihT _ _ _ hq ‹_›
          cases sync with
          | false => simp at h; omega
          | true =>
            obtain ⟨ho, -, rfl⟩ := hg rfl
            have hsum : (acc.map (owned d (d.length + 64) e)).sum = 0 :=
              List.sum_eq_zero_iff_forall_eq_nat.mpr (by simpa using fun v _ => ho _ v)
            simp at h; omega
        · cases h
        · cases h
    · intro e n acc t s l hq h
      cases n with
      | zero => cases h
      | succ n =>
        simp only [decNS] at h
        split at h
        · exact ihS _ _ _ _ _ _ hq h
        · cases h; exact ihT _ _ _ hq ‹_›
        · cases h
        · cases h
    · intro k v n acc t s l hk hv h
      cases n with
      | zero => cases h
      | succ n =>
        simp only [decPairsL] at h
        split at h
        · split at h
          · exact ihP _ _ _ _ _ _ _ hk hv h
          · cases h; exact ihT _ _ _ hv ‹_›
          · cases h
          · cases h
        · cases h; exact ihT _ _ _ hk ‹_›
        · cases h
        · cases h
    · intro fs slots s l hfs h
      simp only [decFieldsL] at h
      split at h
      · split at h
        · cases h
        · split at h
          · split at h
            · exact ihF _ _ _ _ hfs h
            · cases h; exact ihT _ _ _ (hfs _ (List.mem_of_find?_eq_some ‹_›)) ‹_›
            · cases h
            · cases h
          · split at h
            · exact ihF _ _ _ _ hfs h
            · exact ofOut_err_zero _ _ h
      · exact ofOut_err_zero _ _ h
    · intro vs ret s l hvs h
      simp only [decUnionL] at h
      split at h
      · split at h
        · cases h
        · split at h
          · split at h
            · cases h; rfl
            · split at h
              · exact ihU _ _ _ _ hvs h
              · cases h; exact ihT _ _ _ (hvs _ (List.mem_of_find?_eq_some ‹_›)) ‹_›
              · cases h
              · cases h
          · split at h
            · exact ihU _ _ _ _ hvs h
            · exact ofOut_err_zero _ _ h
      · exact ofOut_err_zero _ _ h

/-- pushed elements (the asynchronous template) ask nothing of the types -/
theorem Hereditary.async {d : Doc} : Hereditary d false fun _ => True := by
  constructor <;> intros <;> simp

theorem DocSafe.hereditary {d : Doc} {sync : Bool} (hd : DocSafe d) : Hereditary d sync (ListSafe d) where
  list _ h := ⟨h.2.2, fun _ => ⟨h.1, h.2.1⟩⟩
  set _ h := h
  map _ _ h := h
  struct := hd.1
  union := hd.2.1
  typedef := hd.2.2

theorem ownsNothing_scalar (d : Doc) (e : STy)
    (h : e = .bool ∨ e = .i8 ∨ e = .i16 ∨ e = .i32 ∨ e = .i64 ∨ e = .double ∨ e = .uuid) : OwnsNothing d e := by
  intro f v
  rcases h with rfl | rfl | rfl | rfl | rfl | rfl | rfl <;> cases f <;> rfl

end Pilota.TGen
