import PilotaModel.Lemmas.OutSafe
/-
  How a reader of the protobuf model is spoken of.  `Out.good P o`: `o` is an error, or a success satisfying `P`
  (never a panic, never out of budget); it is `o.Safe False False P` of Lemmas/OutSafe.lean under a definition of its own
  (the same `match`; `Iff.rfl`; the statements of C10 are written with it), and proofs pass one for the other.  `Out.Sim` is `Out.Beside` without panic and fuel;
  `Reader x f`: `f` on an input beside `f` on that input followed by `x`.
-/
namespace Pilota.Proto
open Pilota

def Out.good {α} (P : α → Prop) : Out α → Prop
  | .ok a => P a
  | .err _ => True
  | .panic _ => False
  | .fuel => False

theorem Out.good_imp {α} {P Q : α → Prop} (h : ∀ a, P a → Q a) : ∀ o : Out α, Out.good P o → Out.good Q o := by
  intro o; cases o <;> simp [Out.good]; exact h _

@[elab_as_elim]
theorem Out.good.cases {α} {P : α → Prop} {motive : Out α → Prop} {x : Out α} (h : Out.good P x)
    (ok : ∀ a, P a → motive (.ok a)) (err : ∀ k, motive (.err k)) : motive x := by
  cases x with
  | ok a => exact ok a h
  | err k => exact err k
  | panic e => exact False.elim h
  | fuel => exact False.elim h

def Out.mapOk {α β} (f : α → β) : Out α → Out β
  | .ok a => .ok (f a)
  | .err k => .err k
  | .panic e => .panic e
  | .fuel => .fuel

abbrev Out.Sim {α β} (P : α → Prop) (φ : α → β) (x : Out α) (y : Out β) : Prop := Pilota.Out.Beside False False P φ x y

theorem Out.Sim.of_good {α} {P : α → Prop} {φ : α → α} {x : Out α} (h : Out.good P x) (hφ : ∀ a, φ a = a) : Out.Sim P φ x x := by
  cases x <;> first | exact h | exact ⟨h, by rw [hφ]⟩

theorem Out.Sim.mapOk {α β α' β'} {P : α → Prop} {Q : α' → Prop} {φ : α → β} {ψ : α' → β'} {f : α → α'} {g : β → β'}
    {x : Out α} {y : Out β} (h : Out.Sim P φ x y) (hp : ∀ a, P a → Q (f a)) (hc : ∀ a, g (φ a) = ψ (f a)) :
    Out.Sim Q ψ (Out.mapOk f x) (Out.mapOk g y) :=
  by cases x <;> first | exact h | exact ⟨hp _ h.1, h.2 ▸ congrArg Out.ok (hc _)⟩

theorem Out.Sim.guard {α β} {P : α → Prop} {φ : α → β} {n : Nat} {r x : Bytes} {e : ErrKind} {k : Out α} {k' : Out β}
    (h : n ≤ r.length → Out.Sim P φ k k') :
    Out.Sim P φ (if n > r.length then .err e else k) (if n > (r ++ x).length then .err e else k') := by
  split
  · trivial
  · rw [if_neg (by simp only [List.length_append]; omega)]; exact h (by omega)

/-- Nothing is said of the longer run where the shorter one fails (a truncated input may well be read once it is
extended).  `Reader [] f` is `Out.good` of `f` on every input. -/
def Reader {α} (x : Bytes) (f : Bytes → Out (α × Bytes)) : Prop :=
  ∀ bs, Out.Sim (fun p => p.2.length < bs.length) (Out.withTail x) (f bs) (f (bs ++ x))

end Pilota.Proto
