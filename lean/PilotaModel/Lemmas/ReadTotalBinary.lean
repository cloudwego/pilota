import PilotaModel.Lemmas.ReadBasics
import PilotaModel.Lemmas.Walk
/-
  The binary / LE reading interpreter is the value walker over the reader's own primitives (`readVal_eq_walk`).  Hence, on
  EVERY input: it never panics, consumes at least what it builds, never runs out of the top-level budget (`readVal_safe`),
  and does not look past the bytes it consumes (`readVal_ext`).
-/
namespace Pilota.Thrift.Binary
open Pilota Pilota.Thrift

def walkPrims (e : Endian) : Walk.Prims Bytes where
  leaf l := readVal e 1 l.ttype
  structBegin := id
  structEnd := .ok
  fieldBegin := readFieldBegin e
  listBegin := readListBegin e
  mapBegin := readMapBegin e

/-- Equations of functions, so that they rewrite under binders.  Each of the model's four-way `match`es is `Out.bind` once
its scrutinee is taken apart; the two are not the same term before. -/
theorem readVal_eq_walk (e : Endian) : ∀ f,
    readVal e f = Walk.val (walkPrims e) f ∧ readFields e f = Walk.fields (walkPrims e) f ∧
    readN e f = Walk.elems (walkPrims e) f ∧ readPairs e f = Walk.pairs (walkPrims e) f := by
  intro f
  induction f with
  | zero => exact ⟨by funext t bs; rfl, by funext bs; rfl, by funext t n bs; rfl, by funext kt vt n bs; rfl⟩
  | succ f ih =>
    obtain ⟨ih1, ih2, ih3, ih4⟩ := ih
    refine ⟨?_, ?_, ?_, ?_⟩
    · funext t bs
      cases t <;> unfold Walk.val
      case struct => rw [← ih2]; unfold readVal; show _ = Out.bind (readFields e f bs) _; cases readFields e f bs <;> rfl
      case list | set =>
        rw [← ih3]; unfold readVal; show _ = Out.bind (readListBegin e bs) _
        cases readListBegin e bs with
        | ok a => obtain ⟨⟨et, n⟩, r⟩ := a; dsimp only [Out.bind]; cases readN e f et n r <;> rfl
        | _ => rfl
      case map =>
        rw [← ih4]; unfold readVal; show _ = Out.bind (readMapBegin e bs) _
        cases readMapBegin e bs with
        | ok a => obtain ⟨⟨kt, vt, n⟩, r⟩ := a; dsimp only [Out.bind]; cases readPairs e f kt vt n r <;> rfl
        | _ => rfl
      all_goals rfl
    · funext bs
      unfold Walk.fields readFields
      rw [← ih1, ← ih2]; show _ = Out.bind (readFieldBegin e bs) _
      cases readFieldBegin e bs with
      | ok a =>
        obtain ⟨⟨t, id⟩, r⟩ := a
        dsimp only [Out.bind]
        split
        · rfl
        · cases readVal e f t r with
          | ok a => dsimp only; cases readFields e f a.2 <;> rfl
          | _ => rfl
      | _ => rfl
    · funext t n bs
      cases n <;> unfold Walk.elems readN
      · rfl
      · rw [← ih1, ← ih3]
        cases readVal e f t bs with
        | ok a => dsimp only [Out.bind]; cases readN e f t _ a.2 <;> rfl
        | _ => rfl
    · funext kt vt n bs
      cases n <;> unfold Walk.pairs readPairs
      · rfl
      · rw [← ih1, ← ih4]
        cases readVal e f kt bs with
        | ok a =>
          dsimp only [Out.bind]
          cases readVal e f vt a.2 with
          | ok b => dsimp only; cases readPairs e f kt vt _ b.2 <;> rfl
          | _ => rfl
        | _ => rfl

theorem leaf_reads (e : Endian) (l : Walk.Leaf) {bs : Bytes} (q : Bytes) :
    Out.Beside False False (fun x => 3 * x.2.length < 3 * bs.length ∧ x.1.weight + 3 * x.2.length ≤ 3 * bs.length) (Out.withTail q)
      (readVal e 1 l.ttype bs) (readVal e 1 l.ttype (bs ++ q)) := by
  cases l <;> dsimp only [Walk.Leaf.ttype] <;> unfold readVal
  case bool | i8 | i16 | i32 | i64 => beside_step readI_reads q; exact ⟨by dsimp only [TVal.weight]; omega, rfl⟩
  case double => beside_step readU_reads q; exact ⟨by dsimp only [TVal.weight]; omega, rfl⟩
  case binary => beside_step readBytes_reads q; exact ⟨by dsimp only [TVal.weight]; omega, rfl⟩
  case uuid => beside_step takeN_reads q; exact ⟨by dsimp only [TVal.weight]; omega, rfl⟩

theorem walkPrims_safe (e : Endian) : (walkPrims e).Safe fun bs => 3 * bs.length where
  leaf l _ := (leaf_reads e l []).safe
  structBegin _ := rfl
  structEnd _ := Nat.le_refl _
  fieldBegin bs := (readFieldBegin_reads []).mono id id fun _ h => by omega
  listBegin bs := (readListBegin_reads []).mono id id fun _ h => by omega
  mapBegin bs := (readMapBegin_reads []).mono id id fun _ h => by omega

theorem readVal_safe (e : Endian) (f : Nat) (t : TType) (bs : Bytes) : (readVal e f t bs).Safe False (f < 3 * bs.length + 2) fun x =>
    x.2.length < bs.length ∧ x.1.weight + 3 * x.2.length ≤ 3 * bs.length :=
  (readVal_eq_walk e f).1 ▸ ((Walk.safe (walkPrims_safe e) f).1 t bs).mono id id fun _ h => by omega

theorem readVal_len {e f t bs v r} (h : readVal e f t bs = .ok (v, r)) : r.length + 1 ≤ bs.length :=
  ((readVal_safe e f t bs).ok h).1
theorem readFields_len {e f bs fs r} (h : readFields e f bs = .ok (fs, r)) : r.length + 1 ≤ bs.length := by
  have := (((Walk.safe (walkPrims_safe e) f).2.1 bs).ok (a := (fs, r)) ((readVal_eq_walk e f).2.1 ▸ h)).1; dsimp only at this; omega
theorem readN_len {e f et n bs xs r} (h : readN e f et n bs = .ok (xs, r)) : r.length ≤ bs.length := by
  have := ((Walk.safe (walkPrims_safe e) f).2.2.1 et n bs).ok (a := (xs, r)) ((readVal_eq_walk e f).2.2.1 ▸ h); dsimp only at this; omega
theorem readPairs_len {e f kt vt n bs xs r} (h : readPairs e f kt vt n bs = .ok (xs, r)) : r.length ≤ bs.length := by
  have := ((Walk.safe (walkPrims_safe e) f).2.2.2 kt vt n bs).ok (a := (xs, r)) ((readVal_eq_walk e f).2.2.2 ▸ h); dsimp only at this; omega

theorem walkPrims_ext (e : Endian) (q : Bytes) : (walkPrims e).Sim (walkPrims e) (fun s s' => s' = s ++ q) fun _ _ => True where
  leaf l _ _ hs := hs ▸ .of_app fun _ _ => (leaf_reads e l q).ext
  structBegin h := h
  structEnd h s1 e := by cases e; exact ⟨_, rfl, h⟩
  fieldBegin hs _ _ _ h := hs ▸ ⟨_, (readFieldBegin_reads q).ext h, rfl⟩
  listBegin _ hs et n r h _ := hs ▸ ⟨_, (readListBegin_reads q).ext h, rfl⟩
  mapBegin hs kt vt n r h _ := hs ▸ ⟨_, (readMapBegin_reads q).ext h, rfl⟩

theorem readVal_ext (e : Endian) (q : Bytes) {f f' t p v r} (hf : f ≤ f') (h : readVal e f t p = .ok (v, r)) :
    readVal e f' t (p ++ q) = .ok (v, r ++ q) := by
  rw [(readVal_eq_walk e f).1] at h
  rw [(readVal_eq_walk e f').1]
  exact ((Walk.simV (walkPrims_ext e q) (fun _ => trivial) (fun _ => trivial) f f' hf).1 t rfl).app h

end Pilota.Thrift.Binary
