import PilotaModel.Lemmas.TValList
import PilotaModel.Lemmas.IsBase
/-
  Typed values (`hasTy`) by cases: a value of a base type (`isBase`), or one of eight composite shapes whose parts
  are typed one level below.  `hasTy_step` is the eliminator the theorems about typed values go through.
-/
namespace Pilota.TGen
open Pilota Pilota.Thrift

theorem hasTy_step (d : Doc) {f : Nat} {Q : STy → TVal → Prop}
    (base : ∀ ty w, isBase ty w = true → Q ty w)
    (list : ∀ e xs, (∀ x ∈ xs.toList, hasTy d f e x = true) → Q (.list e) (.list (d.ttype e) xs))
    (set : ∀ e xs, (∀ x ∈ xs.toList, hasTy d f e x = true) → xs.toList.Nodup → Q (.set e) (.set (d.ttype e) xs))
    (map : ∀ k v kvs, (∀ p ∈ kvs.toList, hasTy d f k p.1 = true ∧ hasTy d f v p.2 = true) → (kvs.toList.map (·.1)).Nodup →
      Q (.map k v) (.map (d.ttype k) (d.ttype v) kvs))
    (struct : ∀ n fs wfs, d.find n = some (.struct fs) → hasFields d (hasTy d f) fs wfs = true → Q (.ref n) (.struct wfs))
    (variant : ∀ n vs id v pid ty, d.find n = some (.union vs) → vs.find? (fun x => x.1 == id && !(x.2 == .void)) = some (pid, ty) →
      inS 2 id → d.ttype ty = v.ttype → hasTy d f ty v = true → Q (.ref n) (.struct (.cons id v .nil)))
    (unit : ∀ n i tl, d.find n = some (.union ((i, .void) :: tl)) → Q (.ref n) (.struct .nil))
    (enum : ∀ n x, d.find n = some .enum → Q (.ref n) (.i32 x))
    (typedef : ∀ n t w, d.find n = some (.typedef t) → hasTy d f t w = true → Q (.ref n) w) :
    ∀ ty w, hasTy d (f + 1) ty w = true → Q ty w := by
  intro ty w h
  cases ty with
  | list e =>
    cases w <;> first | cases h | skip
    simp only [hasTy, Bool.and_eq_true, beq_iff_eq, allV_iff] at h
    rw [h.1]; exact list e _ h.2
  | set e =>
    cases w <;> first | cases h | skip
    simp only [hasTy, Bool.and_eq_true, beq_iff_eq, allV_iff, distinctL_iff] at h
    rw [h.1.1]; exact set e _ h.1.2 h.2
  | map k v =>
    cases w <;> first | cases h | skip
    simp only [hasTy, Bool.and_eq_true, beq_iff_eq, allP_iff, distinctL_iff] at h
    rw [h.1.1.1, h.1.1.2]; exact map k v _ h.1.2 h.2
  | ref n =>
    dsimp only [hasTy] at h
    cases hn : d.find n with
    | none => rw [hn] at h; cases h
    | some df =>
      rw [hn] at h
      cases df with
      | struct fs => cases w <;> first | (cases h; done) | exact struct n fs _ hn h
      | union vs =>
        cases w <;> first | cases h | skip
        rename_i wfs
        cases wfs with
        | nil =>
          cases vs with
          | nil => cases h
          | cons p tl => obtain ⟨i, t⟩ := p; cases t <;> first | (cases h; done) | exact unit n i tl hn
        | cons id v r =>
          cases r with
          | cons => cases h
          | nil =>
            dsimp only at h
            cases hfind : vs.find? (fun x => x.1 == id && !(x.2 == .void)) with
            | none => rw [hfind] at h; cases h
            | some p =>
              rw [hfind] at h
              simp only [Bool.and_eq_true, decide_eq_true_eq, beq_iff_eq] at h
              exact variant n vs id v p.1 p.2 hn hfind h.1.1 h.1.2 h.2
      | enum => cases w <;> first | (cases h; done) | exact enum n _ hn
      | typedef t => exact typedef n t w hn h
  | void => cases w <;> cases h
  | _ => cases w <;> first | (cases h; done) | exact base _ _ rfl

theorem hasFields_skip (d : Doc) (P : STy → TVal → Bool) (fl : Field) (fs : List Field) (wfs : TFields) (hr : fl.required = false) (hd : fl.dflt = none)
    (hne : ∀ p ∈ wfs.toList, p.1 ≠ fl.id) (h : hasFields d P fs wfs = true) : hasFields d P (fl :: fs) wfs = true := by
  cases wfs with
  | nil => simp [hasFields, hr, hd, h]
  | cons id v r =>
    have : (fl.id == id) = false := by simpa using fun e => hne (id, v) (by simp [TFields.toList]) e.symm
    simp [hasFields, this, hr, hd, h]

theorem hasFields_imp (d : Doc) {P Q : STy → TVal → Bool} (h : ∀ t x, P t x = true → Q t x = true) :
    ∀ (fs : List Field) (wfs : TFields), hasFields d P fs wfs = true → hasFields d Q fs wfs = true := by
  intro fs
  induction fs with
  | nil => intro wfs hw; cases wfs <;> simp_all [hasFields]
  | cons fl fs ih =>
    intro wfs hw
    cases wfs with
    | nil => simp only [hasFields, Bool.and_eq_true] at hw ⊢; exact ⟨hw.1, ih _ hw.2⟩
    | cons id v r =>
      simp only [hasFields] at hw ⊢
      split
      · rename_i hid
        simp only [hid, if_true, Bool.and_eq_true] at hw ⊢
        exact ⟨⟨hw.1.1, h _ _ hw.1.2⟩, ih _ hw.2⟩
      · rename_i hid
        simp only [hid, Bool.false_eq_true, if_false, Bool.and_eq_true] at hw ⊢
        exact ⟨hw.1, ih _ hw.2⟩

theorem hasTy_succ (d : Doc) : ∀ (f : Nat) (ty : STy) (w : TVal), hasTy d f ty w = true → hasTy d (f + 1) ty w = true := by
  intro f
  induction f with
  | zero => intro ty w h; cases h
  | succ f ih =>
    refine hasTy_step d (fun ty w hb => hasTy_base d _ hb) (fun e xs hall => ?_) (fun e xs hall hnd => ?_) (fun k v kvs hall hnd => ?_)
      (fun n fs wfs hn h => ?_) (fun n vs id v pid ty hn hfind hin htt hty => ?_) (fun n i tl hn => ?_) (fun n x hn => ?_)
      (fun n t w hn h => ?_)
    · simp only [hasTy, beq_self_eq_true, Bool.true_and, allV_iff]
      exact fun x hx => ih e x (hall x hx)
    · simp only [hasTy, beq_self_eq_true, Bool.true_and, Bool.and_eq_true, allV_iff, distinctL_iff]
      exact ⟨fun x hx => ih e x (hall x hx), hnd⟩
    · simp only [hasTy, beq_self_eq_true, Bool.true_and, Bool.and_eq_true, allP_iff, distinctL_iff]
      exact ⟨fun p hp => ⟨ih k _ (hall p hp).1, ih v _ (hall p hp).2⟩, hnd⟩
    · simp only [hasTy, hn]
      exact hasFields_imp d (fun t x => ih t x) _ _ h
    · simp only [hasTy, hn, hfind, Bool.and_eq_true, decide_eq_true_eq, beq_iff_eq]
      exact ⟨⟨hin, htt⟩, ih ty v hty⟩
    · simp only [hasTy, hn]
    · simp only [hasTy, hn]
    · simp only [hasTy, hn]
      exact ih t w h

theorem hasTy_mono (d : Doc) (f g : Nat) (hfg : f ≤ g) (ty : STy) (w : TVal) (h : hasTy d f ty w = true) : hasTy d g ty w = true := by
  induction hfg with
  | refl => exact h
  | step _ ih => exact hasTy_succ d _ ty w ih

end Pilota.TGen
