import PilotaModel.TGen.Decode
import PilotaModel.Lemmas.OutSafe
import PilotaModel.Lemmas.Finish
/-
  The emitted decoders as monadic programs.  The model spells every sequencing step as a four-way `match`; here each
  decoder function gets its equation in `Out.bind` form once, so that the facts about them go through the rules of
  `Out.Safe` and `Out.Ext` (Lemmas/OutSafe.lean): so in GenTotal and GenExt.  The correspondence with the shadows (Tolerant,
  TolerantK) and the async simulations (AsyncGen ..) step through the model's raw matches instead.
-/
namespace Pilota
namespace TGen
open Pilota.Thrift

theorem mapOut_eq_ok {α β} (g : α → β) (x : Out α) (b : β) : mapOut g x = .ok b ↔ ∃ a, x = .ok a ∧ g a = b := by
  cases x <;> simp [mapOut]

theorem _root_.Pilota.Out.Safe.mapOut {α β} {N F : Prop} {x : Out α} {g : α → β} {P : β → Prop} (h : x.Safe N F fun a => P (g a)) :
    (mapOut g x).Safe N F P := by
  cases x <;> exact h

theorem _root_.Pilota.Out.Ext.mapOut {α α' β β'} {φ : α → α'} {ψ : β → β'} {x : Out α} {y : Out α'} {g : α → β} {g' : α' → β'}
    (h : Out.Ext φ x y) (hg : ∀ a, g' (φ a) = ψ (g a)) : Out.Ext ψ (mapOut g x) (mapOut g' y) := by
  cases x with
  | ok a => rw [h a rfl]; exact fun _ e => by cases e; exact congrArg _ (hg a)
  | _ => intro _ e; cases e

theorem finish_safe {N F : Prop} (fs : List Field) (slots : List (Int × TVal)) : (finish fs slots).Safe N F fun _ => True := by
  rw [finish_eq]; split <;> trivial

/-- what a union's field loop leaves: the variant read, or `()` for a void method result, else "received empty union" -/
def unionVal (vs : List (Int × STy)) : Option (Int × TVal) → Out TVal
  | some (id, v) => .ok (.struct (.cons id v .nil))
  | none => match vs with
    | (_, .void) :: _ => .ok (.struct .nil)
    | _ => .err .invalid

section
variable {σ : Type} (R : Rd σ) (d : Doc) (f : Nat) (s : σ)

theorem decTy_list (e : STy) : decTy R d (f + 1) (.list e) s =
    (R.listBegin s).bind fun x => (decN R d f e x.1.2 [] x.2).bind fun y =>
      .ok (.list (d.ttype e) (TVals.ofList y.1), y.2) := by
  dsimp only [decTy]
  cases R.listBegin s with
  | ok x => dsimp only [Out.bind]; cases decN R d f e x.1.2 [] x.2 <;> rfl
  | _ => rfl

theorem decTy_set (e : STy) : decTy R d (f + 1) (.set e) s =
    (R.listBegin s).bind fun x => (decN R d f e x.1.2 [] x.2).bind fun y =>
      .ok (.set (d.ttype e) (TVals.ofList (y.1.foldl setInsert [])), y.2) := by
  dsimp only [decTy]
  cases R.listBegin s with
  | ok x => dsimp only [Out.bind]; cases decN R d f e x.1.2 [] x.2 <;> rfl
  | _ => rfl

theorem decTy_map (k v : STy) : decTy R d (f + 1) (.map k v) s =
    (R.mapBegin s).bind fun x => (decPairs R d f k v x.1.2.2 [] x.2).bind fun y =>
      .ok (.map (d.ttype k) (d.ttype v) (TPairs.ofList (y.1.foldl (fun a p => mapInsert a p.1 p.2) [])), y.2) := by
  dsimp only [decTy]
  cases R.mapBegin s with
  | ok x => dsimp only [Out.bind]; cases decPairs R d f k v x.1.2.2 [] x.2 <;> rfl
  | _ => rfl

theorem decTy_struct {n : String} {fs : List Field} (h : d.find n = some (.struct fs)) : decTy R d (f + 1) (.ref n) s =
    (decFields R d f fs [] (R.structBegin s)).bind fun x => (R.structEnd x.2).bind fun s' =>
      (finish fs x.1).bind fun out => .ok (.struct (TFields.ofList out), s') := by
  dsimp only [decTy]; rw [h]; dsimp only
  cases decFields R d f fs [] (R.structBegin s) with
  | ok x =>
    dsimp only [Out.bind]
    cases R.structEnd x.2 with
    | ok s' => dsimp only; cases finish fs x.1 <;> rfl
    | _ => rfl
  | _ => rfl

theorem decTy_union {n : String} {vs : List (Int × STy)} (h : d.find n = some (.union vs)) : decTy R d (f + 1) (.ref n) s =
    (decUnion R d f vs none (R.structBegin s)).bind fun x => (R.structEnd x.2).bind fun s' =>
      mapOut (·, s') (unionVal vs x.1) := by
  dsimp only [decTy]; rw [h]; dsimp only
  cases decUnion R d f vs none (R.structBegin s) with
  | ok x =>
    dsimp only [Out.bind]
    cases R.structEnd x.2 with
    | ok s' =>
      obtain ⟨ret, s1⟩ := x
      cases ret with
      | some p => rfl
      | none =>
        cases vs with
        | nil => rfl
        | cons p _ => obtain ⟨_, t⟩ := p; cases t <;> rfl
    | _ => rfl
  | _ => rfl

theorem decN_succ (e : STy) (n : Nat) (acc : List TVal) : decN R d (f + 1) e (n + 1) acc s =
    (decTy R d f e s).bind fun x => decN R d f e n (x.1 :: acc) x.2 := by
  dsimp only [decN]; cases decTy R d f e s <;> rfl

theorem decPairs_succ (k v : STy) (n : Nat) (acc : List (TVal × TVal)) : decPairs R d (f + 1) k v (n + 1) acc s =
    (decTy R d f k s).bind fun x => (decTy R d f v x.2).bind fun y => decPairs R d f k v n ((x.1, y.1) :: acc) y.2 := by
  dsimp only [decPairs]
  cases decTy R d f k s with
  | ok x => dsimp only [Out.bind]; cases decTy R d f v x.2 <;> rfl
  | _ => rfl

theorem decFields_succ (fs : List Field) (slots : List (Int × TVal)) : decFields R d (f + 1) fs slots s =
    (R.fieldBegin s).bind fun x =>
      if x.1.1 = .stop then .ok (slots, x.2)
      else match fs.find? (fun fl => fl.id == x.1.2 && d.ttype fl.ty == x.1.1) with
        | some fl => (decTy R d f fl.ty x.2).bind fun y => decFields R d f fs (slotSet slots x.1.2 y.1) y.2
        | none => (R.skip x.1.1 x.2).bind fun s' => decFields R d f fs slots s' := by
  dsimp only [decFields]
  cases R.fieldBegin s with
  | ok x =>
    dsimp only [Out.bind]
    split
    · rfl
    · split
      next fl h => rw [h]; dsimp only; cases decTy R d f fl.ty x.2 <;> rfl
      next h => rw [h]; dsimp only; cases R.skip x.1.1 x.2 <;> rfl
  | _ => rfl

theorem decUnion_succ (vs : List (Int × STy)) (ret : Option (Int × TVal)) : decUnion R d (f + 1) vs ret s =
    (R.fieldBegin s).bind fun x =>
      if x.1.1 = .stop then .ok (ret, x.2)
      else match vs.find? (fun v => v.1 == x.1.2 && !(v.2 == .void)) with
        | some p => if ret.isSome then .err .invalid
          else (decTy R d f p.2 x.2).bind fun y => decUnion R d f vs (some (x.1.2, y.1)) y.2
        | none => (R.skip x.1.1 x.2).bind fun s' => decUnion R d f vs ret s' := by
  dsimp only [decUnion]
  cases R.fieldBegin s with
  | ok x =>
    dsimp only [Out.bind]
    split
    · rfl
    · split
      next i ty h =>
        rw [h]; dsimp only
        split
        · rfl
        · cases decTy R d f ty x.2 <;> rfl
      next h => rw [h]; dsimp only; cases R.skip x.1.1 x.2 <;> rfl
  | _ => rfl

end
end TGen
end Pilota
