import PilotaModel.Lemmas.PbTop
/-
  The recursion limit on messages: `message Rec { optional Rec inner = 1; }` nested `n` deep
  decodes with a budget of at least `n` and is refused with the recursion-limit error otherwise.
-/
namespace Pilota.Proto
open Pilota

def selfRec : Schema := [[.single 1 (.msg 0) true]]

def nestV : Nat → Slots
  | 0 => .cons .none .nil
  | n + 1 => .cons (.some (.msg (nestV n))) .nil

theorem selfRec_wf : WFSchema selfRec = true := by decide
theorem selfRec_decls : decls selfRec 0 = [.single 1 (.msg 0) true] := rfl
theorem selfRec_defaultMsg : defaultMsg selfRec 0 = nestV 0 := by decide

theorem nestV_need : ∀ n, needSlots (nestV n) = n
  | 0 => rfl
  | n + 1 => by simp [nestV, needSlots, needSlot, needE, nestV_need n]

theorem nest_too_deep (flag : Bool) : ∀ (n ctx : Nat), ctx < n → okSlots selfRec flag (decls selfRec 0) (nestV n) = true →
    ∀ (rest : Bytes) (f : Nat), (encSlots selfRec flag (decls selfRec 0) (nestV n) ++ rest).length < f →
      mergeLoopGo (fieldStep (mergeField selfRec ctx) (decls selfRec 0)) f (nestV 0)
        (encSlots selfRec flag (decls selfRec 0) (nestV n) ++ rest) rest.length = .err .depth := by
  intro n
  induction n with
  | zero => intro ctx h; omega
  | succ n ih =>
    intro ctx hn hy rest f hf
    obtain ⟨f, rfl⟩ : ∃ g, f = g + 1 := ⟨f - 1, by omega⟩
    have hy' : okSlots selfRec flag (decls selfRec 0) (nestV n) = true ∧ lenSlots selfRec flag (decls selfRec 0) (nestV n) < 2 ^ 64 := by
      have h0 := hy
      simp only [selfRec_decls, nestV, okSlots, okSlot, okE, Bool.and_eq_true, Bool.and_true] at h0
      exact ⟨h0.1, of_decide_eq_true h0.2⟩
    have hlen := lenSlots_eq selfRec flag selfRec_wf (decls selfRec 0) (by decide) (nestV n) hy'.1
    have hb : encSlots selfRec flag (decls selfRec 0) (nestV (n + 1)) ++ rest = keyBytes 1 .len ++
        (encodeVarint (lenSlots selfRec flag (decls selfRec 0) (nestV n)) ++ (encSlots selfRec flag (decls selfRec 0) (nestV n) ++ rest)) := by
      simp [nestV, encSlots, encSlot, encE, selfRec_decls, List.append_assoc]
    rw [hb, hlen] at hf ⊢
    have hkp := keyBytes_pos 1 .len
    unfold mergeLoopGo
    rw [if_pos (by simp only [List.length_append]; omega)]
    simp only [fieldStep, decodeKey_keyBytes 1 .len (by decide) (by decide)]
    -- the record through `merge_field`: refused at once with no budget left, otherwise by the nested message one level down
    cases ctx with
    | zero => rfl
    | succ c =>
      have hin := ih c (by omega) hy'.1 rest _ (Nat.lt_succ_self _)
      have ht : (FieldDecl.single 1 (.msg 0) true).tags.contains 1 = true := rfl
      rw [hlen] at hy'
      simp only [selfRec_decls, nestV] at hin hy' ⊢
      simp only [mergeField, mergeFieldWith_hit ht, mergeSlot, optCur, defaultE_msg, selfRec_defaultMsg, mergeE,
        checkWireType, if_true, EVal.fields, mergeLoop_exact _ _ _ _ hy'.2, selfRec_decls, nestV, hin]
      rfl

theorem nest_limit (flag : Bool) (n ctx : Nat) (hy : okSlots selfRec flag (decls selfRec 0) (nestV n) = true) :
    decodeIntoCtx selfRec ctx 0 (nestV 0) (encode selfRec flag 0 (nestV n)) = if n ≤ ctx then .ok (nestV n) else .err .depth := by
  split
  · rename_i h
    have := decodeIntoCtx_encode selfRec flag selfRec_wf ctx 0 (nestV 0) (nestV n) hy (by rw [nestV_need]; exact h) (by decide)
    rw [this, ← selfRec_defaultMsg, mergeVal_default selfRec flag selfRec_wf 0 (nestV n) hy]
  · rename_i h
    unfold decodeIntoCtx encode
    have := nest_too_deep flag n ctx (by omega) hy [] ((encSlots selfRec flag (decls selfRec 0) (nestV n)).length + 1) (by simp)
    simp only [List.append_nil, List.length_nil] at this
    rw [this]

end Pilota.Proto
