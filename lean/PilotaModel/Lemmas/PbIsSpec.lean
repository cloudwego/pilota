import PilotaModel.Lemmas.PbRecs
import PilotaModel.Lemmas.PbDefault
import PilotaModel.Lemmas.PbSpecLower
/-
  C06, first direction: what pilota writes is a conforming encoding (`Spec.Enc`) of the value.
  The records are those of `PbRecs`; a scalar record conforms because its module does
  (`encE_scalar`), a message record because its body does, by induction on the value.
-/
namespace Pilota.Proto
open Pilota Spec

/-- pilota's unpacked repeated scalars are an admissible record sequence of a packable field. -/
theorem encPacked_unpacked (s : Schema) (flag : Bool) (t : Nat) {pty : PFTy} {c : Codec} (hl : lowerTy pty = .scalar c) :
    ∀ (vs : List SVal), Codec.allOk c vs → EncPacked t pty (recsEs s flag t (lowerTy pty) (svalsToE vs)) vs
  | [], _ => rfl
  | v :: vs, hok => by
    have hok := List.forall_mem_cons.mp hok
    have ih := encPacked_unpacked s flag t hl vs hok.2
    rw [hl] at ih ⊢
    exact ⟨rfl, .inl ⟨(wireOfTy_lower hl).symm, v, vs, rfl, (encScalar_lower hl hok.1.1).symm, ih⟩⟩

mutual
theorem isSpecE (ps : PSchema) (flag : Bool) (hs : WFSchema (lowerSchema ps) = true) (pty : PFTy) (v : EVal) (tag : Nat)
    (hy : okE (lowerSchema ps) flag (lowerTy pty) v = true) :
    EncE ps pty v (recE (lowerSchema ps) flag tag (lowerTy pty) v) := by
  cases v with
  | s x =>
    obtain ⟨c, hl, hok, _⟩ := okE_s hy
    rw [hl]
    exact (encE_scalar hl hok).mpr ⟨rfl, rfl⟩
  | msg fs =>
    obtain ⟨i, hl, hfs, hlen⟩ := okE_msg hy
    cases lowerTy_msg hl
    have hdw := decls_wf _ hs i
    rw [lenSlots_eq _ flag hs _ hdw.1 fs hfs, ← flat_recsSlots _ flag hs _ fs hfs] at hlen
    exact ⟨rfl, _, payE_msg _ flag hs i fs hfs, hlen, isSpecSlots ps flag hs (pdecls ps i) _ (decls_lower ps i) fs hdw.1 hdw.2 hfs⟩
termination_by structural v
theorem isSpecSlot (ps : PSchema) (flag : Bool) (hs : WFSchema (lowerSchema ps) = true) (pd : PDecl) (v : Slot)
    (hd : (lowerDecl pd).wfIn (lowerSchema ps).length = true) (hy : okSlot (lowerSchema ps) flag (lowerDecl pd) v = true) :
    EncSlot ps pd v (recsSlot (lowerSchema ps) flag (lowerDecl pd) v) := by
  cases v with
  | req x =>
    cases pd with
    | single t ty opt =>
      cases opt with
      | false => exact .inl ⟨_, rfl, rfl, isSpecE ps flag hs ty x t hy⟩
      | true => cases hy
    | _ => cases hy
  | none =>
    cases pd with
    | single t ty opt =>
      cases opt with
      | true => exact rfl
      | false => cases hy
    | oneof vs => exact rfl
    | _ => cases hy
  | some x =>
    cases pd with
    | single t ty opt =>
      cases opt with
      | true => exact ⟨_, rfl, rfl, isSpecE ps flag hs ty x t hy⟩
      | false => cases hy
    | _ => cases hy
  | rep xs =>
    cases pd with
    | rep t ty =>
      by_cases hp : packable ty = true
      · obtain ⟨c, hl, _⟩ := packable_lower hp
        have hy : okEs _ flag (lowerTy ty) xs = true := hy
        rw [hl] at hy
        obtain ⟨vs, rfl, hok⟩ := okEs_scalar hy
        exact (if_pos hp).mpr ⟨vs, svalsOf_svalsToE vs, encPacked_unpacked _ flag t hl vs hok⟩
      · exact (if_neg hp).mpr (isSpecRep ps flag hs t ty xs hy)
    | single t ty opt => cases opt <;> cases hy
    | _ => cases hy
  | map kvs =>
    cases pd with
    | map t k vty =>
      exact isSpecMap ps flag hs t k (Bool.and_eq_true_iff.mp (Bool.and_eq_true_iff.mp hd).1).2 vty kvs (Bool.and_eq_true_iff.mp hy).1
    | single t ty opt => cases opt <;> cases hy
    | _ => cases hy
  | one t x =>
    cases pd with
    | oneof vs =>
      obtain ⟨_, ty, hvs, hl, hy⟩ := okSlot_one hy
      cases hvs
      obtain ⟨pty, hp, rfl⟩ := Option.map_eq_some_iff.mp (lookup_lower vs t ▸ hl)
      rw [lowerDecl, recsSlot, hl]
      exact ⟨pty, _, hp, rfl, rfl, isSpecE ps flag hs pty x t hy⟩
    | single t ty opt => cases opt <;> cases hy
    | _ => cases hy
termination_by structural v
-- `D` is a variable because the callers hold `decls (lowerSchema ps) i`, which `decls_lower` equates with the mapped list.
theorem isSpecSlots (ps : PSchema) (flag : Bool) (hs : WFSchema (lowerSchema ps) = true) (pds : List PDecl) (D : List FieldDecl)
    (hD : D = pds.map lowerDecl) (fs : Slots) (hwf : D.all (FieldDecl.wfIn (lowerSchema ps).length) = true)
    (hnd : nodup (allTags D) = true) (hy : okSlots (lowerSchema ps) flag D fs = true) :
    EncSlots ps pds fs (recsSlots (lowerSchema ps) flag D fs) := by
  subst hD
  cases fs with
  | nil => cases pds <;> first | exact rfl | cases hy
  | cons v rest =>
    cases pds with
    | nil => cases hy
    | cons d ds =>
      have hy := Bool.and_eq_true_iff.mp hy
      have hwf := Bool.and_eq_true_iff.mp hwf
      have hf := filter_slot (lowerSchema ps) flag (lowerDecl d) (ds.map lowerDecl) v rest hnd
      rw [lower_tags] at hf
      rw [EncSlots, List.map_cons, hf.1, hf.2]
      exact ⟨isSpecSlot ps flag hs d v hwf.1 hy.1, isSpecSlots ps flag hs ds _ rfl rest hwf.2 (nodup_tail _ _ hnd) hy.2⟩
termination_by structural fs
theorem isSpecRep (ps : PSchema) (flag : Bool) (hs : WFSchema (lowerSchema ps) = true) (t : Nat) (pty : PFTy) (xs : EVals)
    (hy : okEs (lowerSchema ps) flag (lowerTy pty) xs = true) :
    EncRep ps t pty xs (recsEs (lowerSchema ps) flag t (lowerTy pty) xs) := by
  cases xs with
  | nil => exact rfl
  | cons x r =>
    have hy := Bool.and_eq_true_iff.mp hy
    exact ⟨_, _, rfl, rfl, isSpecE ps flag hs pty x t hy.1, isSpecRep ps flag hs t pty r hy.2⟩
termination_by structural xs
theorem isSpecMap (ps : PSchema) (flag : Bool) (hs : WFSchema (lowerSchema ps) = true) (t : Nat) (k : PType)
    (hk : k.codec.isKey = true) (vty : PFTy) (kvs : Pairs)
    (hy : okPairs (lowerSchema ps) flag k.codec (lowerTy vty) kvs = true) :
    EncMap ps t k vty kvs (recsPairs (lowerSchema ps) flag t k.codec (lowerTy vty) kvs) := by
  cases kvs with
  | nil => exact rfl
  | cons kk v r =>
    obtain ⟨hkok, hkl, hve, hdef, hlen, hr⟩ := okPairs_cons hy
    rw [← entry_len _ flag hs k.codec (lowerTy vty) kk v hkl hve] at hlen
    refine ⟨_, _, rfl, rfl, rfl, ⟨_, rfl, hlen, entryRecs_tags _ flag _ _ kk v, ?_, ?_⟩, isSpecMap ps flag hs t k hk vty r hr⟩
    -- the key and the value: written, or left out when equal to the default, which then is the zero
    · rw [entryRecs_key]
      split
      · rename_i h
        exact .inr ⟨rfl, key_default k.codec kk hk hkok (Bool.and_eq_true_iff.mp h).2 ▸ Codec.default_exact _⟩
      · exact .inl ⟨_, rfl, (encE_scalar (ps := ps) (pty := .scalar k) rfl hkok).mpr ⟨rfl, rfl⟩⟩
    · rw [entryRecs_val]
      split
      · rename_i h
        have h := Bool.and_eq_true_iff.mp h
        refine .inr ⟨rfl, (zeroOf_iff hve).mpr ?_⟩
        -- typing (`okPairs_cons`): the flag is on, or the value is not `==` its default, or it is the default;
        -- the value was left out, so the flag is off and it is `==` its default
        rcases hdef with h' | h' | h'
        · rw [h'] at h; cases h.1
        · rw [h'] at h; cases h.2
        · rw [h']; exact exactDefault_defaultE _ _
      · exact .inl ⟨_, rfl, isSpecE ps flag hs vty v 2 hve⟩
termination_by structural kvs
end

end Pilota.Proto
