import PilotaModel.Lemmas.IdlRender
/-
  C15: "parser `p` reads renderer `r` back", as a relation between the two TERMS with one rule per pair of
  combinators.  `Reads`, `Follows`, `Starts` quantify over every layout, so a proof that is a chain of rules mentions none.

  A rule matches the SHAPE `piece +> r` of the renderer (and `andThen p f` of the parser), so a renderer is first brought
  to a right-nested chain (`rSeq_assoc`, `rLit_nil_seq`); `Reads.seqNil`, `Reads.group3`, `Reads.blankLit` adjust what
  still does not match.

  A layout appears in three kinds of places only: in the `_rt` theorems that Props/C15.lean states, which apply a `Reads`
  fact to `l` (`Reads.exact`, `Reads.upToBlank`); in facts about what a renderer of Idl/Printer.lean computes at a layout
  (`rTail_tail`, `rLiteral_rt`, `pathSegs_rt`, `rPath_cons`, `rType_firstWord`, and `attrPart_rt`, the one place where the
  VALUE read depends on the layout); and in the proofs of the rules that are proved from the definition of `Reads` /
  `Follows` rather than from other rules.  Those hand the layout on to the pieces; only the two rules for `rWith`,
  `Reads.choice` and `Follows.choice`, look at a choice.

  Inside `namespace Reads` the rule names `many0`, `many1` shadow the combinators; where a rule means the combinator it writes
  `Pilota.Idl.many1`.
-/
namespace Pilota.Idl

theorem rSeq_assoc (a b c : R) : (a +> b) +> c = a +> b +> c := by
  funext l; simp only [rSeq, List.append_assoc]

theorem rLit_nil_seq (r : R) : rLit [] +> r = r := rfl

theorem blankStart_sep (c : Char) (h : notBlankStart c = false) : isSepChar c = true := by
  rcases blankStart_cases h with h | h | h | h | h | h <;> subst h <;> decide

class IsBlank (a : R) : Prop where
  bt : ∀ l, BT (a l).1

instance : IsBlank rB0 := ⟨rB0_BT⟩
instance : IsBlank rB1 := ⟨rB1_BT⟩
instance (n : Bool) : IsBlank (rGap n) := ⟨rGap_BT n⟩
instance : IsBlank (rLit []) := ⟨fun _ => .nil⟩

/-- whatever `r` renders, put in front of an `F`-text, is a `G`-text -/
def Follows (r : R) (F G : List Char → Prop) : Prop := ∀ l x, F x → G ((r l).1 ++ x)

/-- `r` renders a NON-EMPTY text, which in front of anything is a `G`-text (non-empty: the progress of a loop over elements, `Loop.run`) -/
def Starts (r : R) (G : List Char → Prop) : Prop := ∀ l, (r l).1 ≠ [] ∧ ∀ x, G ((r l).1 ++ x)

namespace Starts
variable {a r : R} {G H : List Char → Prop}

theorem follows {F} (h : Starts r G) : Follows r F G := fun l x _ => (h l).2 x

theorem seq (h : Starts a G) : Starts (a +> r) G := fun l =>
  ⟨by rw [rSeq_fst]; exact fun e => (h l).1 (List.append_eq_nil_iff.mp e).1,
   fun x => by rw [rSeq_fst, List.append_assoc]; exact (h l).2 _⟩

theorem mono (h : Starts r G) (hm : ∀ T, G T → H T) : Starts r H := fun l => ⟨(h l).1, fun x => hm _ ((h l).2 x)⟩

theorem lit {f : Char → Bool} {c : Char} {t : List Char} (h : f c = true) : Starts (rLit (c :: t)) (Hd f) :=
  fun _ => ⟨List.cons_ne_nil _ _, fun _ => h⟩

end Starts

namespace Follows
variable {a r : R} {F G H : List Char → Prop} {f : Char → Bool}

theorem nil (h : ∀ x, F x → G x) : Follows (rLit []) F G := fun _ x hx => h x hx

theorem mono (h : Follows r F G) (hm : ∀ T, G T → H T) : Follows r F H := fun l x hx => hm _ (h l x hx)

theorem lit {c : Char} {t : List Char} (h : f c = true) : Follows (rLit (c :: t) +> r) F (Hd f) := fun _ _ _ => h

theorem starts (h : Starts a G) : Follows (a +> r) F G := h.seq.follows

theorem choice {c : LChoice → R} (h : ∀ ch, Follows (c ch +> r) F G) : Follows (rWith c +> r) F G :=
  fun l x hx => h l.pop.1 l.pop.2 x hx

theorem blank [IsBlank a] (hf : ∀ c, notBlankStart c = false → f c = true) (h : Follows r F (Hd f)) :
    Follows (a +> r) F (Hd f) := fun l x hx => by
  rw [rSeq_fst, List.append_assoc]; exact (IsBlank.bt (a := a) l).hdP_append hf (h _ x hx)

theorem sep_lit [IsBlank a] {c : Char} {t : List Char} (h : isSepChar c = true) :
    Follows (a +> rLit (c :: t) +> r) F Sep := blank blankStart_sep (lit h)

theorem sep_gap {n : Bool} (hn : n = true) : Follows (rGap n +> r) F Sep := fun l x _ => by
  rw [rSeq_fst, List.append_assoc]; exact (rGap_BT n l).sep_append (Or.inl (rGap_ne hn l))

theorem sep_b1 : Follows (rB1 +> r) F Sep := sep_gap (n := true) rfl

end Follows

theorem Follows.ahead_lit {a r : R} [IsBlank a] {F E : List Char → Prop} {c : Char} {t : List Char} (hc : notBlankStart c = true)
    (hE : ∀ y, E (c :: y)) : Follows (a +> rLit (c :: t) +> r) F (Ahead E) := fun l x _ =>
  ⟨(a l).1, c :: ((t ++ (r (a l).2).1) ++ x), by rw [rSeq_fst, List.append_assoc]; rfl, IsBlank.bt l, hc, hE _⟩

/-- what an element may expect after its tail: `X`, and after the last element, where no blank is forced, a separator character -/
abbrev After (X : List Char → Prop) (last : Bool) (T : List Char) : Prop := X T ∧ (last = true → Sep T)

/-- the hypothesis of `Tail.toSep` for an element that ends in a word (`b` is its `endsOpen`, `need` is `endsOpen && !last`) -/
theorem After.need {X : List Char → Prop} {last : Bool} {T : List Char} (h : After X last T) {b : Bool} (hb : b = true) :
    (b && !last) = true ∨ Sep T := by
  cases last with
  | true => exact .inr (h.2 rfl)
  | false => exact .inl (by simp [hb])

theorem ident_starts {i : Ident} (h : identOk i = true) : Starts (rLit i) (Hd isIdentStart) := by
  obtain ⟨c, cs, rfl, hc, _⟩ := identOk_cons h; exact .lit hc

theorem Follows.ident {i : Ident} (h : identOk i = true) {r : R} {F : List Char → Prop} : Follows (rLit i +> r) F NB :=
  .starts ((ident_starts h).mono fun _ h => hdP_mono (fun _ => identStart_NB) h)

theorem Follows.slots {α} {f : α → Bool → R} {xs : List α} {close : Char} {t : List Char} {r : R} {F G : List Char → Prop}
    (hs : ∀ x ∈ xs, ∀ last, Starts (f x last) G) (hc : ∀ T, G (close :: T)) :
    Follows (rSlots f xs +> rLit (close :: t) +> r) F G := fun l x _ => by
  cases xs with
  | nil => exact hc _
  | cons y ys => rw [rSeq_fst, rSlots_cons, List.append_assoc, List.append_assoc]; exact (hs y (.head _) _ l).2 _

/-- `p` reads every text of `r` back, whenever what follows is an `F`-text: it returns a value `a` and
leaves an end piece `g` of the text with `Q a g`.  (`g` is empty or shorter than the text: what the
progress check of `many0` needs.) -/
def Reads {α} (p : P α) (r : R) (F : List Char → Prop) (Q : α → List Char → Prop) : Prop :=
  ∀ l x, F x → ∃ a g, Q a g ∧ (g = [] ∨ g.length < (r l).1.length) ∧ p ((r l).1 ++ x) = .ok a (g ++ x)

/-- printed value first, parsed value second, as in a loop's `Rel` -/
def Exact {α} (v a : α) (g : List Char) : Prop := v = a ∧ g = []
/-- the value `v`, a blank left to the enclosing loop -/
def UpToBlank {α} (v a : α) (g : List Char) : Prop := v = a ∧ BT g

namespace Reads
variable {α β : Type} {a b r : R} {F F' : List Char → Prop} {Q : β → List Char → Prop}

theorem exact {p : P α} {v : α} (h : Reads p r F (Exact v)) (l : Layout) {x : List Char} (hx : F x) :
    p ((r l).1 ++ x) = .ok v x := by
  obtain ⟨_, _, ⟨rfl, rfl⟩, _, h⟩ := h l x hx; exact h

theorem upToBlank {p : P α} {v : α} (h : Reads p r F (UpToBlank v)) (l : Layout) {x : List Char} (hx : F x) :
    ∃ g, BT g ∧ p ((r l).1 ++ x) = .ok v (g ++ x) := by
  obtain ⟨_, g, ⟨rfl, hg⟩, _, h⟩ := h l x hx; exact ⟨g, hg, h⟩

/-- an exact reading as the `step` of a `Loop` with `Rel := Eq` whose elements leave `L` -/
theorem loopStep {p : P α} {v : α} (L : List Char → Prop) (h : Reads p r F (Exact v)) (hL : L []) :
    Reads p r F fun y g => v = y ∧ L g :=
  fun l x hx => by obtain ⟨_, _, ⟨rfl, rfl⟩, hg, h⟩ := h l x hx; exact ⟨_, _, ⟨rfl, hL⟩, hg, h⟩

theorem of_exact {p : P α} {v : α} (h : ∀ l x, F x → p ((r l).1 ++ x) = .ok v x) : Reads p r F (Exact v) :=
  fun l x hx => ⟨v, [], ⟨rfl, rfl⟩, .inl rfl, h l x hx⟩

/-- `p` reads `a` exactly; its value may depend on the layout (some `v` with `V v`) -/
theorem step {p : P α} {f : α → P β} {V : α → Prop} (hp : ∀ l y, F' y → ∃ v, V v ∧ p ((a l).1 ++ y) = .ok v y)
    (hb : Follows b F F') (hf : ∀ v, V v → Reads (f v) b F Q) : Reads (andThen p f) (a +> b) F Q := by
  intro l x hx
  obtain ⟨v, hV, hv⟩ := hp l _ (hb (a l).2 x hx)
  obtain ⟨w, g, hq, hg, h⟩ := hf v hV (a l).2 x hx
  refine ⟨w, g, hq, hg.imp_right fun h => ?_, ?_⟩
  · rw [rSeq_fst, List.length_append]; omega
  · rw [rSeq_fst, List.append_assoc, andThen_of_ok hv]; exact h

theorem seq {p : P α} {f : α → P β} {v : α} (hp : Reads p a F' (Exact v)) (hb : Follows b F F')
    (hf : Reads (f v) b F Q) : Reads (andThen p f) (a +> b) F Q :=
  step (V := (· = v)) (fun l _ hy => ⟨v, rfl, hp.exact l hy⟩) hb fun _ h => h ▸ hf

theorem mono {p : P β} {Q' : β → List Char → Prop} (h : Reads p r F Q) (hF : ∀ x, F' x → F x) (hQ : ∀ a g, Q a g → Q' a g) :
    Reads p r F' Q' := fun l x hx => by
  obtain ⟨w, g, hq, hg, h⟩ := h l x (hF x hx); exact ⟨w, g, hQ _ _ hq, hg, h⟩

theorem done {v : β} (h : Q v []) : Reads (ret v) (rLit []) F Q := fun _ _ _ => ⟨v, [], h, .inl rfl, rfl⟩

theorem lit {t : List Char} {f : List Char → P β} (hf : Reads (f t) r F Q) : Reads (andThen (tag t) f) (rLit t +> r) F Q :=
  seq (F' := fun _ => True) (of_exact fun _ x _ => tag_append t x) (fun _ _ _ => trivial) hf

/-- `opt(blank)` on a blank handed over by the previous element -/
theorem optBlankLit {bl : List Char} (hbl : BT bl) {k : P β} (hnb : Follows r F NB) (hk : Reads k r F Q) :
    Reads (andThen (opt blank) fun _ => k) (rLit bl +> r) F Q :=
  step (V := fun _ => True) (fun _ _ hy => ⟨_, trivial, optBlank_rt hbl hy⟩) hnb fun _ _ => hk

/-- `Reads.many0` wants what stands in front of the list as a text `bl`: any blank text, for a blank renderer -/
theorem blankLit [IsBlank a] {p : P β} (h : ∀ bl, BT bl → Reads p (rLit bl +> r) F Q) : Reads p (a +> r) F Q :=
  fun l x hx => h (a l).1 (IsBlank.bt l) (a l).2 x hx

theorem optBlank [IsBlank a] {k : P β} (hnb : Follows r F NB) (hk : Reads k r F Q) :
    Reads (andThen (opt blank) fun _ => k) (a +> r) F Q :=
  blankLit fun _ hbl => optBlankLit hbl hnb hk

theorem blank1 {f : Unit → P β} (hnb : Follows r F NB) (hk : Reads (f ()) r F Q) : Reads (andThen blank f) (rB1 +> r) F Q :=
  seq (of_exact fun l _ hy => blank_rt (rB1_BT l) (rB1_ne l) hy) hnb hk

theorem ident {i : Ident} (hi : identOk i = true) {f : Ident → P β} (hs : Follows r F Sep) (hf : Reads (f i) r F Q) :
    Reads (andThen Ident.parse f) (rLit i +> r) F Q :=
  seq (of_exact fun _ _ hy => ident_rt hi (Sep.noIdent hy)) hs hf

theorem skipEmpty {p : P α} {f : α → P β} {v : α} (hp : Follows r F fun T => p T = .ok v T) (hf : Reads (f v) r F Q) :
    Reads (andThen p f) r F Q := fun l x hx => by
  obtain ⟨w, g, hq', hg, h⟩ := hf l x hx
  exact ⟨w, g, hq', hg, by rw [andThen_of_ok (hp l x hx)]; exact h⟩

theorem preceded {γ} {p : P γ} {q : P α} {f : α → P β} (h : Reads (andThen p fun _ => andThen q f) r F Q) :
    Reads (andThen (skip p q) f) r F Q := by
  rwa [skip, andThen_assoc]

theorem choice {p : P β} {c : LChoice → R} (h : ∀ ch, Reads p (c ch +> r) F Q) : Reads p (rWith c +> r) F Q :=
  fun l x hx => h l.pop.1 l.pop.2 x hx

theorem altFirst {p : P β} {ps : List (P β)} {f : Char → Bool} [First p f] {c : Char} {t : List Char}
    (h : Reads (alt ps) (rLit (c :: t) +> r) F Q) (hc : f c = false := by rfl) : Reads (alt (p :: ps)) (rLit (c :: t) +> r) F Q :=
  fun l x hx => by obtain ⟨w, g, hq, hg, e⟩ := h l x hx; exact ⟨w, g, hq, hg, First.alt_skip e hc⟩

theorem altHere {p : P β} {ps : List (P β)} (h : Reads p r F Q) : Reads (alt (p :: ps)) r F Q := fun l x hx => by
  obtain ⟨w, g, hq, hg, e⟩ := h l x hx
  exact ⟨w, g, hq, hg, alt_cons_of_ok e⟩

theorem map {f : α → β} {p : P α} {v : α} (h : Reads p r F (UpToBlank v)) : Reads (pmap f p) r F (UpToBlank (f v)) :=
  fun l x hx => by
  obtain ⟨_, g, ⟨rfl, hb⟩, hg, e⟩ := h l x hx
  exact ⟨_, g, ⟨rfl, hb⟩, hg, pmap_of_ok e⟩

theorem optSome {q : P α} {f : Option α → P β} {v : α} (hq : Reads q a F' (Exact v)) (hb : Follows b F F')
    (hf : Reads (f (some v)) b F Q) : Reads (andThen (opt q) f) (a +> b) F Q :=
  seq (of_exact fun l _ hy => opt_of_ok (hq.exact l hy)) hb hf

theorem optNone {q : P α} {f : Option α → P β} (hq : Follows r F fun T => q T = .err) (hf : Reads (f none) r F Q) :
    Reads (andThen (opt q) f) r F Q :=
  skipEmpty (hq.mono fun _ => opt_of_err) hf

/-- `optSome` wants the text of the optional part as ONE renderer in front: three pieces of a chain re-bracketed -/
theorem group3 {p : P β} {c d : R} (h : Reads p ((a +> b +> c) +> d) F Q) : Reads p (a +> b +> c +> d) F Q := by
  rwa [rSeq_assoc, rSeq_assoc] at h

/-- a renderer that ends in a bare piece matches no rule: pad it with `rLit []` first (`Reads.done` reads the padding) -/
theorem seqNil {p : P β} (h : Reads p (r +> rLit []) F Q) : Reads p r F Q := fun l x hx => by
  simpa using h l x hx

/-- an optional part that is not there, between two optional blanks: the first reads both as one -/
theorem optAbsent {q : P α} {K : Option α → P β} (hq : Follows r F (Ahead fun T => q T = .err))
    (hf : Reads (andThen (opt blank) fun _ => K none) r F Q) :
    Reads (andThen (opt blank) fun _ => andThen (opt q) fun o => andThen (opt blank) fun _ => K o) r F Q := fun l x hx => by
  obtain ⟨w, g, hq', hg, h⟩ := hf l x hx
  refine ⟨w, g, hq', hg, ?_⟩
  obtain ⟨B, T0, e, hB, h0, hE⟩ := hq l x hx
  rw [e] at h ⊢
  rw [andThen_optBlank hB h0] at h
  rw [andThen_optBlank hB h0, andThen_of_ok (opt_of_err hE), andThen_of_ok (opt_of_err (blank_err h0))]; exact h

theorem tail {k : P β} {e last : Bool} (hF : ∀ x, F x → NB x ∧ NoSepStart x) (hk : Reads k (rLit []) F Q) :
    Reads (andThen (opt blank) fun _ => andThen (opt listSeparator) fun _ => k) (rTail e last) F Q := fun l x hx => by
  obtain ⟨w, g, hq, hg, h⟩ := hk l x hx
  obtain rfl : g = [] := hg.elim id fun h => absurd h (Nat.not_lt_zero _)
  exact ⟨w, [], hq, .inl rfl, by rw [(rTail_tail e last l x).rt (hF x hx).1 (hF x hx).2]; exact h⟩

section loops
variable {γ : Type} {p : P β} {f : α → Bool → R} {Rel : α → β → Prop} {L : List Char → Prop} {E : Bool → List Char → Prop}
  {close : Char}

/-- The hypotheses of a loop over `rSlots f xs` up to `close`: the element parser reads an element after a left-over
`bl` of its predecessor and leaves one itself (`L`), given what an element may expect after it (`E last`): the closing
character after the last one, the start of an element otherwise.  `Rel x y` relates the printed `x` to the parsed `y`. -/
structure Loop (p : P β) (f : α → Bool → R) (Rel : α → β → Prop) (L : List Char → Prop) (E : Bool → List Char → Prop)
    (close : Char) (xs : List α) : Prop where
  step : ∀ x ∈ xs, ∀ last bl, L bl → Reads p (rLit bl +> f x last) (E last) fun y g => Rel x y ∧ L g
  start : ∀ x ∈ xs, ∀ last, Starts (f x last) (E false)
  atClose : ∀ T, E true (close :: T)
  stop : ∀ bl T, L bl → p (bl ++ close :: T) = .err

theorem Loop.tail {x : α} {xs : List α} (h : Loop p f Rel L E close (x :: xs)) : Loop p f Rel L E close xs :=
  ⟨fun y hy => h.step y (.tail _ hy), fun y hy => h.start y (.tail _ hy), h.atClose, h.stop⟩

theorem Loop.run {xs : List α} (h : Loop p f Rel L E close xs) (l : Layout) {bl : List Char} (hbl : L bl) (T : List Char) (n : Nat)
    (hn : (bl ++ ((rSlots f xs l).1 ++ close :: T)).length < n) :
    ∃ ys bl', All2 Rel xs ys ∧ L bl' ∧ many0F p n (bl ++ ((rSlots f xs l).1 ++ close :: T)) = .ok ys (bl' ++ close :: T) :=
  many0F_slots p f Rel
    (fun x => (∀ last bl, L bl → Reads p (rLit bl +> f x last) (E last) fun y g => Rel x y ∧ L g) ∧
      ∀ last, Starts (f x last) (E false)) L (E false) close
    (by
      intro x last l bl T hx hL hlast hmid
      have hT : E last T := by
        cases last with
        | true => obtain ⟨T', rfl⟩ := hlast rfl; exact h.atClose T'
        | false => exact hmid rfl
      obtain ⟨y, g, ⟨hrel, hg⟩, hlen, e⟩ := hx.1 last bl hL l T hT
      refine ⟨y, g, hrel, hg, ?_, by simpa using e⟩
      have : 0 < (f x last l).1.length := List.length_pos_iff.mpr (hx.2 last l).1
      rcases hlen with rfl | hlen
      · simp only [List.length_append, List.length_nil]; omega
      · exact hlen)
    (fun y last l T hy => (hy.2 last l).2 T) h.stop xs l bl n T (fun x hx => ⟨h.step x hx, h.start x hx⟩) hbl hn

theorem closeK {k : P γ} {close : Char} (hc : notBlankStart close = true) {bl T : List Char} (hbl : BT bl) :
    (andThen (opt blank) fun _ => andThen (tag [close]) fun _ => k) (bl ++ close :: T) = k T := by
  rw [andThen_optBlank hbl (show NB (close :: T) from hc), andThen_of_ok (tag1 close T)]

/-- A loop `P0` that reads `a0 +> rSlots f xs` up to `close` and leaves `bl'`, then `K` that takes `bl'` and `close`
(`[opt(blank),] tag(close)`), then `k`. -/
theorem closeWith {δ : Type} {P0 : P δ} {a0 : R} {xs : List α} {V : δ → Prop} {K k : δ → P γ} {Q : γ → List Char → Prop}
    (hloop : ∀ l T, ∃ ys bl', V ys ∧ L bl' ∧ P0 (((a0 +> rSlots f xs) l).1 ++ close :: T) = .ok ys (bl' ++ close :: T))
    (hK : ∀ ys bl' T, L bl' → K ys (bl' ++ close :: T) = k ys T) (hk : ∀ ys, V ys → Reads (k ys) r F Q) :
    Reads (andThen P0 K) (a0 +> rSlots f xs +> rLit [close] +> r) F Q := by
  intro l x hx
  obtain ⟨ys, bl', hys, hbl', hm⟩ := hloop l ((r (rSlots f xs (a0 l).2).2).1 ++ x)
  obtain ⟨w, g, hq, hg, e⟩ := hk ys hys (rSlots f xs (a0 l).2).2 x hx
  refine ⟨w, g, hq, hg.imp_right fun h => ?_, ?_⟩
  · simp only [rSeq_fst, rLit_fst, rLit_snd, List.length_append]; omega
  · simp only [rSeq_fst, List.append_assoc] at hm
    simp only [rSeq_fst, rLit_fst, rLit_snd, List.append_assoc, List.cons_append, List.nil_append]
    rw [andThen_of_ok hm, hK _ _ _ hbl']; exact e

/-- `bl` is what the step in front of the list left (after `.blankLit`; `[]` where nothing is rendered in front: `rLit [] +> r` is `r`) -/
theorem many0 {xs : List α} (h : Loop p f Rel L E close xs) {bl : List Char} (hbl : L bl) {K k : List β → P γ}
    {Q : γ → List Char → Prop} (hK : ∀ ys bl' T, L bl' → K ys (bl' ++ close :: T) = k ys T)
    (hk : ∀ ys, All2 Rel xs ys → Reads (k ys) r F Q) :
    Reads (andThen (many0 p) K) (rLit bl +> rSlots f xs +> rLit [close] +> r) F Q :=
  closeWith (fun l T => by
    simp only [rSeq_fst, rLit_fst, rLit_snd, List.append_assoc]
    exact h.run l hbl T _ (Nat.lt_succ_self _)) hK hk

/-- `many1(p)`: the first element, read after whatever `a0` renders, has no progress check -/
theorem Loop.run1 {x : α} {xs : List α} {a0 : R} (h1 : Reads p (a0 +> f x xs.isEmpty) (E xs.isEmpty) fun y g => Rel x y ∧ L g)
    (h : Loop p f Rel L E close xs) (l : Layout) (T : List Char) :
    ∃ ys bl', All2 Rel (x :: xs) ys ∧ L bl' ∧
      Pilota.Idl.many1 p (((a0 +> rSlots f (x :: xs)) l).1 ++ close :: T) = .ok ys (bl' ++ close :: T) := by
  have hE : E xs.isEmpty ((rSlots f xs (f x xs.isEmpty (a0 l).2).2).1 ++ close :: T) := by
    cases xs with
    | nil => exact h.atClose _
    | cons y ys => rw [rSlots_cons, List.append_assoc]; exact (h.start y (by simp) _ _).2 _
  obtain ⟨y, g, ⟨hrel, hg⟩, _, e⟩ := h1 l _ hE
  obtain ⟨ys, bl', hys, hbl', hm⟩ := h.run (f x xs.isEmpty (a0 l).2).2 hg T _ (Nat.lt_succ_self _)
  refine ⟨y :: ys, bl', .cons hrel hys, hbl', ?_⟩
  simp only [rSeq_fst, List.append_assoc] at e
  simp only [rSeq_fst, rSlots_cons, List.append_assoc]
  unfold Pilota.Idl.many1
  rw [e]
  simp only [PR.bind, hm, PR.map]

theorem many1 {x : α} {xs : List α} {a0 : R} (h1 : Reads p (a0 +> f x xs.isEmpty) (E xs.isEmpty) fun y g => Rel x y ∧ L g)
    (h : Loop p f Rel L E close xs) {K k : List β → P γ}
    {Q : γ → List Char → Prop} (hK : ∀ ys bl' T, L bl' → K ys (bl' ++ close :: T) = k ys T)
    (hk : ∀ ys, All2 Rel (x :: xs) ys → Reads (k ys) r F Q) :
    Reads (andThen (many1 p) K) (a0 +> rSlots f (x :: xs) +> rLit [close] +> r) F Q :=
  closeWith (h.run1 h1) hK hk

theorem optMany1 {xs : List α} {a0 : R} [IsBlank a0] (h : Loop p f Rel BT E close xs) (hc : notBlankStart close = true)
    {k : Option (List β) → P γ} {Q : γ → List Char → Prop} (hk : ∀ yo, All2 Rel xs (yo.getD []) → Reads (k yo) r F Q) :
    Reads (andThen (opt (Pilota.Idl.many1 p)) fun yo => andThen (opt blank) fun _ => andThen (tag [close]) fun _ => k yo)
      (a0 +> rSlots f xs +> rLit [close] +> r) F Q := by
  refine closeWith (L := BT) (V := fun yo => All2 Rel xs (yo.getD [])) (fun l T => ?_) (fun _ _ _ h => closeK hc h) hk
  cases xs with
  | nil =>
    refine ⟨none, (a0 l).1, .nil, IsBlank.bt l, ?_⟩
    rw [rSeq_fst, rSlots_nil, List.append_nil]
    refine opt_of_err ?_
    unfold Pilota.Idl.many1
    rw [h.stop _ _ (IsBlank.bt l)]; rfl
  | cons x xs =>
    obtain ⟨ys, bl', hys, hbl', hm⟩ := h.tail.run1 (a0 := a0) (blankLit fun bl hbl => h.step x (.head _) _ bl hbl) l T
    exact ⟨some ys, bl', hys, hbl', opt_of_ok hm⟩

end loops

end Reads

end Pilota.Idl
