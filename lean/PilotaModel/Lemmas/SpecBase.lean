import PilotaModel.Lemmas.CompactRT
import PilotaModel.Thrift.Spec
/-  The reference's own byte orders, two's complement and type-code tables against the model's. -/
theorem Pilota.natToBE_succ (w n : Nat) : natToBE (w + 1) n = natToBE w (n / 256) ++ [UInt8.ofNat (n % 256)] := by
  simp [natToBE, natToLE]

namespace Pilota.Thrift.Spec
open Pilota Pilota.Thrift

theorem be_snoc (w n : Nat) : be (w + 1) n = be w (n / 256) ++ [UInt8.ofNat (n % 256)] := by
  induction w generalizing n with
  | zero => simp [be]
  | succ w ih =>
    rw [be, ih n]
    have h1 : n / 256 ^ (w + 1) = n / 256 / 256 ^ w := by
      rw [Nat.pow_succ, Nat.mul_comm, Nat.div_div_eq_div_mul]
    rw [be, h1]
    simp

theorem be_eq (w n : Nat) : be w n = natToBE w n := by
  induction w generalizing n with
  | zero => rfl
  | succ w ih => rw [be_snoc, natToBE_succ, ih]

theorem be_length (w n : Nat) : (be w n).length = w := by
  induction w generalizing n with
  | zero => rfl
  | succ w ih => rw [be, List.length_cons, ih]

theorem le_length (w n : Nat) : (le w n).length = w := by
  induction w generalizing n with
  | zero => rfl
  | succ w ih => rw [le, List.length_cons, ih]

theorem ofBe_be (w n : Nat) : ofBe (be w n) = n % 256 ^ w := by
  induction w with
  | zero => simp [be, ofBe, Nat.mod_one]
  | succ w ih =>
    rw [be, ofBe, be_length, ih, u8_toNat_ofNat_lt _ (Nat.mod_lt _ (by decide)), Nat.pow_succ, Nat.mod_mul, Nat.add_comm]

theorem ofLe_le (w n : Nat) : ofLe (le w n) = n % 256 ^ w := by
  induction w generalizing n with
  | zero => simp [le, ofLe, Nat.mod_one]
  | succ w ih =>
    rw [le, ofLe, ih, u8_toNat_ofNat_lt _ (Nat.mod_lt _ (by decide)), Nat.pow_succ, Nat.mul_comm (256 ^ w) 256, Nat.mod_mul]

theorem twos_eq (w : Nat) (i : Int) (h : inS w i) : twos w i = toU w i := by
  unfold twos toU
  have hle : ((256 ^ w / 2 : Nat) : Int) ≤ ((256 ^ w : Nat) : Int) := Int.ofNat_le.mpr (Nat.div_le_self _ 2)
  have h1 : -((256 ^ w : Nat) : Int) ≤ i := Int.le_trans (Int.neg_le_neg hle) h.1
  have h2 : i < ((256 ^ w : Nat) : Int) := Int.lt_of_lt_of_le h.2 hle
  clear h hle
  generalize 256 ^ w = M at h1 h2 ⊢
  split
  · rw [Int.emod_eq_of_lt ‹_› h2]
  · rw [← Int.add_mul_emod_self_left i _ 1, Int.emod_eq_of_lt (by omega) (by omega)]; omega

theorem twos_lt (w : Nat) (n : Int) (h : inS w n) : twos w n < 256 ^ w := by
  rw [twos_eq w n h]; exact toU_lt w n

theorem be_twos (w : Nat) (i : Int) (h : inS w i) : be w (twos w i) = Binary.i .be w i := by
  rw [be_eq, twos_eq w i h]; rfl

theorem signed_eq (w n : Nat) (h : n < 256 ^ w) : signed w n = toS w n := by
  unfold signed toS; rw [Nat.mod_eq_of_lt h]

theorem signed_twos (w : Nat) (hw : 0 < w) (n : Int) (h : inS w n) : signed w (twos w n) = n := by
  rw [signed_eq _ _ (twos_lt w n h), twos_eq w n h, toS_toU w hw n h]

theorem be_len (n : Nat) (h : n < 2 ^ 31) : be 4 n = Binary.i .be 4 (toS 4 n) := by
  rw [be_eq, Binary.i, toU_toS 4, Nat.mod_eq_of_lt (by omega)]; rfl

theorem le_encFixed (w n : Nat) : le w n = encFixed .le w n := by
  induction w generalizing n with
  | zero => rfl
  | succ w ih => simp [le, encFixed, natToLE, ih]

theorem len_mod (n : Nat) (hn : n < 2 ^ 31) : n % 2 ^ 32 = n := Nat.mod_eq_of_lt (Nat.lt_trans hn (by decide))

theorem binCode_value (t : TType) (h : t.isValue = true) : binCode t = some t.toByte := by
  cases t <;> first | rfl | cases h

theorem binCode_table (t : TType) (c : Nat) (h : binCode t = some c) :
    c = t.toByte ∧ binTypeOfCode c = some t ∧ c ≠ 0 ∧ c < 256 := by
  cases t <;> cases h <;> decide

variable {t : TType} {c : Nat}

theorem binCode_toByte (h : binCode t = some c) : c = t.toByte := (binCode_table t c h).1
theorem binTypeOfCode_binCode (h : binCode t = some c) : binTypeOfCode c = some t := (binCode_table t c h).2.1
theorem binCode_ne_zero (h : binCode t = some c) : c ≠ 0 := (binCode_table t c h).2.2.1
theorem binCode_lt (h : binCode t = some c) : c < 256 := (binCode_table t c h).2.2.2

open Compact

theorem cmpCode_table (t : TType) (c : Nat) (h : cmpCode t = some c) :
    ttypeOfCompact c = some t ∧ cmpTypeOfNibble c = some t ∧ compactOf t = some c ∧ 2 < c ∧ c < 16 ∧ t ≠ .stop := by
  cases t <;> cases h <;> decide

theorem ttypeOfCompact_cmpCode (h : cmpCode t = some c) : ttypeOfCompact c = some t := (cmpCode_table t c h).1
theorem cmpTypeOfNibble_cmpCode (h : cmpCode t = some c) : cmpTypeOfNibble c = some t := (cmpCode_table t c h).2.1
theorem compactOf_cmpCode (h : cmpCode t = some c) : compactOf t = some c := (cmpCode_table t c h).2.2.1
theorem cmpCode_gt (h : cmpCode t = some c) : 2 < c := (cmpCode_table t c h).2.2.2.1
theorem cmpCode_lt (h : cmpCode t = some c) : c < 16 := (cmpCode_table t c h).2.2.2.2.1
theorem cmpCode_ne_stop (h : cmpCode t = some c) : t ≠ .stop := (cmpCode_table t c h).2.2.2.2.2

theorem elemCode_table (t : TType) (c : Nat) (h : elemCode t c = true) :
    ttypeOfCompact c = some t ∧ cmpTypeOfNibble c = some t ∧ c < 16 := by
  unfold elemCode at h
  split at h
  · subst t
    rcases Bool.or_eq_true_iff.mp h with h | h <;> cases beq_iff_eq.mp h <;> decide
  · have h := beq_iff_eq.mp h
    exact ⟨ttypeOfCompact_cmpCode h, cmpTypeOfNibble_cmpCode h, cmpCode_lt h⟩

theorem ttypeOfCompact_elemCode (h : elemCode t c = true) : ttypeOfCompact c = some t := (elemCode_table t c h).1
theorem cmpTypeOfNibble_elemCode (h : elemCode t c = true) : cmpTypeOfNibble c = some t := (elemCode_table t c h).2.1
theorem elemCode_lt (h : elemCode t c = true) : c < 16 := (elemCode_table t c h).2.2

theorem elemNibble_ok (t : TType) (h : t.isValue = true) :
    elemCode t (SpecCmp.elemNibble t) = true ∧ compactOf t = some (SpecCmp.elemNibble t) := by
  cases t <;> first | decide | cases h

theorem cmpCode_of_value (v : TVal) (hb : ∀ b, v ≠ .bool b) : ∃ c, cmpCode v.ttype = some c := by
  cases v <;> first | exact ⟨_, rfl⟩ | exact absurd rfl (hb _)

theorem byte_ne_zero {n : Nat} (h0 : n ≠ 0) (h : n < 256) : UInt8.ofNat n ≠ 0 :=
  fun e => h0 (u8_toNat_ofNat_lt n h ▸ congrArg UInt8.toNat e)

theorem byte_lt {h l : Nat} (hh : h < 16) (hl : l < 16) : h * 16 + l < 256 := by omega

/-! `stripPrefix`, `take`, `int` are defined with the binary reference (`SpecBin`) and used by both protocols. -/

theorem stripPrefix_some (p bs r : Bytes) (h : SpecBin.stripPrefix p bs = some r) : bs = p ++ r := by
  induction p generalizing bs with
  | nil => exact (Option.some.inj h).symm ▸ rfl
  | cons x xs ih =>
    cases bs with
    | nil => cases h
    | cons b bs =>
      rw [SpecBin.stripPrefix] at h
      split at h
      · rw [‹x = b›, ih bs h]; rfl
      · cases h

theorem take_append' (n : Nat) (a r : Bytes) (h : a.length = n) : SpecBin.take n (a ++ r) = .ok (a, r) := by
  subst h; simp [SpecBin.take]

theorem int_be_twos (w : Nat) (hw : 0 < w) (n : Int) (h : inS w n) (r : Bytes) :
    SpecBin.int w (be w (twos w n) ++ r) = .ok (n, r) := by
  simp only [SpecBin.int, take_append' w _ r (be_length w _), ofBe_be, Nat.mod_eq_of_lt (twos_lt w n h), signed_twos w hw n h]

/-! checkers: `g` is sound for a set `P` of byte strings when `g bs = some r → ∃ a, bs = a ++ r ∧ P a` -/

theorem guard_some {c : Prop} [Decidable c] {o : Option Bytes} {r : Bytes} (h : (if c then o else none) = some r) : c ∧ o = some r := by
  split at h
  · exact ⟨‹c›, h⟩
  · cases h

theorem nguard_some {c : Prop} [Decidable c] {o : Option Bytes} {r : Bytes} (h : (if c then none else o) = some r) : ¬ c ∧ o = some r :=
  guard_some (ite_not c o none ▸ h)

theorem bind_sound {o : Option Bytes} {k : Bytes → Option Bytes} {P Q : Bytes → Prop} {bs r : Bytes} (h : o.bind k = some r)
    (ho : ∀ r1, o = some r1 → ∃ a, bs = a ++ r1 ∧ P a) (hk : ∀ r1, k r1 = some r → ∃ b, r1 = b ++ r ∧ Q b) :
    ∃ c, bs = c ++ r ∧ ∃ a b, c = a ++ b ∧ P a ∧ Q b := by
  cases o with
  | none => cases h
  | some r1 =>
    obtain ⟨a, rfl, ha⟩ := ho r1 rfl
    obtain ⟨b, rfl, hb⟩ := hk r1 h
    exact ⟨a ++ b, (List.append_assoc ..).symm, a, b, rfl, ha, hb⟩

end Pilota.Thrift.Spec
