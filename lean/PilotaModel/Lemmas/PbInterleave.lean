import PilotaModel.Lemmas.PbTop
/-
  C18 `interleave`: any interleaving of the records of `encode x` and `encode y` that keeps, for
  every struct field, its records in their order (x's before y's) decodes to `mergeVal x y`.
-/
namespace Pilota.Proto
open Pilota Spec

/-- `rs` is an interleaving of the records of `x` and of `y` in which every field's records keep
their order: picked out by field, they are x's records followed by y's. -/
def Interleaved (s : Schema) (flag : Bool) : List FieldDecl → Slots → Slots → List Rec → Prop
  | [], .nil, .nil, rs => rs = []
  | d :: ds, .cons xv xs, .cons yv ys, rs =>
    rs.filter (fun r => d.tags.contains r.tag) = recsSlot s flag d xv ++ recsSlot s flag d yv ∧
    Interleaved s flag ds xs ys (rs.filter (fun r => !d.tags.contains r.tag))
  | _, _, _, _ => False

theorem interleaved_fold (s : Schema) (flag : Bool) (hs : WFSchema s = true) (ctx : Nat) :
    ∀ (ds : List FieldDecl) (xs ys : Slots) (rs : List Rec) (M : Slots), Interleaved s flag ds xs ys rs →
      ds.all (FieldDecl.wfIn s.length) = true → okSlots s flag ds xs = true → okSlots s flag ds ys = true →
      needSlots xs ≤ ctx → needSlots ys ≤ ctx → shapeSlots s ds M = true →
      foldRecs s (recurOf s ctx) ctx ds M rs = .ok (mergeValSlots s ds (mergeValSlots s ds M xs) ys)
  | [], .nil, .nil, rs, M, h, _, _, _, _, _, hM => by
    cases (h : rs = [])
    cases M <;> first | rfl | cases hM
  | d :: ds, .cons xv xs, .cons yv ys, rs, M, h, hwf, hx, hy, hnx, hny, hM => by
    cases M with
    | nil => cases hM
    | cons m M' =>
      have h : _ ∧ _ := h
      simp only [List.all_cons, Bool.and_eq_true] at hwf
      have hx := Bool.and_eq_true_iff.mp hx
      have hy := Bool.and_eq_true_iff.mp hy
      have hM := Bool.and_eq_true_iff.mp hM
      simp only [needSlots] at hnx hny
      refine foldRecs_split _ _ _ _ _ _ _ _ _ _ ?_ ?_
      · rw [h.1, foldSlot_append s _ d _ _ m _ (foldSlot_recs s flag hs d hwf.1 m xv ctx hx.1 (by omega) hM.1)]
        exact foldSlot_recs s flag hs d hwf.1 _ yv ctx hy.1 (by omega) (shape_mergeSlot s flag hs d m xv hM.1 hx.1)
      · exact interleaved_fold s flag hs ctx ds xs ys _ M' h.2 hwf.2 hx.2 hy.2 (by omega) (by omega) hM.2
  | [], .nil, .cons _ _, _, _, h, _, _, _, _, _, _ => h.elim
  | [], .cons _ _, _, _, _, h, _, _, _, _, _, _ => h.elim
  | _ :: _, .nil, _, _, _, h, _, _, _, _, _, _ => h.elim
  | _ :: _, .cons _ _, .nil, _, _, h, _, _, _, _, _, _ => h.elim

theorem interleaved_tags (s : Schema) (flag : Bool) : ∀ (ds : List FieldDecl) (xs ys : Slots) (rs : List Rec),
    Interleaved s flag ds xs ys rs → ∀ r ∈ rs, r.tag ∈ allTags ds
  | [], .nil, .nil, rs, h, r, hr => by cases (h : rs = []); cases hr
  | d :: ds, .cons xv xs, .cons yv ys, rs, h, r, hr => by
    have h : _ ∧ _ := h
    rw [allTags_cons, List.mem_append]
    by_cases ht : d.tags.contains r.tag = true
    · exact .inl (by simpa using ht)
    · exact .inr (interleaved_tags s flag ds xs ys _ h.2 r (List.mem_filter.mpr ⟨hr, by simpa using ht⟩))
  | [], .nil, .cons _ _, _, h, _, _ => h.elim
  | [], .cons _ _, _, _, h, _, _ => h.elim
  | _ :: _, .nil, _, _, h, _, _ => h.elim
  | _ :: _, .cons _ _, .nil, _, h, _, _ => h.elim

theorem decode_interleaved (s : Schema) (flag : Bool) (hs : WFSchema s = true) (i : Nat) (x y : Slots) (rs : List Rec)
    (hx : HasType s flag i x) (hy : HasType s flag i y) (hi : Interleaved s flag (decls s i) x y rs) :
    decode s i (flat rs) = .ok (mergeVal s i x y) := by
  have hdw := decls_wf s hs i
  have hfold := interleaved_fold s flag hs recursionLimit (decls s i) x y rs (defaultMsg s i) hi hdw.1 hx.1 hy.1 hx.2 hy.2
    (shape_defaultMsg s hs i)
  have htags : ∀ q ∈ rs, tagOk q.tag = true := fun q hq => wf_tags_ok _ _ hdw.1 _ (interleaved_tags s flag _ _ _ _ hi q hq)
  have hloop := foldRecs_loop s recursionLimit _ rs _ _ htags hfold [] _ (Nat.le_refl _)
  simp only [List.append_nil, List.length_nil] at hloop
  have := mergeVal_default s flag hs i x hx.1
  unfold mergeVal at this
  simp only [decode, decodeInto, decodeIntoCtx, hloop, this, mergeVal]

theorem concat_interleaved (s : Schema) (flag : Bool) : ∀ (ds : List FieldDecl) (xs ys : Slots), nodup (allTags ds) = true →
    shapeSlots s ds xs = true → shapeSlots s ds ys = true →
    Interleaved s flag ds xs ys (recsSlots s flag ds xs ++ recsSlots s flag ds ys)
  | [], .nil, .nil, _, _, _ => rfl
  | d :: ds, .cons xv xs, .cons yv ys, hnd, hx, hy => by
    have fx := filter_slot s flag d ds xv xs hnd
    have fy := filter_slot s flag d ds yv ys hnd
    simp only [Interleaved, List.filter_append, fx.1, fx.2, fy.1, fy.2, true_and]
    exact concat_interleaved s flag ds xs ys (nodup_tail d ds hnd) (Bool.and_eq_true_iff.mp hx).2 (Bool.and_eq_true_iff.mp hy).2
  | [], .nil, .cons _ _, _, _, h => by cases h
  | [], .cons _ _, _, _, h, _ => by cases h
  | _ :: _, .nil, _, _, h, _ => by cases h
  | _ :: _, .cons _ _, .nil, _, _, h => by cases h

end Pilota.Proto
