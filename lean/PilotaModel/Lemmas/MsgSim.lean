import PilotaModel.Lemmas.AsyncCmp
import PilotaModel.Thrift.Msg
/-  `read_message_begin`: the async readers against the in-memory readers. -/
namespace Pilota.Thrift

namespace Async
open Pilota Pilota.Thrift

/-- `hb`: an input a slice can hold (`len ≤ isize::MAX`), the hypothesis of `ABin.readBytes_iff`, which reads the name. -/
theorem ABin.readMessageBegin_iff (e : Endian) (bs : Bytes) (hb : bs.length < 2 ^ 63) (q : (Bytes × Nat × Int) × Bytes) :
    runF (ABin.readMessageBegin e) bs = .ok q ↔ Msg.readBeginBin e bs = .ok q := by
  -- the model has the version word twice
  have hv : ABin.version e = Msg.version e := by cases e <;> rfl
  simp only [ABin.readMessageBegin, runF_bind, ABin.runF_readI, Msg.readBeginBin, bindP, hv]
  cases h1 : Binary.readI e 4 bs with
  | ok p =>
    obtain ⟨size, r1⟩ := p
    simp only
    have hr1 := Binary.readI_len h1
    by_cases hp : size > 0
    · simp only [if_pos hp]; simp
    · simp only [if_neg hp]
      by_cases ht : toU 4 size % 16 < 1 ∨ 4 < toU 4 size % 16
      · simp only [if_pos ht]; simp
      · simp only [if_neg ht]
        by_cases hver : toU 4 size / 65536 * 65536 ≠ Msg.version e
        · simp only [if_pos hver]; simp
        · simp only [if_neg hver, runF_bind, bindP]
          cases h2' : runF (ABin.readBytes e) r1 with
          | ok q2 =>
            rw [(ABin.readBytes_iff e r1 (by omega) q2).mp h2']
            simp only [ABin.runF_readI]
            cases Binary.readI e 4 q2.2 with
            | ok q3 => simp
            | _ => exact Iff.rfl
          | _ =>
            cases h2 : Binary.readBytes e r1 with
            | ok q2 => rw [(ABin.readBytes_iff e r1 (by omega) q2).mpr h2] at h2'; cases h2'
            | _ => simp
  | _ => exact Iff.rfl

/-- stated for successes only: the two differ in the error KIND for a wrong protocol id / version. -/
theorem ACmp.readMessageBegin_iff (bs : Bytes) (q : (Bytes × Nat × Int) × Bytes) :
    runF ACmp.readMessageBegin bs = .ok q ↔ Msg.readBeginCmp bs = .ok q := by
  simp only [ACmp.readMessageBegin, runF_bind, ACmp.runF_readByte, Msg.readBeginCmp, bindP]
  cases h1 : Compact.readByte bs with
  | ok p =>
    obtain ⟨pid, r1⟩ := p
    simp only
    by_cases hp : pid ≠ 0x82
    · simp only [if_pos hp]; simp
    · simp only [if_neg hp, runF_bind, ACmp.runF_readByte, bindP]
      cases h2 : Compact.readByte r1 with
      | ok p2 =>
        obtain ⟨tv, r2⟩ := p2
        simp only
        by_cases hv : tv % 32 ≠ 1
        · simp only [if_pos hv]; simp
        · simp only [if_neg hv]
          by_cases ht : tv / 32 < 1 ∨ 4 < tv / 32
          · simp only [if_pos ht]; simp
          · simp only [if_neg ht, runF_bind, ACmp.runF_readVarU, ACmp.runF_readBytes, bindP]
            cases Pilota.readVarU 4 r2 with
            | ok p3 =>
              obtain ⟨sq, r3⟩ := p3
              simp only
              cases Compact.readBytes r3 with
              | ok p4 => simp
              | _ => exact Iff.rfl
            | _ => exact Iff.rfl
      | _ => exact Iff.rfl
  | _ => exact Iff.rfl

end Async
end Pilota.Thrift
