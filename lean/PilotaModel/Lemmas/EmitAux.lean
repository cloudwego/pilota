import PilotaModel.Build.Emit
/-  `natLe` is the order `write_stream` sorts by. -/
namespace Pilota.Build

theorem natLe_trans (a b c : Nat) (h1 : natLe a b = true) (h2 : natLe b c = true) : natLe a c = true := by
  simp [natLe] at *; omega

theorem natLe_total (a b : Nat) : (natLe a b || natLe b a) = true := by
  simp [natLe]; omega

theorem lookup_write (acc : List (Path × List Nat)) (q p : Path) (v : List Nat) :
    lookup (acc.filter (·.1 != q) ++ [(q, v)]) p = if p = q then some v else lookup acc p := by
  unfold lookup
  rw [List.find?_append]
  by_cases h : p = q
  · subst h
    rw [List.find?_eq_none.mpr (by simp)]
    simp
  · have hq : (q == p) = false := by simpa using Ne.symm h
    have : (fun a : Path × List Nat => decide ((a.1 != q) = true ∧ (a.1 == p) = true)) = (·.1 == p) := by
      funext a; by_cases ha : a.1 = p <;> simp [ha, h]
    rw [List.find?_filter, this]
    simp [h, hq]

end Pilota.Build
