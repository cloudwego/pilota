import PilotaModel.Lemmas.PbParse
/-
  Loop algebra for the emitted decoder: budgets do not matter once sufficient, and a loop over
  `A ++ X` continues as the loop over `X` when `A` alone parses as whole records (`loop_concat`).
-/
namespace Pilota.Proto
open Pilota

theorem Slots.append_nil : ∀ (a : Slots), a.append .nil = a
  | .nil => rfl
  | .cons v r => by simp [Slots.append, Slots.append_nil r]

theorem Slots.append_assoc : ∀ (a b c : Slots), (a.append b).append c = a.append (b.append c)
  | .nil, _, _ => rfl
  | .cons v r, b, c => by simp [Slots.append, Slots.append_assoc r b c]

theorem slots_len_append : ∀ (a b : Slots), (a.append b).length = a.length + b.length
  | .nil, b => by simp [Slots.append, Slots.length]
  | .cons v r, b => by simp [Slots.append, Slots.length, slots_len_append r b]; omega

theorem mergeLoopGo_fuel_indep {σ : Type} (step : σ → Bytes → Out (σ × Bytes)) (hs : StepOK step) (limit : Nat) :
    ∀ (f f' : Nat) (s : σ) (bs : Bytes), bs.length < f → bs.length < f' →
      mergeLoopGo step f s bs limit = mergeLoopGo step f' s bs limit := by
  intro f
  induction f with
  | zero => intro f' s bs h; omega
  | succ f ih =>
    intro f' s bs h1 h2
    cases f' with
    | zero => omega
    | succ f' =>
      unfold mergeLoopGo
      split
      · refine (hs s bs).cases ?_ fun _ => rfl
        intro ⟨s1, r1⟩ (h : r1.length < bs.length)
        exact ih f' s1 r1 (by omega) (by omega)
      · rfl

/-- `fa` is any budget under which `a` alone ran to `[]` (callers have it from `decodeIntoCtx_ok`); the induction is on it. -/
theorem loop_concat {σ : Type} (step : σ → Bytes → Out (σ × Bytes)) (hs : ∀ x s, Reader x (step s))
    (m m' : σ) (a x : Bytes) (fa : Nat) (ha : mergeLoopGo step fa m a 0 = .ok (m', [])) (limit : Nat) (hl : limit ≤ x.length)
    (f : Nat) (hf : (a ++ x).length < f) :
    mergeLoopGo step f m (a ++ x) limit = mergeLoopGo step f m' x limit := by
  induction fa generalizing m a f with
  | zero => cases ha
  | succ fa ih =>
    unfold mergeLoopGo at ha
    split at ha
    · ok_step ha
      rename_i m1 r1 heq
      have h := hs x m a
      rw [heq] at h
      obtain ⟨f, rfl⟩ : ∃ g, f = g + 1 := ⟨f - 1, by omega⟩
      simp only [List.length_append] at hf
      have h1 : r1.length < a.length := h.1
      conv => lhs; unfold mergeLoopGo
      rw [if_pos (by simp only [List.length_append]; omega), h.2]
      simp only
      rw [ih m1 r1 ha f (by simp only [List.length_append]; omega)]
      exact mergeLoopGo_fuel_indep step (fun s bs => (hs [] s bs).safe) limit f (f + 1) m' x (by omega) (by omega)
    · split at ha
      · cases ha
      · cases ha; rfl

theorem mergeField_eq (s : Schema) (ctx : Nat) : mergeField s ctx = mergeFieldWith s (recurOf s ctx) ctx := by
  cases ctx <;> rfl

/-- `decode_key` then the arm of field `d` (records of other fields do not belong here). -/
def slotStep (s : Schema) (recur : Recur) (d : FieldDecl) (m : Slot) (bs : Bytes) : Out (Slot × Bytes) :=
  match decodeKey bs with
  | .ok ((tag, wt), r) => if d.tags.contains tag then mergeSlot s recur d m tag wt r else .err .other
  | .err k => .err k | .panic e => .panic e | .fuel => .fuel

theorem slotStep_ok (s : Schema) (recur : Recur) (hr : RecurOK recur) (d : FieldDecl) : StepOK (slotStep s recur d) := by
  intro m bs
  unfold slotStep
  refine Out.good.cases (decodeKey_reader [] bs).safe ?_ fun _ => trivial
  intro ⟨⟨t, wt⟩, r⟩ (h1 : r.length < bs.length)
  simp only
  split
  · rename_i ht
    exact Out.good_imp (fun a ha => by omega) _ (mergeSlot_reader s [] recur hr.reader d m t ht wt r).safe
  · trivial

end Pilota.Proto
