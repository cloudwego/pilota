import PilotaModel.TGen.Typed
/-  The wire values as data: `TVal.beq` is equality (so `distinctL` is `Nodup`), the mutual list types `TVals` / `TFields` /
    `TPairs` against `List`, and the nesting depth `need` of a member. -/
namespace Pilota.TGen
open Pilota Pilota.Thrift

/-- along `TVal.beq`'s own case analysis: a diagonal case is the induction hypotheses, the catch-all case
answers `false` and its side conditions say that the two constructors differ. -/
theorem beq_iff_all : (∀ a b, TVal.beq a b = true ↔ a = b) ∧ (∀ a b, TPairs.beq a b = true ↔ a = b) ∧
    (∀ a b, TVals.beq a b = true ↔ a = b) ∧ (∀ a b, TFields.beq a b = true ↔ a = b) := by
  apply TVal.beq.mutual_induct
  case case13 =>
    intro x y h1 h2 h3 h4 h5 h6 h7 h8 h9 h10 h11 h12
    rw [TVal.beq.eq_13 x y h1 h2 h3 h4 h5 h6 h7 h8 h9 h10 h11 h12]
    refine ⟨nofun, ?_⟩
    rintro rfl
    cases x
    · exact (h1 _ _ rfl rfl).elim
    · exact (h2 _ _ rfl rfl).elim
    · exact (h3 _ _ rfl rfl).elim
    · exact (h4 _ _ rfl rfl).elim
    · exact (h5 _ _ rfl rfl).elim
    · exact (h6 _ _ rfl rfl).elim
    · exact (h7 _ _ rfl rfl).elim
    · exact (h8 _ _ rfl rfl).elim
    · exact (h9 _ _ rfl rfl).elim
    · exact (h10 _ _ _ _ rfl rfl).elim
    · exact (h11 _ _ _ _ rfl rfl).elim
    · exact (h12 _ _ _ _ _ _ rfl rfl).elim
  case case16 =>
    intro x y h1 h2
    rw [TPairs.beq.eq_3 x y h1 h2]
    refine ⟨nofun, ?_⟩
    rintro rfl
    cases x
    · exact (h1 rfl rfl).elim
    · exact (h2 _ _ _ _ _ _ rfl rfl).elim
  case case19 =>
    intro x y h1 h2
    rw [TVals.beq.eq_3 x y h1 h2]
    refine ⟨nofun, ?_⟩
    rintro rfl
    cases x
    · exact (h1 rfl rfl).elim
    · exact (h2 _ _ _ _ rfl rfl).elim
  case case22 =>
    intro x y h1 h2
    rw [TFields.beq.eq_3 x y h1 h2]
    refine ⟨nofun, ?_⟩
    rintro rfl
    cases x
    · exact (h1 rfl rfl).elim
    · exact (h2 _ _ _ _ _ _ rfl rfl).elim
  all_goals intros; simp [TVal.beq, TVals.beq, TFields.beq, TPairs.beq, and_assoc, *]

theorem TVal.beq_iff : ∀ (a b : TVal), TVal.beq a b = true ↔ a = b := beq_iff_all.1
theorem TVals.beq_iff : ∀ (a b : TVals), TVals.beq a b = true ↔ a = b := beq_iff_all.2.2.1
theorem TFields.beq_iff : ∀ (a b : TFields), TFields.beq a b = true ↔ a = b := beq_iff_all.2.2.2
theorem TPairs.beq_iff : ∀ (a b : TPairs), TPairs.beq a b = true ↔ a = b := beq_iff_all.2.1

theorem distinctL_iff (xs : List TVal) : distinctL xs = true ↔ xs.Nodup := by
  induction xs with
  | nil => simp [distinctL]
  | cons x xs ih =>
    simp only [distinctL, Bool.and_eq_true, Bool.not_eq_true', List.nodup_cons, ih]
    constructor
    · rintro ⟨h1, h2⟩
      refine ⟨?_, h2⟩
      intro hm
      have : xs.any (fun y => TVal.beq y x) = true := List.any_eq_true.mpr ⟨x, hm, (TVal.beq_iff x x).mpr rfl⟩
      rw [this] at h1; cases h1
    · rintro ⟨h1, h2⟩
      refine ⟨?_, h2⟩
      cases hc : xs.any (fun y => TVal.beq y x) with
      | false => rfl
      | true =>
        obtain ⟨y, hy, hb⟩ := List.any_eq_true.mp hc
        rw [(TVal.beq_iff y x).mp hb] at hy
        exact absurd hy h1

theorem TVals.ofList_toList : ∀ (xs : TVals), TVals.ofList xs.toList = xs
  | .nil => rfl
  | .cons x xs => by simp [TVals.toList, TVals.ofList, TVals.ofList_toList xs]
theorem TFields.ofList_toList : ∀ (xs : TFields), TFields.ofList xs.toList = xs
  | .nil => rfl
  | .cons i x xs => by simp [TFields.toList, TFields.ofList, TFields.ofList_toList xs]
theorem TPairs.ofList_toList : ∀ (xs : TPairs), TPairs.ofList xs.toList = xs
  | .nil => rfl
  | .cons k x xs => by simp [TPairs.toList, TPairs.ofList, TPairs.ofList_toList xs]
theorem TVals.toList_ofList : ∀ (xs : List TVal), (TVals.ofList xs).toList = xs
  | [] => rfl
  | v :: xs => by simp [TVals.toList, TVals.ofList, TVals.toList_ofList xs]
theorem TFields.toList_ofList : ∀ (xs : List (Int × TVal)), (TFields.ofList xs).toList = xs
  | [] => rfl
  | (i, v) :: xs => by simp [TFields.toList, TFields.ofList, TFields.toList_ofList xs]
theorem TPairs.toList_ofList : ∀ (xs : List (TVal × TVal)), (TPairs.ofList xs).toList = xs
  | [] => rfl
  | (k, v) :: xs => by simp [TPairs.toList, TPairs.ofList, TPairs.toList_ofList xs]
theorem TVals.length_toList : ∀ (xs : TVals), xs.toList.length = xs.length
  | .nil => rfl
  | .cons _ xs => by simp [TVals.toList, TVals.length, TVals.length_toList xs]
theorem TPairs.length_toList : ∀ (xs : TPairs), xs.toList.length = xs.length
  | .nil => rfl
  | .cons _ _ xs => by simp [TPairs.toList, TPairs.length, TPairs.length_toList xs]
theorem TVals.length_ofList : ∀ (l : List TVal), (TVals.ofList l).length = l.length
  | [] => rfl
  | _ :: l => by simp [TVals.ofList, TVals.length, TVals.length_ofList l]
theorem TPairs.length_ofList : ∀ (l : List (TVal × TVal)), (TPairs.ofList l).length = l.length
  | [] => rfl
  | (_, _) :: l => by simp [TPairs.ofList, TPairs.length, TPairs.length_ofList l]

theorem allV_iff (p : TVal → Bool) : ∀ (xs : TVals), allV p xs = true ↔ ∀ x ∈ xs.toList, p x = true
  | .nil => by simp [allV, TVals.toList]
  | .cons x xs => by simp [allV, TVals.toList, allV_iff p xs]

theorem allP_iff (p q : TVal → Bool) : ∀ (xs : TPairs), allP p q xs = true ↔ ∀ x ∈ xs.toList, p x.1 = true ∧ q x.2 = true
  | .nil => by simp [allP, TPairs.toList]
  | .cons k v xs => by simp [allP, TPairs.toList, allP_iff p q xs, and_assoc]

theorem TVals.wt_ofList (et : TType) : ∀ (l : List TVal), (TVals.ofList l).wt et = true ↔ ∀ y ∈ l, y.ttype = et ∧ y.wt = true
  | [] => by simp [TVals.ofList, TVals.wt]
  | y :: l => by simp [TVals.ofList, TVals.wt, TVals.wt_ofList et l, and_assoc]

theorem TPairs.wt_ofList (kt vt : TType) : ∀ (l : List (TVal × TVal)),
    (TPairs.ofList l).wt kt vt = true ↔ ∀ p ∈ l, (p.1.ttype = kt ∧ p.1.wt = true) ∧ (p.2.ttype = vt ∧ p.2.wt = true)
  | [] => by simp [TPairs.ofList, TPairs.wt]
  | (a, b) :: l => by
    simp only [TPairs.ofList, TPairs.wt, TPairs.wt_ofList kt vt l, Bool.and_eq_true, decide_eq_true_eq, List.mem_cons, forall_eq_or_imp]
    constructor
    · rintro ⟨⟨⟨⟨h1, h2⟩, h3⟩, h4⟩, h5⟩; exact ⟨⟨⟨h1, h3⟩, ⟨h2, h4⟩⟩, h5⟩
    · rintro ⟨⟨⟨h1, h3⟩, ⟨h2, h4⟩⟩, h5⟩; exact ⟨⟨⟨⟨h1, h2⟩, h3⟩, h4⟩, h5⟩

theorem TFields.wt_ofList : ∀ (l : List (Int × TVal)), (TFields.ofList l).wt = true ↔ ∀ p ∈ l, inS 2 p.1 ∧ p.2.wt = true
  | [] => by simp [TFields.ofList, TFields.wt]
  | (i, v) :: l => by simp [TFields.ofList, TFields.wt, TFields.wt_ofList l, and_assoc]

theorem TVals.need_mem : ∀ (xs : TVals), ∀ x ∈ xs.toList, x.need ≤ xs.need
  | .nil => by intro x hx; cases hx
  | .cons y ys => by
    intro x hx
    simp only [TVals.toList, List.mem_cons] at hx
    simp only [TVals.need]
    rcases hx with rfl | hx
    · omega
    · have := TVals.need_mem ys x hx; omega

theorem TFields.need_mem : ∀ (xs : TFields), ∀ p ∈ xs.toList, p.2.need ≤ xs.need
  | .nil => by intro x hx; cases hx
  | .cons i y ys => by
    intro p hp
    simp only [TFields.toList, List.mem_cons] at hp
    simp only [TFields.need]
    rcases hp with rfl | hp
    · simp only; omega
    · have := TFields.need_mem ys p hp; omega

theorem TPairs.need_mem : ∀ (xs : TPairs), ∀ p ∈ xs.toList, p.1.need ≤ xs.need ∧ p.2.need ≤ xs.need
  | .nil => by intro x hx; cases hx
  | .cons k y ys => by
    intro p hp
    simp only [TPairs.toList, List.mem_cons] at hp
    simp only [TPairs.need]
    rcases hp with rfl | hp
    · simp only; omega
    · have := TPairs.need_mem ys p hp; omega

end Pilota.TGen
