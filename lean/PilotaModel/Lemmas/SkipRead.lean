import PilotaModel.Lemmas.SkipPrims
import PilotaModel.Lemmas.ReadTotalBinary
import PilotaModel.Lemmas.WalkSkip
import PilotaModel.Lemmas.WalkCompact
/-
  A skipper consumes exactly what the reading interpreter would consume, on EVERY input the
  reader accepts: `readVal … = ok (v, r)` implies `skip … = ok (consumed, r)` when the depth
  budget covers the nesting of `v`, and `err depth` when it does not.
-/
namespace Pilota.Thrift.Skip
open Pilota Pilota.Thrift

theorem advance_of {w bs r} (h : w ≤ bs.length ∧ r = bs.drop w) : advance w bs = .ok (w, r) := by
  obtain ⟨h1, rfl⟩ := h; exact if_pos h1
theorem skipBinary_of_readBytes {e bs b r} (h : Binary.readBytes e bs = .ok (b, r)) : skipBinary e bs = .ok (4 + b.length, r) := by
  obtain ⟨len, r0, h1, h2, rfl, rfl⟩ := Binary.readBytes_ok h
  unfold skipBinary
  simp only [h1]
  rw [if_pos h2, List.length_take, Nat.min_eq_left h2]

theorem binary_leaf {e : Endian} {l : Walk.Leaf} {bs : Bytes} {x : TVal × Bytes} (h : Binary.readVal e 1 l.ttype bs = .ok x) :
    drop1 (binaryLeaf e l.ttype bs) = .ok ((), x.2) ∧ x.1.need = 1 := by
  cases l <;> dsimp only [Walk.Leaf.ttype] at h ⊢ <;> unfold Binary.readVal at h <;> dsimp only [binaryLeaf]
  case bool | i8 | i16 | i32 | i64 => ok_step h; cases h; rw [advance_of (Binary.readI_ok ‹_›)]; exact ⟨rfl, rfl⟩
  case double => ok_step h; cases h; rw [advance_of (Binary.readU_ok ‹_›)]; exact ⟨rfl, rfl⟩
  case binary => ok_step h; cases h; rw [skipBinary_of_readBytes ‹_›]; exact ⟨rfl, rfl⟩
  case uuid => ok_step h; cases h; rw [advance_of ⟨(Binary.takeN_ok ‹_›).1, (Binary.takeN_ok ‹_›).2.2⟩]; exact ⟨rfl, rfl⟩

theorem binary_skips (e : Endian) : (Binary.walkPrims e).Skips (binaryPrims e) (fun bs => ((), bs)) fun _ => True where
  leaf _ h := binary_leaf h
  structBegin _ := ⟨rfl, trivial⟩
  structEnd h := by cases h; exact ⟨rfl, rfl⟩
  fieldBegin {s x} _ h := ⟨by rw [bp_fb, show Binary.readFieldBegin e s = .ok x from h], trivial⟩
  listBegin _ h := ⟨h, rfl, trivial⟩
  mapBegin _ h := ⟨h, rfl, trivial⟩

theorem skip_of_read {e f d t bs v r} (hd : 0 ≤ d) (h : Binary.readVal e f t bs = .ok (v, r)) :
    skipVal e f d t bs = if (v.need : Int) ≤ d then .ok (bs.length - r.length, r) else .err .depth := by
  rw [(skipVal_eq e f).1, (Walk.skips (binary_skips e) (fun _ _ => trivial) f).1 (x := (v, r)) hd trivial ((Binary.readVal_eq_walk e f).1 ▸ h)]
  split <;> rfl

theorem skip_of_read_ok {e f d t bs v r} (hd : 0 ≤ d) (h : Binary.readVal e f t bs = .ok (v, r)) (hn : (v.need : Int) ≤ d) :
    skipVal e f d t bs = .ok (bs.length - r.length, r) :=
  (skip_of_read hd h).trans (if_pos hn)

theorem skip_of_read_depth {e f d t bs v r} (hd : 0 ≤ d) (h : Binary.readVal e f t bs = .ok (v, r)) (hn : d < (v.need : Int)) :
    skipVal e f d t bs = .err .depth :=
  (skip_of_read hd h).trans (if_neg (by omega))

theorem compact_leaf {l : Walk.Leaf} {s : Compact.CR} {bs : Bytes} {x : TVal × Compact.CR × Bytes}
    (h : Compact.readVal 1 l.ttype s bs = .ok x) : compactLeaf l.ttype s bs = .ok x.2 ∧ x.1.need = 1 := by
  cases l <;> dsimp only [Walk.Leaf.ttype] at h ⊢ <;> unfold Compact.readVal at h <;> dsimp only [compactLeaf]
  all_goals (ok_step h; cases h; rename_i heq; rw [heq]; exact ⟨rfl, rfl⟩)

theorem compact_skips : Compact.walkPrims.Skips compactPrims id fun _ => True where
  leaf _ h := compact_leaf h
  structBegin _ := ⟨rfl, trivial⟩
  structEnd h := Compact.structEnd_ok.mp h
  fieldBegin _ h := ⟨h, trivial⟩
  listBegin _ h := ⟨(Compact.onInput_ok.mp h).1, (Compact.onInput_ok.mp h).2, trivial⟩
  mapBegin _ h := ⟨(Compact.onInput_ok.mp h).1, (Compact.onInput_ok.mp h).2, trivial⟩

theorem rdSkip_of_read {P : Prims Compact.CR} (hP : Compact.walkPrims.Skips P id fun _ => True) {f d t s bs v s' r} (hd : 0 ≤ d)
    (h : Compact.readVal f t s bs = .ok (v, s', r)) : rdSkip P f d t s bs = if (v.need : Int) ≤ d then .ok (s', r) else .err .depth :=
  (Walk.skips hP (fun _ _ => trivial) f).1 (x := (v, s', r)) hd trivial ((Compact.readVal_eq_walk f).1 t s bs ▸ h)

theorem rawCollBegin_of_read {bs x r} (h : Compact.readCollBegin bs = .ok (x, r)) : rawCollBegin bs = .ok (x, r) := by
  unfold Compact.readCollBegin at h
  unfold rawCollBegin
  ok_step h
  simp only [‹Compact.readByte _ = _›]
  split at h
  · cases h
  · simp only [‹Compact.ttypeOfCompact _ = _›]
    split at h
    · rw [if_pos ‹_›]
      ok_step h
      cases h
      obtain ⟨_, h0, hk⟩ := Binary.checkSize_inv ‹_›
      exact congrArg (fun k => Out.ok ((_, k), _)) (by omega)
    · rw [if_neg ‹_›]
      ok_step h
      ok_step h
      cases h
      simp only [‹readVarU _ _ = _›, Binary.asUsize_of_checkSize (inS_toS 4 (by decide) _) ‹_›]

theorem rawCMapBegin_of_read {bs x r} (h : Compact.readMapBegin bs = .ok (x, r)) : rawCMapBegin bs = .ok (x, r) := by
  unfold Compact.readMapBegin at h
  unfold rawCMapBegin
  ok_step h
  ok_step h
  simp only [‹readVarU _ _ = _›]
  have hc := Binary.asUsize_of_checkSize (inS_toS 4 (by decide) _) ‹_›
  obtain ⟨_, h0, hk⟩ := Binary.checkSize_inv ‹_›
  split at h
  · cases h
    rw [if_pos (by omega)]
  · rw [if_neg (by omega), hc]
    exact h

/-- the async skipper's primitives differ in the container headers, which do not check the count -/
theorem asyncCompact_skips : Compact.walkPrims.Skips asyncCompactPrims id fun _ => True :=
  { compact_skips with
    leaf := fun _ h => by rw [show asyncCompactPrims.leaf = compactLeaf from asyncCompactLeaf_eq]; exact compact_leaf h
    listBegin := fun _ h => ⟨rawCollBegin_of_read (Compact.onInput_ok.mp h).1, (Compact.onInput_ok.mp h).2, trivial⟩
    mapBegin := fun _ h => ⟨rawCMapBegin_of_read (Compact.onInput_ok.mp h).1, (Compact.onInput_ok.mp h).2, trivial⟩ }

/-- normalising empty maps (compact does not carry their key / value types) keeps the nesting. -/
theorem need_norm : ∀ v : TVal, (Compact.norm v).need = v.need
  | .struct fs => by simp [Compact.norm, TVal.need, needF_norm fs]
  | .list _ xs => by simp [Compact.norm, TVal.need, needL_norm xs]
  | .set _ xs => by simp [Compact.norm, TVal.need, needL_norm xs]
  | .map _ _ .nil => by simp [Compact.norm, TVal.need, TPairs.need]
  | .map _ _ (.cons k v r) => by
      simp [Compact.norm, Compact.normPairs, TVal.need, TPairs.need, need_norm k, need_norm v, needP_norm r]
  | .bool _ | .i8 _ | .i16 _ | .i32 _ | .i64 _ | .dbl _ | .bin _ | .uuid _ => by simp [Compact.norm]
where
  needL_norm : ∀ xs : TVals, (Compact.normVals xs).need = xs.need
    | .nil => rfl
    | .cons v vs => by simp [Compact.normVals, TVals.need, need_norm v, needL_norm vs]
  needF_norm : ∀ fs : TFields, (Compact.normFields fs).need = fs.need
    | .nil => rfl
    | .cons _ v r => by simp [Compact.normFields, TFields.need, need_norm v, needF_norm r]
  needP_norm : ∀ kvs : TPairs, (Compact.normPairs kvs).need = kvs.need
    | .nil => rfl
    | .cons k v r => by simp [Compact.normPairs, TPairs.need, need_norm k, need_norm v, needP_norm r]

theorem rawListBegin_of_read {bs x r} (h : Binary.readListBegin .be bs = .ok (x, r)) : rawListBegin bs = .ok (x, r) := by
  unfold Binary.readListBegin at h
  unfold rawListBegin
  ok_step h
  ok_step h
  ok_step h
  cases h
  simp only [‹Binary.readTType _ = _›, ‹Binary.readI _ _ _ = _›, Binary.asUsize_of_checkSize (Binary.readI_inS _ 4 (by decide) _ _ _ ‹_›) ‹_›]

theorem rawMapBegin_of_read {bs x r} (h : Binary.readMapBegin .be bs = .ok (x, r)) : rawMapBegin bs = .ok (x, r) := by
  unfold Binary.readMapBegin at h
  unfold rawMapBegin
  ok_step h
  simp only [‹Binary.readTType _ = _›]
  ok_step h
  ok_step h
  ok_step h
  cases h
  simp only [‹Binary.readTType _ = _›, ‹Binary.readI _ _ _ = _›, Binary.asUsize_of_checkSize (Binary.readI_inS _ 4 (by decide) _ _ _ ‹_›) ‹_›]

/-- on a buffer of fewer than 2^63 bytes a length that passes the bounds check is not negative. -/
theorem asyncBinaryString_of_read {bs b r} (hb : bs.length < 2 ^ 63) (h : Binary.readBytes .be bs = .ok (b, r)) :
    asyncBinaryString bs = .ok (b, r) := by
  obtain ⟨len, r0, h1, h2, rfl, rfl⟩ := Binary.readBytes_ok h
  have hl := Binary.readI_len h1
  have hin := Binary.readI_inS _ 4 (by decide) _ _ _ h1
  have hnn : ¬ len < 0 := fun h0 => by have := Binary.asUsize_of_neg len h0 hin; omega
  rw [Binary.asUsize_of_nonneg len (by omega) hin] at h2 ⊢
  unfold asyncBinaryString
  simp only [h1]
  rw [if_neg hnn, if_pos h2]

theorem abp_leaf : asyncBinaryPrims.leaf = asyncBinaryLeaf := rfl
theorem abp_sb (s) : asyncBinaryPrims.structBegin s = s := rfl
theorem abp_se (s) : asyncBinaryPrims.structEnd s = .ok s := rfl
theorem abp_fb (s bs) : asyncBinaryPrims.fieldBegin s bs = (match Binary.readFieldBegin .be bs with
    | .ok (x, r) => .ok (x, s, r)
    | .err k => .err k | .panic m => .panic m | .fuel => .fuel) := rfl
theorem abp_lb : asyncBinaryPrims.listBegin = rawListBegin := rfl
theorem abp_mb : asyncBinaryPrims.mapBegin = rawMapBegin := rfl

/-- `sk` restated through what the reader `rd` returned: where `rd` is `ok (v, r)` the skipper with budget `d` must
stop at `r` or refuse with the depth error; elsewhere nothing is said (`sk` itself). -/
def specU {α : Type} (need : α → Nat) (off : Int) (d : Int) (rd : Out (α × Bytes)) (sk : Out (Unit × Bytes)) : Out (Unit × Bytes) :=
  match rd with
  | .ok (v, r) => if (need v : Int) + off ≤ d then .ok ((), r) else .err .depth
  | _ => sk

theorem specU_of {α : Type} {need : α → Nat} {off d : Int} {rd : Out (α × Bytes)} {sk : Out (Unit × Bytes)}
    (h : ∀ v r, rd = .ok (v, r) → sk = if (need v : Int) + off ≤ d then .ok ((), r) else .err .depth) :
    sk = specU need off d rd sk := by
  cases rd with
  | ok p => exact h p.1 p.2 rfl
  | _ => rfl

theorem binary_keeps (e : Endian) (n : Nat) : Walk.Keeps (Binary.walkPrims e) fun bs => bs.length < n :=
  fun hi h => Nat.lt_trans ((Walk.consumes (Binary.walkPrims_safe e).consumes _).1 h) hi

theorem asyncBinary_leaf {l : Walk.Leaf} {bs : Bytes} {x : TVal × Bytes} (hb : bs.length < 2 ^ 63)
    (h : Binary.readVal .be 1 l.ttype bs = .ok x) : asyncBinaryLeaf l.ttype () bs = .ok ((), x.2) ∧ x.1.need = 1 := by
  cases l <;> dsimp only [Walk.Leaf.ttype] at h ⊢ <;> unfold Binary.readVal at h <;> dsimp only [asyncBinaryLeaf]
  case binary => ok_step h; cases h; rw [asyncBinaryString_of_read hb ‹_›]; exact ⟨rfl, rfl⟩
  all_goals (ok_step h; cases h; rename_i heq; rw [heq]; exact ⟨rfl, rfl⟩)

/-- On an input a slice can hold: the async string read refuses a negative length, which the in-memory reader can only meet on
`2 ^ 63` bytes or more. -/
theorem asyncBinary_skips : (Binary.walkPrims .be).Skips asyncBinaryPrims (fun bs => ((), bs)) fun bs => bs.length < 2 ^ 63 where
  leaf hb h := asyncBinary_leaf hb h
  structBegin hb := ⟨rfl, hb⟩
  structEnd h := by cases h; exact ⟨rfl, rfl⟩
  fieldBegin {s x} hb h := by
    have := Binary.readFieldBegin_len h
    exact ⟨by rw [abp_fb, show Binary.readFieldBegin .be s = .ok x from h], by omega⟩
  listBegin {s x} hb h := by
    have := Binary.readListBegin_len h
    exact ⟨rawListBegin_of_read h, rfl, by omega⟩
  mapBegin {s x} hb h := by
    have := Binary.readMapBegin_len h
    exact ⟨rawMapBegin_of_read h, rfl, by omega⟩

theorem askip_of_read : ∀ f,
    (∀ d t bs, 0 ≤ d → bs.length < 2 ^ 63 →
      rdSkip asyncBinaryPrims f d t () bs = specU TVal.need 0 d (Binary.readVal .be f t bs) (rdSkip asyncBinaryPrims f d t () bs)) ∧
    (∀ d bs, 1 ≤ d → bs.length < 2 ^ 63 →
      rdFields asyncBinaryPrims f d () bs = specU TFields.need 1 d (Binary.readFields .be f bs) (rdFields asyncBinaryPrims f d () bs)) ∧
    (∀ d et n bs, 1 ≤ d → bs.length < 2 ^ 63 →
      rdN asyncBinaryPrims f d et n () bs = specU TVals.need 1 d (Binary.readN .be f et n bs) (rdN asyncBinaryPrims f d et n () bs)) ∧
    (∀ d kt vt n bs, 1 ≤ d → bs.length < 2 ^ 63 →
      rdPairs asyncBinaryPrims f d kt vt n () bs = specU TPairs.need 1 d (Binary.readPairs .be f kt vt n bs) (rdPairs asyncBinaryPrims f d kt vt n () bs)) :=
  fun f => have hw := Binary.readVal_eq_walk .be f
  have ⟨h1, h2, h3, h4⟩ := Walk.skips asyncBinary_skips (binary_keeps .be _) f
  ⟨fun _ _ _ hd hb => specU_of fun v r h => by rw [h1 (x := (v, r)) hd hb (hw.1 ▸ h), Int.add_zero],
    fun _ _ hd hb => specU_of fun v r h => h2 (x := (v, r)) hd hb (hw.2.1 ▸ h),
    fun _ _ _ _ hd hb => specU_of fun v r h => h3 (x := (v, r)) hd hb (hw.2.2.1 ▸ h),
    fun _ _ _ _ _ hd hb => specU_of fun v r h => h4 (x := (v, r)) hd hb (hw.2.2.2 ▸ h)⟩

end Pilota.Thrift.Skip
