import PilotaModel.Lemmas.Types
import PilotaModel.Lemmas.Walk
import PilotaModel.Thrift.Skip
/-
  The read-and-discard skipper `Skip.rdSkip P` is to the skippers what the value walker is to the readers.  Two relations
  over it: skipper against skipper (`rdSkip_sim`: the successes of one are successes of another whose primitives carry
  over the successes of the first; more input and more budget are the case `P' = P`), and reader against skipper
  (`Walk.skips`: where the walker returns `v`, the skipper stops in the same place, or refuses when its depth budget does
  not cover the nesting of `v`).
-/
namespace Pilota.Thrift.Skip
open Pilota Pilota.Thrift

variable {τ τ' : Type}

/-- The primitives of `P'` carry over every success of the primitives of `P`; `ρ` relates reader state and input together
(a primitive that sees only one of the two leaves the other as it is). -/
structure Prims.Sim (P : Prims τ) (P' : Prims τ') (ρ : τ × Bytes → τ' × Bytes → Prop) : Prop where
  leaf : ∀ t {s bs s' bs'}, ρ (s, bs) (s', bs') → Out.Carries ρ (P.leaf t s bs) (P'.leaf t s' bs')
  structBegin : ∀ {s bs s' bs'}, ρ (s, bs) (s', bs') → ρ (P.structBegin s, bs) (P'.structBegin s', bs')
  structEnd : ∀ {s bs s' bs'}, ρ (s, bs) (s', bs') → Out.Carries (fun s1 s1' => ρ (s1, bs) (s1', bs')) (P.structEnd s) (P'.structEnd s')
  fieldBegin : ∀ {s bs s' bs'}, ρ (s, bs) (s', bs') → Walk.Carries ρ (P.fieldBegin s bs) (P'.fieldBegin s' bs')
  listBegin : ∀ {s bs s' bs'}, ρ (s, bs) (s', bs') → Walk.Carries (fun r r' => ρ (s, r) (s', r')) (P.listBegin bs) (P'.listBegin bs')
  mapBegin : ∀ {s bs s' bs'}, ρ (s, bs) (s', bs') → Walk.Carries (fun r r' => ρ (s, r) (s', r')) (P.mapBegin bs) (P'.mapBegin bs')

theorem rdSkip_sim {P : Prims τ} {P' : Prims τ'} {ρ : τ × Bytes → τ' × Bytes → Prop} (h : P.Sim P' ρ) : ∀ f f', f ≤ f' →
    (∀ d t {s bs s' bs'}, ρ (s, bs) (s', bs') → Out.Carries ρ (rdSkip P f d t s bs) (rdSkip P' f' d t s' bs')) ∧
    (∀ d {s bs s' bs'}, ρ (s, bs) (s', bs') → Out.Carries ρ (rdFields P f d s bs) (rdFields P' f' d s' bs')) ∧
    (∀ d et n {s bs s' bs'}, ρ (s, bs) (s', bs') → Out.Carries ρ (rdN P f d et n s bs) (rdN P' f' d et n s' bs')) ∧
    (∀ d kt vt n {s bs s' bs'}, ρ (s, bs) (s', bs') → Out.Carries ρ (rdPairs P f d kt vt n s bs) (rdPairs P' f' d kt vt n s' bs')) := by
  intro f
  induction f with
  | zero => exact fun _ _ => ⟨fun _ _ _ _ _ _ _ => nofun, fun _ _ _ _ _ _ => nofun, fun _ _ _ _ _ _ _ _ => nofun, fun _ _ _ _ _ _ _ _ _ => nofun⟩
  | succ f ih =>
    intro f' hf
    obtain ⟨g, rfl⟩ : ∃ g, f' = g + 1 := ⟨f' - 1, by omega⟩
    obtain ⟨ih1, ih2, ih3, ih4⟩ := ih g (by omega)
    refine ⟨fun d t s bs s' bs' hr x e => ?_, fun d s bs s' bs' hr x e => ?_, fun d et n s bs s' bs' hr x e => ?_,
      fun d kt vt n s bs s' bs' hr x e => ?_⟩
    · unfold rdSkip at e ⊢
      split at e
      · cases e
      · rw [if_neg ‹_›]
        split at e
        · cases e
        · cases e
        · ok_step e; rename_i h1; ok_step e; rename_i h2; cases e
          obtain ⟨y, e1, hr1⟩ := ih2 d (h.structBegin hr) _ h1
          obtain ⟨s2, e2, hr2⟩ := h.structEnd hr1 _ h2
          exact ⟨_, by simp only [e1, e2], hr2⟩
        · ok_step e; rename_i h1
          obtain ⟨r1, e1, hr1⟩ := h.listBegin hr _ _ h1
          simp only [e1]
          exact ih3 d _ _ hr1 _ e
        · ok_step e; rename_i h1
          obtain ⟨r1, e1, hr1⟩ := h.listBegin hr _ _ h1
          simp only [e1]
          exact ih3 d _ _ hr1 _ e
        · ok_step e; rename_i h1
          obtain ⟨r1, e1, hr1⟩ := h.mapBegin hr _ _ h1
          simp only [e1]
          exact ih4 d _ _ _ hr1 _ e
        · exact h.leaf _ hr _ e
    · unfold rdFields at e ⊢
      ok_step e; rename_i h1
      obtain ⟨y, e1, hr1⟩ := (h.fieldBegin hr) _ _ h1
      simp only [e1]
      split at e
      · cases e; rw [if_pos ‹_›]; exact ⟨_, rfl, hr1⟩
      · rw [if_neg ‹_›]
        split at e
        · cases e
        · rw [if_neg ‹_›]
          ok_step e; rename_i h2
          obtain ⟨z, e2, hr2⟩ := ih1 _ _ hr1 _ h2
          simp only [e2]
          exact ih2 d hr2 _ e
    · cases n <;> unfold rdN at e ⊢
      · cases e; exact ⟨_, rfl, hr⟩
      · split at e
        · cases e
        · rw [if_neg ‹_›]
          ok_step e; rename_i h1
          obtain ⟨y, e1, hr1⟩ := ih1 _ _ hr _ h1
          simp only [e1]
          exact ih3 d _ _ hr1 _ e
    · cases n <;> unfold rdPairs at e ⊢
      · cases e; exact ⟨_, rfl, hr⟩
      · split at e
        · cases e
        · rw [if_neg ‹_›]
          ok_step e; rename_i h1; ok_step e; rename_i h2
          obtain ⟨y, e1, hr1⟩ := ih1 _ _ hr _ h1
          obtain ⟨z, e2, hr2⟩ := ih1 _ _ hr1 _ h2
          simp only [e1, e2]
          exact ih4 d _ _ _ hr2 _ e

/-! How the depth budget passes through the calls of a read-and-discard skipper: each call returns its value if
its own condition on the budget holds and the depth error otherwise; so does the sequence, for a condition `c`
equivalent to the conjunction. -/
section
variable {σ : Type} {P : Prims σ} {f : Nat} {d : Int} {c c1 c2 c3 : Prop} [Decidable c] [Decidable c1] [Decidable c2] [Decidable c3]

theorem ite_of_iff {α} {c c' : Prop} [Decidable c] [Decidable c'] (h : c ↔ c') (x y : α) :
    (if c' then x else y) = if c then x else y :=
  ite_congr (propext h.symm) (fun _ => rfl) fun _ => rfl

theorem rdFields_stop {s bs id s0 r0} (hfb : P.fieldBegin s bs = .ok ((.stop, id), s0, r0)) :
    rdFields P (f + 1) d s bs = .ok (s0, r0) := by
  unfold rdFields
  simp only [hfb, if_true]

theorem rdFields_succ {s bs t id s0 r0 s1 r1 b} (hd : 1 ≤ d)
    (hfb : P.fieldBegin s bs = .ok ((t, id), s0, r0)) (ht : t ≠ .stop)
    (h1 : rdSkip P f (d - 1) t s0 r0 = if c1 then .ok (s1, r1) else .err .depth)
    (h2 : rdFields P f d s1 r1 = if c2 then .ok b else .err .depth) (hc : c ↔ c1 ∧ c2) :
    rdFields P (f + 1) d s bs = if c then .ok b else .err .depth := by
  unfold rdFields
  simp only [hfb, h1]
  rw [if_neg ht, if_neg (by omega)]
  by_cases k1 : c1
  · simp only [k1, if_true, true_and, h2] at hc ⊢
    exact ite_of_iff hc _ _
  · simp only [k1, if_false, false_and] at hc ⊢
    exact (if_neg hc.mp).symm

theorem rdN_succ {et n s bs s1 r1 b} (hd : 1 ≤ d)
    (h1 : rdSkip P f (d - 1) et s bs = if c1 then .ok (s1, r1) else .err .depth)
    (h2 : rdN P f d et n s1 r1 = if c2 then .ok b else .err .depth) (hc : c ↔ c1 ∧ c2) :
    rdN P (f + 1) d et (n + 1) s bs = if c then .ok b else .err .depth := by
  unfold rdN
  rw [if_neg (by omega), h1]
  by_cases k1 : c1
  · simp only [k1, if_true, true_and, h2] at hc ⊢
    exact ite_of_iff hc _ _
  · simp only [k1, if_false, false_and] at hc ⊢
    exact (if_neg hc.mp).symm

theorem rdPairs_succ {kt vt n s bs s1 r1 s2 r2 b} (hd : 1 ≤ d)
    (h1 : rdSkip P f (d - 1) kt s bs = if c1 then .ok (s1, r1) else .err .depth)
    (h2 : rdSkip P f (d - 1) vt s1 r1 = if c2 then .ok (s2, r2) else .err .depth)
    (h3 : rdPairs P f d kt vt n s2 r2 = if c3 then .ok b else .err .depth) (hc : c ↔ c1 ∧ c2 ∧ c3) :
    rdPairs P (f + 1) d kt vt (n + 1) s bs = if c then .ok b else .err .depth := by
  unfold rdPairs
  rw [if_neg (by omega), h1]
  by_cases k1 : c1
  · simp only [k1, if_true, true_and, h2] at hc ⊢
    by_cases k2 : c2
    · simp only [k2, if_true, true_and, h3] at hc ⊢
      exact ite_of_iff hc _ _
    · simp only [k2, if_false, false_and] at hc ⊢
      exact (if_neg hc.mp).symm
  · simp only [k1, if_false, false_and] at hc ⊢
    exact (if_neg hc.mp).symm
end

end Pilota.Thrift.Skip

namespace Pilota.Thrift.Walk
open Pilota Pilota.Thrift Pilota.Thrift.Skip

variable {σ τ : Type}

/-- From the walker's states `s` that satisfy `I`, the skipper's primitives, run on the skipper's view `π s` of the state
(its own state, and the input that the walker's state contains), discard what the walker's primitives return.  What a
leaf returns has no parts (`need = 1`: one level of the depth budget).  `I` must hold along the walk (`Keeps`): it is "short
enough for a slice" for the async binary skipper, whose string read refuses a negative length, and `True` elsewhere. -/
structure Prims.Skips (R : Prims σ) (P : Skip.Prims τ) (π : σ → τ × Bytes) (I : σ → Prop) : Prop where
  leaf : ∀ {l s x}, I s → R.leaf l s = .ok x → P.leaf l.ttype (π s).1 (π s).2 = .ok (π x.2) ∧ x.1.need = 1
  structBegin : ∀ {s}, I s → π (R.structBegin s) = (P.structBegin (π s).1, (π s).2) ∧ I (R.structBegin s)
  structEnd : ∀ {s s'}, R.structEnd s = .ok s' → P.structEnd (π s).1 = .ok (π s').1 ∧ (π s').2 = (π s).2
  fieldBegin : ∀ {s x}, I s → R.fieldBegin s = .ok x → P.fieldBegin (π s).1 (π s).2 = .ok (x.1, π x.2) ∧ I x.2
  listBegin : ∀ {s x}, I s → R.listBegin s = .ok x → P.listBegin (π s).2 = .ok (x.1, (π x.2).2) ∧ (π x.2).1 = (π s).1 ∧ I x.2
  mapBegin : ∀ {s x}, I s → R.mapBegin s = .ok x → P.mapBegin (π s).2 = .ok (x.1, (π x.2).2) ∧ (π x.2).1 = (π s).1 ∧ I x.2

def Keeps (R : Prims σ) (I : σ → Prop) : Prop := ∀ {f t s x}, I s → val R f t s = .ok x → I x.2

theorem skips {R : Prims σ} {P : Skip.Prims τ} {π : σ → τ × Bytes} {I : σ → Prop} (h : R.Skips P π I) (hk : Keeps R I) : ∀ f,
    (∀ {d t s x}, 0 ≤ d → I s → val R f t s = .ok x →
      rdSkip P f d t (π s).1 (π s).2 = if (x.1.need : Int) ≤ d then .ok (π x.2) else .err .depth) ∧
    (∀ {d s x}, 1 ≤ d → I s → fields R f s = .ok x →
      rdFields P f d (π s).1 (π s).2 = if (x.1.need : Int) + 1 ≤ d then .ok (π x.2) else .err .depth) ∧
    (∀ {d et n s x}, 1 ≤ d → I s → elems R f et n s = .ok x →
      rdN P f d et n (π s).1 (π s).2 = if (x.1.need : Int) + 1 ≤ d then .ok (π x.2) else .err .depth) ∧
    (∀ {d kt vt n s x}, 1 ≤ d → I s → pairs R f kt vt n s = .ok x →
      rdPairs P f d kt vt n (π s).1 (π s).2 = if (x.1.need : Int) + 1 ≤ d then .ok (π x.2) else .err .depth) := by
  intro f
  induction f with
  | zero => exact ⟨nofun, nofun, nofun, nofun⟩
  | succ f ih =>
    obtain ⟨ih1, ih2, ih3, ih4⟩ := ih
    refine ⟨fun {d t s x} hd hi e => ?_, fun {d s x} hd hi e => ?_, fun {d et n s x} hd hi e => ?_, fun {d kt vt n s x} hd hi e => ?_⟩
    · unfold rdSkip
      split
      · exact (if_neg (by have := TVal.need_pos x.1; omega)).symm
      · have hd1 : 1 ≤ d := by omega
        cases t <;> unfold val at e <;> dsimp only
        case stop | void => cases e
        case struct =>
          obtain ⟨y, e1, e⟩ := Out.bind_eq_ok e; obtain ⟨s', e2, e⟩ := Out.bind_eq_ok e; cases e
          obtain ⟨hb, hi1⟩ := h.structBegin hi
          have hk := ih2 hd1 hi1 e1
          rw [hb] at hk
          obtain ⟨he, hr⟩ := h.structEnd e2
          simp only [TVal.need]
          split at hk <;> simp only [hk]
          · simp only [he, ← hr]
            exact (if_pos (by omega)).symm
          · exact (if_neg (by omega)).symm
        case list | set =>
          obtain ⟨y, e1, e⟩ := Out.bind_eq_ok e; obtain ⟨z, e2, e⟩ := Out.bind_eq_ok e; cases e
          obtain ⟨hl, hs, hi1⟩ := h.listBegin hi e1
          have := ih3 hd1 hi1 e2
          rw [hs] at this
          simp only [hl, this, TVal.need, Int.natCast_add, Int.natCast_one]
          rfl
        case map =>
          obtain ⟨y, e1, e⟩ := Out.bind_eq_ok e; obtain ⟨z, e2, e⟩ := Out.bind_eq_ok e; cases e
          obtain ⟨hl, hs, hi1⟩ := h.mapBegin hi e1
          have := ih4 hd1 hi1 e2
          rw [hs] at this
          simp only [hl, this, TVal.need, Int.natCast_add, Int.natCast_one]
          rfl
        all_goals exact (h.leaf hi e).1.trans (if_pos (by rw [(h.leaf hi e).2]; exact hd1)).symm
    · unfold fields at e
      obtain ⟨y, e1, e⟩ := Out.bind_eq_ok e
      obtain ⟨hfb, hi1⟩ := h.fieldBegin hi e1
      split at e
      · cases e
        rename_i hs
        obtain ⟨⟨t, id⟩, s1⟩ := y
        cases hs
        exact (rdFields_stop hfb).trans (if_pos hd).symm
      · obtain ⟨z, e2, e⟩ := Out.bind_eq_ok e; obtain ⟨w, e3, e⟩ := Out.bind_eq_ok e; cases e
        exact rdFields_succ hd hfb ‹_› (ih1 (x := z) (by omega) hi1 e2) (ih2 (x := w) hd (hk hi1 e2) e3) (by simp only [TFields.need]; omega)
    · cases n <;> unfold elems at e
      · cases e; exact (if_pos hd).symm
      · obtain ⟨z, e2, e⟩ := Out.bind_eq_ok e; obtain ⟨w, e3, e⟩ := Out.bind_eq_ok e; cases e
        exact rdN_succ hd (ih1 (x := z) (by omega) hi e2) (ih3 (x := w) hd (hk hi e2) e3) (by simp only [TVals.need]; omega)
    · cases n <;> unfold pairs at e
      · cases e; exact (if_pos hd).symm
      · obtain ⟨z, e1, e⟩ := Out.bind_eq_ok e; obtain ⟨w, e2, e⟩ := Out.bind_eq_ok e; obtain ⟨u, e3, e⟩ := Out.bind_eq_ok e; cases e
        exact rdPairs_succ hd (ih1 (x := z) (by omega) hi e1) (ih1 (x := w) (by omega) (hk hi e1) e2) (ih4 (x := u) hd (hk (hk hi e1) e2) e3)
          (by simp only [TPairs.need]; omega)
end Pilota.Thrift.Walk
