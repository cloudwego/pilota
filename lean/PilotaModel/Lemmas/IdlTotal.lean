import PilotaModel.Lemmas.IdlExt
/-
  C16 at the level of the parser: every `impl Parser` of the model is `Good` at its budget and is extended by the same
  parser with a larger budget (`Ext`).

  Both facts follow the combinator structure of a parser, so they are carried together: `Reg w p q`
  has one instance per combinator and one per parser, and the parts of a parser are found by
  instance search.
-/
namespace Pilota.Idl

/-- `p` is `Good w`, and `q` repeats every run of `p` that does not exhaust the budget
(`q` is `p` itself, or `p` with one more level of budget). -/
class Reg {α} (w : Nat) (p q : P α) : Prop where
  good : Good w p
  ext : Ext p q

variable {w : Nat}

theorem Good.ite {α} {c : Prop} [Decidable c] {p q : P α} (hp : Good w p) (hq : Good w q) :
    Good w (if c then p else q) := by split <;> assumption

theorem Good.skip_tag_nest {β} {t : List Char} {q : P β} (ht : 1 ≤ nest t) (hq : Good w q) :
    Good (w + 1) (Idl.skip (Idl.tag t) q) := Good.andThen_tag_nest ht (fun _ => hq)

namespace Reg
variable {α β : Type} {p p' : P α} {q q' : P β}

theorem of_good (h : Good w p) : Reg w p p := ⟨h, .refl p⟩

instance (a : α) : Reg w (ret a) (ret a) := of_good (.ret a)
instance (t) : Reg w (tag t) (tag t) := of_good (.tag t)
instance : Reg w eof eof := of_good .eof
instance (f) : Reg w (satisfy f) (satisfy f) := of_good (.satisfy f)
instance (cs) : Reg w (oneOf cs) (oneOf cs) := of_good (.oneOf cs)
instance (cs) : Reg w (noneOf cs) (noneOf cs) := of_good (.noneOf cs)
instance (f) : Reg w (takeWhile f) (takeWhile f) := of_good (.takeWhile f)
instance (f) : Reg w (takeTill f) (takeTill f) := of_good (.takeTill f)
instance (t) : Reg w (takeUntil t) (takeUntil t) := of_good (.takeUntil t)
instance : Reg w digit1 digit1 := of_good .digit1
instance : Reg w hexDigit1 hexDigit1 := of_good .hexDigit1
instance : Reg w multispace1 multispace1 := of_good .multispace1
instance : Reg w (tagNoCase ['e']) (tagNoCase ['e']) := of_good .tagNoCase_e
instance : Reg w (fun _ => (PR.fail : PR α)) (fun _ => .fail) := of_good fun _ => trivial
instance : Reg w (alt ([] : List (P α))) (alt []) := of_good .alt_nil
instance (c) [hp : Reg w p p] [hq : Reg w q q] : Reg w (escaped p c q) (escaped p c q) :=
  of_good (.escaped c hp.good hq.good)

/-- with no budget, the recursive parsers give up at once -/
theorem fuel : Reg 0 (fun _ => (PR.fuel : PR α)) p := ⟨fun _ => Nat.not_lt_zero _, fun _ h => absurd rfl h⟩

theorem pmapChecked (f : α → Except String β) (hp : Reg w p p') (hv : ∀ s a r, p s = .ok a r → ∃ b, f a = .ok b) :
    Reg w (pmapChecked f p) (pmapChecked f p') := ⟨.pmapChecked f hp.good hv, .pmapChecked f hp.ext⟩

instance andThen {f f' : α → P β} [hp : Reg w p p'] [hf : ∀ a, Reg w (f a) (f' a)] :
    Reg w (andThen p f) (andThen p' f') :=
  ⟨.andThen hp.good fun a => (hf a).good, .andThen hp.ext fun a => (hf a).ext⟩
instance skip [hp : Reg w p p'] [hq : Reg w q q'] : Reg w (skip p q) (skip p' q') :=
  ⟨.skip hp.good hq.good, .skip hp.ext hq.ext⟩
/-- `skip` as the model writes most steps of a sequence.  Without this instance the search would take
`fun _ => q` through `Reg.andThen`, which counts the answer for `q` twice against `synthInstance.maxSize`
(the unused binder is solved apart), and a sequence of eight such steps would be out of reach. -/
instance (priority := high) andThen_const [Reg w p p'] [Reg w q q'] :
    Reg w (Idl.andThen p fun _ => q) (Idl.andThen p' fun _ => q') := skip

class NestTag (t : List Char) : Prop where
  pos : 1 ≤ nest t
instance (t) : NestTag ('<' :: t) := ⟨by simp [nest, isNestChar]⟩
instance (t) : NestTag ('[' :: t) := ⟨by simp [nest, isNestChar]⟩
instance (t) : NestTag ('{' :: t) := ⟨by simp [nest, isNestChar]⟩

/-- a step over a tag with a nesting character: the rest may have one level of budget less -/
instance (priority := high + 1) andThen_nestTag {t : List Char} [ht : NestTag t] [hq : Reg w q q'] :
    Reg (w + 1) (Idl.andThen (Idl.tag t) fun _ => q) (Idl.andThen (Idl.tag t) fun _ => q') :=
  ⟨.skip_tag_nest ht.pos hq.good, .skip (.refl _) hq.ext⟩

instance [hp : Reg w p p'] [hq : Reg w q q'] : Reg w (terminated p q) (terminated p' q') :=
  ⟨.terminated hp.good hq.good, .terminated hp.ext hq.ext⟩
instance (f : α → β) [hp : Reg w p p'] : Reg w (pmap f p) (pmap f p') := ⟨.pmap f hp.good, .pmap f hp.ext⟩
instance (f : α → Option β) [hp : Reg w p p'] : Reg w (mapRes p f) (mapRes p' f) :=
  ⟨.mapRes f hp.good, .mapRes f hp.ext⟩
instance [hp : Reg w p p'] : Reg w (opt p) (opt p') := ⟨.opt hp.good, .opt hp.ext⟩
instance [hp : Reg w p p'] : Reg w (peek p) (peek p') := ⟨.peek hp.good, .peek hp.ext⟩
instance [hp : Reg w p p'] : Reg w (pnot p) (pnot p') := ⟨.pnot hp.good, .pnot hp.ext⟩
instance [hp : Reg w p p'] : Reg w (recognize p) (recognize p') := ⟨.recognize hp.good, .recognize hp.ext⟩
instance [hp : Reg w p p'] : Reg w (many0 p) (many0 p') := ⟨.many0 hp.good, .many0 hp.ext⟩
instance [hp : Reg w p p'] : Reg w (many1 p) (many1 p') := ⟨.many1 hp.good, .many1 hp.ext⟩
instance {ps ps' : List (P α)} [hp : Reg w p p'] [hps : Reg w (alt ps) (alt ps')] :
    Reg w (alt (p :: ps)) (alt (p' :: ps')) := ⟨.alt_cons hp.good hps.good, .alt_cons hp.ext hps.ext⟩
instance [hp : Reg w p p'] [hq : Reg w q q'] : Reg w (separatedList1 p q) (separatedList1 p' q') :=
  ⟨.separatedList1 hp.good hq.good, .separatedList1 hp.ext hq.ext⟩
instance [hp : Reg w p p'] [hq : Reg w q q'] : Reg w (manyTill p q) (manyTill p' q') :=
  ⟨.manyTill hp.good hq.good, .manyTill hp.ext hq.ext⟩
instance [hp : Reg w p p'] [hq : Reg w q q'] : Reg w (permutation2 p q) (permutation2 p' q') :=
  ⟨.permutation2 hp.good hq.good, .permutation2 hp.ext hq.ext⟩
instance {c : Prop} [Decidable c] {q q' : P α} [hp : Reg w p p'] [hq : Reg w q q'] :
    Reg w (if c then p else q) (if c then p' else q') := ⟨.ite hp.good hq.good, .ite hp.ext hq.ext⟩

end Reg

instance : Reg w comment comment := by unfold comment; infer_instance
instance : Reg w blank blank := by unfold blank; infer_instance
instance : Reg w listSeparator listSeparator := by unfold listSeparator; infer_instance
instance : Reg w alnumOrUnderscore alnumOrUnderscore := by unfold alnumOrUnderscore; infer_instance
instance {α} (t) (v : α) : Reg w (keyword t v) (keyword t v) := by unfold keyword; infer_instance
instance reg_ident : Reg w Ident.parse Ident.parse := by unfold Ident.parse; infer_instance
instance reg_path : Reg w Path.parse Path.parse := by unfold Path.parse; infer_instance
instance (q) : Reg w (quoted q) (quoted q) := by unfold quoted; infer_instance
instance reg_literal : Reg w Literal.parse Literal.parse := by unfold Literal.parse; infer_instance
instance : Reg w annKey annKey := by unfold annKey; infer_instance
instance : Reg w annotation annotation := by unfold annotation; infer_instance
instance reg_annotations : Reg w Annotations.parse Annotations.parse := by unfold Annotations.parse; infer_instance
instance : Reg w CppType.parse CppType.parse := by unfold CppType.parse; infer_instance

instance {ty ty' : P Ty} [Reg w ty ty'] : Reg w (typeParse ty) (typeParse ty') := by unfold typeParse; infer_instance

theorem reg_ty : ∀ d, Reg d (Ty.parse d) (Ty.parse (d + 1))
  | 0 => .fuel
  | d + 1 => by have := reg_ty d; unfold Ty.parse; infer_instance

instance reg_type (d : Nat) : Reg d (Type.parse d) (Type.parse (d + 1)) := by
  have := reg_ty d; unfold Type.parse; infer_instance

theorem alt_cons_ok {α} {p : P α} {ps : List (P α)} {s a r} (h : alt (p :: ps) s = .ok a r) :
    p s = .ok a r ∨ (p s = .err ∧ alt ps s = .ok a r) := by
  simp only [alt] at h
  cases e : p s <;> simp only [e] at h
  · exact Or.inl h
  · exact Or.inr ⟨rfl, h⟩
  all_goals cases h

theorem bind_ok {α β} {x : PR α} {f : α → List Char → PR β} {b r} (h : x.bind f = .ok b r) :
    ∃ a r1, x = .ok a r1 ∧ f a r1 = .ok b r := by
  cases x <;> simp only [PR.bind] at h
  · exact ⟨_, _, rfl, h⟩
  all_goals cases h

theorem andThen_ok {α β} {p : P α} {f : α → P β} {s b r} (h : andThen p f s = .ok b r) :
    ∃ a r1, p s = .ok a r1 ∧ f a r1 = .ok b r := bind_ok h

theorem unsigned_range {s v r} (h : IntConstant.unsigned s = .ok v r) : 0 ≤ v ∧ v ≤ i64Max := by
  unfold IntConstant.unsigned at h
  rcases alt_cons_ok h with h1 | ⟨_, h⟩
  · obtain ⟨_, s1, _, h2⟩ := andThen_ok h1
    obtain ⟨ds, r', _, h4⟩ := bind_ok (x := hexDigit1 s1) h2
    unfold parseI64Hex at h4
    by_cases hle : (hexVal ds : Int) ≤ i64Max
    · simp only [hle, if_true, PR.ok.injEq] at h4; obtain ⟨rfl, _⟩ := h4
      exact ⟨by omega, hle⟩
    · simp [hle] at h4
  rcases alt_cons_ok h with h1 | ⟨_, h⟩
  · obtain ⟨ds, r', _, h4⟩ := bind_ok (x := digit1 s) h1
    unfold parseI64Dec at h4
    by_cases hle : (decVal ds : Int) ≤ i64Max
    · simp only [hle, if_true, PR.ok.injEq] at h4; obtain ⟨rfl, _⟩ := h4
      exact ⟨by omega, hle⟩
    · simp [hle] at h4
  · simp [alt] at h

instance reg_unsigned : Reg w IntConstant.unsigned IntConstant.unsigned := by
  unfold IntConstant.unsigned; infer_instance

/-- `IntConstant(-d.0)` cannot overflow (`unsigned_range`): the panic branch of the negation is unreachable -/
instance reg_intConstant : Reg w IntConstant.parse IntConstant.parse := by
  have : Reg w (pmapChecked negI64 IntConstant.unsigned) (pmapChecked negI64 IntConstant.unsigned) :=
    .pmapChecked _ reg_unsigned fun s a r h => by
      have hr := unsigned_range h
      refine ⟨-a, ?_⟩
      unfold negI64; split
      · rename_i he; subst he; unfold i64Min at hr; omega
      · rfl
  unfold IntConstant.parse; infer_instance

instance : Reg w exponent exponent := by unfold exponent; infer_instance

/-- the three number shapes of `DoubleConstant::parse`, after the optional signs -/
def doubleBody : P Unit := alt [
  (andThen digit1 fun _ => andThen (tag ['.']) fun _ => andThen (opt digit1) fun _ => andThen (opt exponent) fun _ => ret ()),
  (andThen (opt digit1) fun _ => andThen (tag ['.']) fun _ => andThen digit1 fun _ => andThen (opt exponent) fun _ => ret ()),
  (andThen digit1 fun _ => andThen (tagNoCase ['e']) fun _ => andThen IntConstant.parse fun _ => ret ())]

/-- `recognize`'s argument in `DoubleConstant::parse` -/
def doubleSigned : P Unit := andThen (opt (tag ['-'])) fun _ => andThen (opt (tag ['+'])) fun _ => doubleBody

theorem double_of_body : DoubleConstant.parse = mapRes (recognize doubleSigned) fun t => some t := rfl

instance reg_doubleSigned : Reg w doubleSigned doubleSigned := by unfold doubleSigned doubleBody; infer_instance
instance reg_doubleConstant : Reg w DoubleConstant.parse DoubleConstant.parse := by
  rw [double_of_body]; infer_instance

theorem reg_constValue : ∀ d, Reg d (ConstValue.parse d) (ConstValue.parse (d + 1))
  | 0 => .fuel
  | d + 1 => by have := reg_constValue d; unfold ConstValue.parse; infer_instance
instance (d : Nat) : Reg d (ConstValue.parse d) (ConstValue.parse (d + 1)) := reg_constValue d

instance (d : Nat) : Reg d (Constant.parse d) (Constant.parse (d + 1)) := by unfold Constant.parse; infer_instance
instance : Reg w Attribute.parse Attribute.parse := by unfold Attribute.parse; infer_instance
instance reg_field (d : Nat) : Reg d (Field.parse d) (Field.parse (d + 1)) := by unfold Field.parse; infer_instance
instance (d : Nat) : Reg d (StructLike.parse d) (StructLike.parse (d + 1)) := by unfold StructLike.parse; infer_instance
instance (d : Nat) : Reg d (Struct.parse d) (Struct.parse (d + 1)) := by unfold Struct.parse; infer_instance
instance (d : Nat) : Reg d (Union.parse d) (Union.parse (d + 1)) := by unfold Union.parse; infer_instance
instance (d : Nat) : Reg d (Exception.parse d) (Exception.parse (d + 1)) := by unfold Exception.parse; infer_instance
instance : Reg w EnumValue.parse EnumValue.parse := by unfold EnumValue.parse; infer_instance
instance : Reg w Enum.parse Enum.parse := by unfold Enum.parse; infer_instance
instance reg_function (d : Nat) : Reg d (Function.parse d) (Function.parse (d + 1)) := by
  unfold Function.parse; infer_instance
instance (d : Nat) : Reg d (Service.parse d) (Service.parse (d + 1)) := by unfold Service.parse; infer_instance
instance (d : Nat) : Reg d (Typedef.parse d) (Typedef.parse (d + 1)) := by unfold Typedef.parse; infer_instance
instance : Reg w Scope.parse Scope.parse := .of_good <| Good.alt_of_forall fun p hp => by
  obtain ⟨t, _, rfl⟩ := List.mem_map.mp hp
  exact .tag t
instance : Reg w Namespace.parse Namespace.parse := by unfold Namespace.parse; infer_instance
instance : Reg w Include.parse Include.parse := by unfold Include.parse; infer_instance
instance : Reg w CppInclude.parse CppInclude.parse := by unfold CppInclude.parse; infer_instance
instance : Reg w itemKeyword itemKeyword := by unfold itemKeyword; infer_instance
instance reg_item (d : Nat) : Reg d (Item.parse d) (Item.parse (d + 1)) := by unfold Item.parse; infer_instance
theorem reg_fileD (d : Nat) : Reg d (File.parseD d) (File.parseD (d + 1)) := by unfold File.parseD; infer_instance

theorem ext_ty {d d'} (h : d ≤ d') : Ext (Ty.parse d) (Ty.parse d') := ext_of_succ _ (fun d => (reg_ty d).ext) h
theorem ext_type {d d'} (h : d ≤ d') : Ext (Type.parse d) (Type.parse d') := ext_of_succ _ (fun d => (reg_type d).ext) h
theorem ext_constValue {d d'} (h : d ≤ d') : Ext (ConstValue.parse d) (ConstValue.parse d') :=
  ext_of_succ _ (fun d => (reg_constValue d).ext) h
theorem ext_fileD {d d'} (h : d ≤ d') : Ext (File.parseD d) (File.parseD d') := ext_of_succ _ (fun d => (reg_fileD d).ext) h

theorem map_ok {α β} {x : PR α} {f : α → β} {b r} (h : x.map f = .ok b r) : ∃ a, x = .ok a r ∧ b = f a := by
  obtain ⟨a, r1, h1, h2⟩ := bind_ok h
  simp only [PR.ok.injEq] at h2
  obtain ⟨rfl, rfl⟩ := h2
  exact ⟨a, h1, rfl⟩

theorem manyTillF_eof_rest {α} (p : P α) : ∀ n s x r, manyTillF p eof n s = .ok x r → r = []
  | 0, _, _, _, h => by simp [manyTillF] at h
  | n + 1, s, x, r, h => by
    simp only [manyTillF] at h
    cases s with
    | nil => simp [eof] at h; exact h.2
    | cons c cs =>
      simp only [eof] at h
      obtain ⟨a, r1, _, h2⟩ := bind_ok h
      split at h2
      · cases h2
      · obtain ⟨y, h3, _⟩ := map_ok h2
        exact manyTillF_eof_rest p n r1 y r h3

theorem file_parse_rest (s : List Char) (f : File) (r : List Char) (h : File.parse s = .ok f r) : r = [] := by
  unfold File.parse File.parseD at h
  obtain ⟨_, s1, _, h2⟩ := andThen_ok h
  unfold pmap at h2
  obtain ⟨y, h3, _⟩ := map_ok h2
  exact manyTillF_eof_rest _ _ _ _ _ h3

theorem file_parse_no_fuel (s : List Char) : File.parse s ≠ .fuel :=
  (reg_fileD (s.length + 2)).good.no_fuel (Nat.lt_of_le_of_lt (nest_le_length s) (by omega))

theorem file_parse_inv (s : List Char) : (File.parse s).Inv (s.length + 2) s := (reg_fileD (s.length + 2)).good s

end Pilota.Idl
