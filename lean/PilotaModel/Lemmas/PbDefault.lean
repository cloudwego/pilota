import PilotaModel.Lemmas.PbCanonDefault
import PilotaModel.Proto.Merge
/-
  Defaults: every default is bit-for-bit default and (for a well-formed schema) a value of the
  struct; merging a value into a default of its type gives the value back; merging a well-typed
  value into a value of the struct gives a value of the struct.
-/
namespace Pilota.Proto
open Pilota

theorem exactDefault_slotsWith (dty : FTy → EVal) (h : ∀ ty, (dty ty).exactDefault = true) :
    ∀ ds : List FieldDecl, (defaultSlotsWith dty ds).exactDefault = true
  | [] => rfl
  | d :: ds => by
    simp only [defaultSlotsWith, Slots.exactDefault, Bool.and_eq_true]
    refine ⟨?_, exactDefault_slotsWith dty h ds⟩
    cases d with
    | single t ty opt => cases opt <;> simp [defaultSlotWith, Slot.exactDefault, h]
    | rep t ty => rfl
    | map t k v => rfl
    | oneof vs => rfl

theorem exactDefault_defaultTy (s : Schema) : ∀ (f : Nat) (ty : FTy), (defaultTy s f ty).exactDefault = true
  | _, .scalar c => by simp [defaultTy, EVal.exactDefault, Codec.default_exact]
  | 0, .msg _ => rfl
  | f + 1, .msg i => by
    simp only [defaultTy, EVal.exactDefault]
    exact exactDefault_slotsWith _ (exactDefault_defaultTy s f) _

theorem exactDefault_defaultE (s : Schema) (ty : FTy) : (defaultE s ty).exactDefault = true :=
  exactDefault_defaultTy s _ ty

theorem exactDefault_defaultMsg (s : Schema) (i : Nat) : (defaultMsg s i).exactDefault = true := by
  have := exactDefault_defaultE s (.msg i)
  rwa [defaultE_msg] at this

theorem shape_defaultMsg (s : Schema) (hs : WFSchema s = true) (i : Nat) : shapeSlots s (decls s i) (defaultMsg s i) = true :=
  (isDefSlots_exact s _ _ (isDef_defaultMsg s hs i)).2

theorem shape_defaultE (s : Schema) (hs : WFSchema s = true) (ty : FTy) : shapeE s ty (defaultE s ty) = true :=
  (isDefE_exact s ty _ (isDef_defaultE s hs ty)).2

theorem shape_optCur (s : Schema) (hs : WFSchema s = true) (t : Nat) (ty : FTy) (m : Slot)
    (hm : shapeSlot s (.single t ty true) m = true) : shapeE s ty (optCur s ty m) = true := by
  rcases shapeSlot_opt hm with rfl | ⟨v, rfl, hv⟩
  · exact shape_defaultE s hs ty
  · exact hv

theorem shape_oneCur (s : Schema) (hs : WFSchema s = true) (vs : List (Nat × FTy)) (t : Nat) (ty : FTy)
    (hl : lookupVariant vs t = some ty) (m : Slot)
    (hm : shapeSlot s (.oneof vs) m = true) : shapeE s ty (oneCur s ty t m) = true := by
  rcases shapeSlot_oneof hm with rfl | ⟨t', v, ty', rfl, hl', hv⟩
  · exact shape_defaultE s hs ty
  · simp only [oneCur]
    split
    · rename_i he; subst he; cases hl.symm.trans hl'; exact hv
    · exact shape_defaultE s hs ty

/-- `isDefault` is Rust's `==` with the default, which for floats holds of both zeros; a map key cannot be a float
(`isKey`), so for keys `==`-default is THE default: the key-side counterpart of the clause of `okPairs` about values. -/
theorem key_default (kc : Codec) (k : SVal) (hk : kc.isKey = true) (hok : kc.ok k = true) (hd : k.isDefault = true) :
    k = kc.default := by
  cases k with
  | int n => obtain rfl : n = 0 := by simpa [SVal.isDefault] using hd
             cases kc <;> first | rfl | cases hok
  | bool b => obtain rfl : b = false := by simpa [SVal.isDefault] using hd
              cases kc <;> first | rfl | cases hok
  | bs b => obtain rfl : b = [] := by simpa [SVal.isDefault] using hd
            cases kc <;> first | rfl | cases hok | cases hk
  | f32 b => cases kc <;> first | cases hok | cases hk
  | f64 b => cases kc <;> first | cases hok | cases hk

mutual
theorem okE_shape (s : Schema) (flag : Bool) : ∀ (ty : FTy) (v : EVal), okE s flag ty v = true → shapeE s ty v = true := by
  intro ty v h
  cases v with
  | s x => cases ty <;> first | rfl | cases h
  | msg fs =>
    cases ty with
    | scalar c => cases h
    | msg i => exact okSlots_shape s flag (decls s i) fs (Bool.and_eq_true_iff.mp h).1
theorem okSlot_shape (s : Schema) (flag : Bool) : ∀ (d : FieldDecl) (v : Slot), okSlot s flag d v = true → shapeSlot s d v = true := by
  intro d v h
  cases v with
  | req x => obtain ⟨t, ty, rfl, h⟩ := okSlot_req h; exact okE_shape s flag ty x h
  | none => rcases okSlot_none h with ⟨t, ty, rfl⟩ | ⟨vs, rfl⟩ <;> rfl
  | some x => obtain ⟨t, ty, rfl, h⟩ := okSlot_some h; exact okE_shape s flag ty x h
  | rep xs => obtain ⟨t, ty, rfl, h⟩ := okSlot_rep h; exact okEs_shape s flag ty xs h
  | map kvs => obtain ⟨t, kc, vty, rfl, h, _⟩ := okSlot_map h; exact okPairs_shape s flag kc vty kvs h
  | one t x =>
    obtain ⟨vs, ty, rfl, hl, h⟩ := okSlot_one h
    simp only [shapeSlot, hl]
    exact okE_shape s flag ty x h
theorem okSlots_shape (s : Schema) (flag : Bool) : ∀ (ds : List FieldDecl) (vs : Slots), okSlots s flag ds vs = true → shapeSlots s ds vs = true := by
  intro ds vs h
  cases vs with
  | nil => cases ds <;> first | rfl | cases h
  | cons v r =>
    cases ds with
    | nil => cases h
    | cons d ds =>
      have h := Bool.and_eq_true_iff.mp h
      exact Bool.and_eq_true_iff.mpr ⟨okSlot_shape s flag d v h.1, okSlots_shape s flag ds r h.2⟩
theorem okEs_shape (s : Schema) (flag : Bool) (ty : FTy) : ∀ (xs : EVals), okEs s flag ty xs = true → shapeEs s ty xs = true := by
  intro xs h
  cases xs with
  | nil => rfl
  | cons v r =>
    have h := Bool.and_eq_true_iff.mp h
    exact Bool.and_eq_true_iff.mpr ⟨okE_shape s flag ty v h.1, okEs_shape s flag ty r h.2⟩
theorem okPairs_shape (s : Schema) (flag : Bool) (kc : Codec) (vty : FTy) : ∀ (kvs : Pairs), okPairs s flag kc vty kvs = true → shapePairs s vty kvs = true := by
  intro kvs h
  cases kvs with
  | nil => rfl
  | cons k v r =>
    obtain ⟨_, _, hv, _, _, hr⟩ := okPairs_cons h
    exact Bool.and_eq_true_iff.mpr ⟨okE_shape s flag vty v hv, okPairs_shape s flag kc vty r hr⟩
end

/-- concatenation of association lists (what `insertAll` amounts to when the keys are fresh). -/
def Pairs.append : Pairs → Pairs → Pairs
  | .nil, ys => ys
  | .cons k v r, ys => .cons k v (r.append ys)

theorem Pairs.insert_fresh : ∀ (xs : Pairs) (k : SVal) (v : EVal), xs.keys.contains k = false →
    xs.insert k v = xs.append (.cons k v .nil)
  | .nil, _, _, _ => rfl
  | .cons k' v' r, k, v, h => by
    simp only [Pairs.keys, List.contains_cons, Bool.or_eq_false_iff, beq_eq_false_iff_ne] at h
    have hne : ¬ k' = k := fun e => h.1 e.symm
    simp only [Pairs.insert, hne, if_false, Pairs.append]
    rw [Pairs.insert_fresh r k v h.2]

theorem Pairs.keys_append : ∀ (xs ys : Pairs), (xs.append ys).keys = xs.keys ++ ys.keys
  | .nil, _ => rfl
  | .cons k v r, ys => by simp [Pairs.append, Pairs.keys, Pairs.keys_append r ys]

theorem Pairs.append_nil : ∀ (xs : Pairs), xs.append .nil = xs
  | .nil => rfl
  | .cons k v r => by simp [Pairs.append, Pairs.append_nil r]

theorem Pairs.append_assoc : ∀ (a b c : Pairs), (a.append b).append c = a.append (b.append c)
  | .nil, _, _ => rfl
  | .cons k v r, b, c => by simp [Pairs.append, Pairs.append_assoc r b c]

theorem insertAll_fresh : ∀ (kvs xs : Pairs), nodupKeys kvs.keys = true → (∀ k ∈ kvs.keys, xs.keys.contains k = false) →
    insertAll xs kvs = xs.append kvs
  | .nil, xs, _, _ => by
    simp only [insertAll]
    exact (Pairs.append_nil xs).symm
  | .cons k v r, xs, hn, hf => by
    simp only [Pairs.keys, nodupKeys, Bool.and_eq_true, Bool.not_eq_true'] at hn
    simp only [insertAll]
    rw [Pairs.insert_fresh xs k v (hf k (by simp [Pairs.keys]))]
    rw [insertAll_fresh r _ hn.2]
    · rw [Pairs.append_assoc]; rfl
    · intro k' hk'
      rw [Pairs.keys_append]
      simp only [Pairs.keys, List.contains_append, List.contains_cons, List.contains_nil, Bool.or_false,
        Bool.or_eq_false_iff, beq_eq_false_iff_ne]
      refine ⟨hf k' (by simp [Pairs.keys, hk']), ?_⟩
      intro e
      subst e
      have := hn.1
      simp only [List.contains_eq_mem, decide_eq_false_iff_not] at this
      exact this hk'

theorem EVals.nil_append (ys : EVals) : EVals.nil.append ys = ys := rfl

theorem EVals.append_nil : ∀ (a : EVals), a.append .nil = a
  | .nil => rfl
  | .cons v r => by simp [EVals.append, EVals.append_nil r]

theorem EVals.append_assoc : ∀ (a b c : EVals), (a.append b).append c = a.append (b.append c)
  | .nil, _, _ => rfl
  | .cons v r, b, c => by simp [EVals.append, EVals.append_assoc r b c]

mutual
theorem mergeValE_default (s : Schema) (flag : Bool) (hs : WFSchema s = true) (ty : FTy) (x y : EVal)
    (hx : x.exactDefault = true) (hsx : shapeE s ty x = true) (hy : okE s flag ty y = true) : mergeValE s ty x y = y := by
  cases y with
  | s yv => cases ty <;> first | rfl | cases hy
  | msg ys =>
    cases ty with
    | scalar c => cases hy
    | msg i =>
      cases x with
      | s xv => cases hsx
      | msg xs =>
        exact congrArg EVal.msg (mergeValSlots_default s flag hs (decls s i) (decls_wf s hs i).1 xs ys hx hsx
          (Bool.and_eq_true_iff.mp hy).1)
theorem mergeValSlot_default (s : Schema) (flag : Bool) (hs : WFSchema s = true) (d : FieldDecl) (hd : d.wfIn s.length = true)
    (x y : Slot) (hx : x.exactDefault = true) (hsx : shapeSlot s d x = true) (hy : okSlot s flag d y = true) :
    mergeValSlot s d x y = y := by
  cases y with
  | req yv =>
    obtain ⟨t, ty, rfl, hy⟩ := okSlot_req hy
    obtain ⟨xv, rfl, hsx⟩ := shapeSlot_req hsx
    exact congrArg Slot.req (mergeValE_default s flag hs ty xv yv hx hsx hy)
  | none =>
    rcases okSlot_none hy with ⟨t, ty, rfl⟩ | ⟨vs, rfl⟩
    · rcases shapeSlot_opt hsx with rfl | ⟨v, rfl, _⟩
      · rfl
      · cases hx
    · rcases shapeSlot_oneof hsx with rfl | ⟨t, v, ty, rfl, _⟩
      · rfl
      · cases hx
  | some yv =>
    obtain ⟨t, ty, rfl, hy⟩ := okSlot_some hy
    rcases shapeSlot_opt hsx with rfl | ⟨v, rfl, _⟩
    · exact congrArg Slot.some (mergeValE_default s flag hs ty _ yv (exactDefault_defaultE s ty)
        (shape_defaultE s hs ty) hy)
    · cases hx
  | rep ys =>
    obtain ⟨t, ty, rfl, hy⟩ := okSlot_rep hy
    obtain ⟨xs, rfl, _⟩ := shapeSlot_rep hsx
    cases xs with
    | nil => rfl
    | cons a b => cases hx
  | map kvs =>
    obtain ⟨t, kc, vty, rfl, hy, hnd⟩ := okSlot_map hy
    obtain ⟨xs, rfl, _⟩ := shapeSlot_map hsx
    cases xs with
    | nil => exact congrArg Slot.map (insertAll_fresh kvs .nil hnd (fun _ _ => rfl))
    | cons a b c => cases hx
  | one t yv =>
    obtain ⟨vs, ty, rfl, hl, hy⟩ := okSlot_one hy
    rcases shapeSlot_oneof hsx with rfl | ⟨t', v, ty', rfl, _⟩
    · simp only [mergeValSlot, hl, oneCur]
      rw [mergeValE_default s flag hs ty _ yv (exactDefault_defaultE s ty) (shape_defaultE s hs ty) hy]
    · cases hx
theorem mergeValSlots_default (s : Schema) (flag : Bool) (hs : WFSchema s = true) (ds : List FieldDecl)
    (hds : ds.all (FieldDecl.wfIn s.length) = true) (xs ys : Slots) (hx : xs.exactDefault = true)
    (hsx : shapeSlots s ds xs = true) (hy : okSlots s flag ds ys = true) : mergeValSlots s ds xs ys = ys := by
  cases ys with
  | nil =>
    cases ds with
    | nil => cases xs <;> first | rfl | cases hsx
    | cons d ds => cases hy
  | cons y ys =>
    cases ds with
    | nil => cases hy
    | cons d ds =>
      cases xs with
      | nil => cases hsx
      | cons x xs =>
        have hx := Bool.and_eq_true_iff.mp hx
        have hsx := Bool.and_eq_true_iff.mp hsx
        have hy := Bool.and_eq_true_iff.mp hy
        simp only [List.all_cons, Bool.and_eq_true] at hds
        simp only [mergeValSlots, mergeValSlot_default s flag hs d hds.1 x y hx.1 hsx.1 hy.1,
          mergeValSlots_default s flag hs ds hds.2 xs ys hx.2 hsx.2 hy.2]
end

theorem shapeEs_append (s : Schema) (ty : FTy) : ∀ (a b : EVals), shapeEs s ty a = true → shapeEs s ty b = true → shapeEs s ty (a.append b) = true
  | .nil, _, _, hb => hb
  | .cons v r, b, ha, hb => by
    simp only [shapeEs, Bool.and_eq_true] at ha
    simp only [EVals.append, shapeEs, Bool.and_eq_true]
    exact ⟨ha.1, shapeEs_append s ty r b ha.2 hb⟩

theorem shapePairs_insert (s : Schema) (vty : FTy) (k : SVal) (v : EVal) (hv : shapeE s vty v = true) :
    ∀ (xs : Pairs), shapePairs s vty xs = true → shapePairs s vty (xs.insert k v) = true
  | .nil, _ => by simp [Pairs.insert, shapePairs, hv]
  | .cons k' v' r, h => by
    simp only [shapePairs, Bool.and_eq_true] at h
    simp only [Pairs.insert]
    split
    · simp [shapePairs, hv, h.2]
    · simp [shapePairs, h.1, shapePairs_insert s vty k v hv r h.2]

theorem shapePairs_insertAll (s : Schema) (vty : FTy) : ∀ (kvs xs : Pairs), shapePairs s vty kvs = true → shapePairs s vty xs = true →
    shapePairs s vty (insertAll xs kvs) = true
  | .nil, xs, _, hx => hx
  | .cons k v r, xs, hk, hx => by
    simp only [shapePairs, Bool.and_eq_true] at hk
    simp only [insertAll]
    exact shapePairs_insertAll s vty r _ hk.2 (shapePairs_insert s vty k v hk.1 xs hx)

mutual
theorem shape_mergeE (s : Schema) (flag : Bool) (hs : WFSchema s = true) (ty : FTy) (x y : EVal) (hx : shapeE s ty x = true)
    (hy : okE s flag ty y = true) : shapeE s ty (mergeValE s ty x y) = true := by
  cases y with
  | s yv => cases ty <;> first | rfl | cases hy
  | msg ys =>
    cases ty with
    | scalar c => cases hy
    | msg i =>
      cases x with
      | s xv => cases hx
      | msg xs => exact shape_mergeSlots s flag hs (decls s i) (decls_wf s hs i).1 xs ys hx (Bool.and_eq_true_iff.mp hy).1
termination_by structural y
theorem shape_mergeSlot (s : Schema) (flag : Bool) (hs : WFSchema s = true) (d : FieldDecl) (m y : Slot)
    (hm : shapeSlot s d m = true) (hy : okSlot s flag d y = true) : shapeSlot s d (mergeValSlot s d m y) = true := by
  cases y with
  | req yv =>
    obtain ⟨t, ty, rfl, hy⟩ := okSlot_req hy
    obtain ⟨xv, rfl, hm⟩ := shapeSlot_req hm
    exact shape_mergeE s flag hs ty xv yv hm hy
  | none => rcases okSlot_none hy with ⟨t, ty, rfl⟩ | ⟨vs, rfl⟩ <;> exact hm
  | some yv =>
    obtain ⟨t, ty, rfl, hy⟩ := okSlot_some hy
    exact shape_mergeE s flag hs ty _ yv (shape_optCur s hs t ty m hm) hy
  | rep ys =>
    obtain ⟨t, ty, rfl, hy⟩ := okSlot_rep hy
    obtain ⟨xs, rfl, hm⟩ := shapeSlot_rep hm
    exact shapeEs_append s ty xs ys hm (okEs_shape s flag ty ys hy)
  | map kvs =>
    obtain ⟨t, kc, vty, rfl, hy, _⟩ := okSlot_map hy
    obtain ⟨xs, rfl, hm⟩ := shapeSlot_map hm
    exact shapePairs_insertAll s vty kvs xs (okPairs_shape s flag kc vty kvs hy) hm
  | one t yv =>
    obtain ⟨vs, ty, rfl, hl, hy⟩ := okSlot_one hy
    simp only [mergeValSlot, hl, shapeSlot]
    exact shape_mergeE s flag hs ty _ yv (shape_oneCur s hs vs t ty hl m hm) hy
termination_by structural y
theorem shape_mergeSlots (s : Schema) (flag : Bool) (hs : WFSchema s = true) (ds : List FieldDecl)
    (hds : ds.all (FieldDecl.wfIn s.length) = true) (xs ys : Slots) (hx : shapeSlots s ds xs = true)
    (hy : okSlots s flag ds ys = true) : shapeSlots s ds (mergeValSlots s ds xs ys) = true := by
  cases ys with
  | nil =>
    cases ds with
    | nil => cases xs <;> exact hx
    | cons d ds => cases hy
  | cons y ys =>
    cases ds with
    | nil => cases hy
    | cons d ds =>
      cases xs with
      | nil => cases hx
      | cons x xs =>
        have hx := Bool.and_eq_true_iff.mp hx
        have hy := Bool.and_eq_true_iff.mp hy
        simp only [List.all_cons, Bool.and_eq_true] at hds
        exact Bool.and_eq_true_iff.mpr ⟨shape_mergeSlot s flag hs d x y hx.1 hy.1, shape_mergeSlots s flag hs ds hds.2 xs ys hx.2 hy.2⟩
termination_by structural ys
end

end Pilota.Proto
