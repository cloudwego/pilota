import PilotaModel.Lemmas.AsyncSkipSim
/-
  The async binary reading interpreter, run on flat bytes, is the value walker over the async primitives run on flat bytes
  (`readVal_eq_walk`, an equation of all outcomes).  Against the in-memory reader, whose primitives differ in two places (the
  error kind of a negative length, no size check of a container count), this gives: the same budget bound, and the same
  successes in both directions on an input a slice can hold.
-/
namespace Pilota.Thrift.Async
open Pilota Pilota.Thrift

namespace ABin

def walkPrims (e : Endian) : Walk.Prims Bytes where
  leaf l := runF (readVal e 1 l.ttype)
  structBegin := id
  structEnd := .ok
  fieldBegin := runF (readFieldBegin e)
  listBegin := runF (readListBegin e)
  mapBegin := runF (readMapBegin e)

theorem readVal_eq_walk (e : Endian) : ∀ f,
    (∀ t bs, runF (readVal e f t) bs = Walk.val (walkPrims e) f t bs) ∧
    (∀ bs, runF (readFields e f) bs = Walk.fields (walkPrims e) f bs) ∧
    (∀ et n bs, runF (readN e f et n) bs = Walk.elems (walkPrims e) f et n bs) ∧
    (∀ kt vt n bs, runF (readPairs e f kt vt n) bs = Walk.pairs (walkPrims e) f kt vt n bs) := by
  intro f
  induction f with
  | zero => exact ⟨fun _ _ => rfl, fun _ => rfl, fun _ _ _ => rfl, fun _ _ _ _ => rfl⟩
  | succ f ih =>
    obtain ⟨ih1, ih2, ih3, ih4⟩ := ih
    refine ⟨fun t bs => ?_, fun bs => ?_, fun et n bs => ?_, fun kt vt n bs => ?_⟩
    · cases t <;> unfold Walk.val
      case struct => unfold readVal; simp only [runF_bind', ih2]; rfl
      case list | set => unfold readVal; simp only [runF_bind', ih3]; rfl
      case map => unfold readVal; simp only [runF_bind', ih4]; rfl
      all_goals rfl
    · unfold readFields Walk.fields
      simp only [runF_bind']
      refine congrArg _ (funext fun x => ?_)
      split
      · rfl
      · simp only [runF_bind', ih1, ih2]; rfl
    · cases n <;> unfold readN Walk.elems
      · rfl
      · simp only [runF_bind', ih1, ih3]; rfl
    · cases n <;> unfold readPairs Walk.pairs
      · rfl
      · simp only [runF_bind', ih1, ih4]; rfl

theorem leaf_fixed (e : Endian) (bs : Bytes) :
    ∀ l : Walk.Leaf, l ≠ .binary → runF (readVal e 1 l.ttype) bs = Binary.readVal e 1 l.ttype bs
  | .bool, _ | .i8, _ | .i16, _ | .i32, _ | .i64, _ => by
    dsimp only [Walk.Leaf.ttype]; unfold readVal Binary.readVal; rw [runF_bind, runF_readI]; cases Binary.readI e _ bs <;> rfl
  | .double, _ => by
    dsimp only [Walk.Leaf.ttype]; unfold readVal Binary.readVal; rw [runF_bind, runF_readU]; cases Binary.readU e 8 bs <;> rfl
  | .uuid, _ => by dsimp only [Walk.Leaf.ttype]; unfold readVal Binary.readVal; rw [runF_need]; cases Binary.takeN 16 bs <;> rfl
  | .binary, h => absurd rfl h

theorem leaf_safe (e : Endian) (l : Walk.Leaf) (bs : Bytes) : (runF (readVal e 1 l.ttype) bs).Safe False False fun x =>
    3 * x.2.length < 3 * bs.length ∧ x.1.weight + 3 * x.2.length ≤ 3 * bs.length := by
  cases l
  case binary =>
    show Sat (readVal e 1 .binary) bs False fun v r => 3 * r.length < 3 * bs.length ∧ v.weight + 3 * r.length ≤ 3 * bs.length
    unfold readVal
    exact (readBytes_paid e bs).bind fun b r h => .ret (by dsimp only [TVal.weight]; omega)
  all_goals exact (congrArg (Out.Safe · False False _) (leaf_fixed e bs _ (by nofun))).mpr (Binary.leaf_reads e _ []).safe

theorem walkPrims_safe (e : Endian) : (walkPrims e).Safe fun bs => 3 * bs.length where
  leaf := leaf_safe e
  structBegin _ := rfl
  structEnd _ := Nat.le_refl _
  fieldBegin bs := Out.Safe.mono (readFieldBegin_sat e bs (F := False)) id id fun _ h => by dsimp only at h ⊢; omega
  listBegin bs := Out.Safe.mono (readListBegin_sat e bs (F := False)) id id fun _ h => by dsimp only at h ⊢; omega
  mapBegin bs := Out.Safe.mono (readMapBegin_sat e bs (F := False)) id id fun _ h => by dsimp only at h ⊢; omega

/-- the same input, one a slice can hold: `Held` for the readers, whose state is the bytes alone -/
def Fits (s s' : Bytes) : Prop := s' = s ∧ s.length < 2 ^ 63

theorem leaf_iff (e : Endian) (l : Walk.Leaf) {bs : Bytes} (hb : bs.length < 2 ^ 63) {q : TVal × Bytes} :
    runF (readVal e 1 l.ttype) bs = .ok q ↔ Binary.readVal e 1 l.ttype bs = .ok q := by
  cases l
  case binary =>
    change runF (readVal e 1 .binary) bs = _ ↔ Binary.readVal e 1 .binary bs = _
    unfold readVal Binary.readVal
    simp only [runF_bind_ok, runF_ret, readBytes_iff e bs hb]
    exact ⟨fun ⟨_, _, h1, h⟩ => by simp only [h1]; exact h, fun h => by ok_step h; exact ⟨_, _, ‹_›, h⟩⟩
  all_goals rw [leaf_fixed e bs _ (by nofun)]

theorem walkPrims_of_sync (e : Endian) : (Binary.walkPrims e).Sim (walkPrims e) Fits fun _ _ => True where
  leaf l {s s'} := fun ⟨hs, hb⟩ => fun v r h => by
    subst hs
    have := (leaf_iff e l hb).mpr h
    exact ⟨r, this, rfl, runF_lt_of_lt this hb⟩
  structBegin h := h
  structEnd h s1 e := by cases e; exact ⟨_, rfl, h⟩
  fieldBegin {s s'} := fun ⟨hs, hb⟩ t id r h => by
    subst hs
    exact ⟨r, fieldBegin_run h, rfl, runF_lt_of_lt (fieldBegin_run h) hb⟩
  listBegin {_ s s'} _ := fun ⟨hs, hb⟩ et n r h _ => by
    subst hs
    have := readListBegin_of_sync h
    exact ⟨r, this, rfl, runF_lt_of_lt this hb⟩
  mapBegin {s s'} := fun ⟨hs, hb⟩ kt vt n r h _ => by
    subst hs
    have := readMapBegin_of_sync h
    exact ⟨r, this, rfl, runF_lt_of_lt this hb⟩

theorem walkPrims_to_sync (e : Endian) : (walkPrims e).Sim (Binary.walkPrims e) Fits fun n s => n ≤ s.length where
  leaf l {s s'} := fun ⟨hs, hb⟩ => fun v r h => by
    subst hs
    exact ⟨r, (leaf_iff e l hb).mp h, rfl, runF_lt_of_lt h hb⟩
  structBegin h := h
  structEnd h s1 e := by cases e; exact ⟨_, rfl, h⟩
  fieldBegin {s s'} := fun ⟨hs, hb⟩ _ _ r h => by
    subst hs
    exact ⟨r, (runF_readFieldBegin e _).symm.trans h, rfl, runF_lt_of_lt h hb⟩
  listBegin {_ s s'} _ := fun ⟨hs, hb⟩ et n r h hn => by
    subst hs
    exact ⟨r, sync_of_readListBegin hb h hn, rfl, runF_lt_of_lt h hb⟩
  mapBegin {s s'} := fun ⟨hs, hb⟩ kt vt n r h hn => by
    subst hs
    exact ⟨r, sync_of_readMapBegin hb h hn, rfl, runF_lt_of_lt h hb⟩

theorem Fits.eq {α} {x y : Out (α × Bytes)} (h : Walk.Carries Fits x y) {q : α × Bytes} (hx : x = .ok q) : y = .ok q := by
  obtain ⟨_, hy, rfl, _⟩ := h q.1 q.2 hx
  exact hy

/-- The bound in `Fits` is for a binary length, a signed `i32`: a negative one is a `usize` above `2^63` for the in-memory reader,
an error for the async one. -/
theorem of_sync (e : Endian) (f : Nat) : Walk.Sims (Binary.walkPrims e) (walkPrims e) Fits f f :=
  Walk.simV (walkPrims_of_sync e) (fun _ => trivial) (fun _ => trivial) f f (Nat.le_refl f)

/-- A container's count passes the in-memory size check because the elements read took at least one byte each. -/
theorem to_sync (e : Endian) (f : Nat) : Walk.Sims (walkPrims e) (Binary.walkPrims e) Fits f f :=
  Walk.simV (walkPrims_to_sync e) (fun h => Nat.le_trans (Nat.le_add_right _ _) ((Walk.consumes (walkPrims_safe e).consumes _).2.2.1 h))
    (fun h => Nat.le_trans (Nat.le_add_right _ _) ((Walk.consumes (walkPrims_safe e).consumes _).2.2.2 h)) f f (Nat.le_refl f)

theorem readVal_of_sync (e : Endian) (f : Nat) (t : TType) (bs : Bytes) (hb : bs.length < 2 ^ 63) (v : TVal) (r : Bytes)
    (h : Binary.readVal e f t bs = .ok (v, r)) : runF (readVal e f t) bs = .ok (v, r) :=
  ((readVal_eq_walk e f).1 t bs).trans (Fits.eq ((of_sync e f).1 t ⟨rfl, hb⟩) ((Binary.readVal_eq_walk e f).1 ▸ h))
theorem readFields_of_sync (e : Endian) (f : Nat) (bs : Bytes) (hb : bs.length < 2 ^ 63) (fs : TFields) (r : Bytes)
    (h : Binary.readFields e f bs = .ok (fs, r)) : runF (readFields e f) bs = .ok (fs, r) :=
  ((readVal_eq_walk e f).2.1 bs).trans (Fits.eq ((of_sync e f).2.1 ⟨rfl, hb⟩) ((Binary.readVal_eq_walk e f).2.1 ▸ h))
theorem readN_of_sync (e : Endian) (f : Nat) (et : TType) (n : Nat) (bs : Bytes) (hb : bs.length < 2 ^ 63) (xs : TVals) (r : Bytes)
    (h : Binary.readN e f et n bs = .ok (xs, r)) : runF (readN e f et n) bs = .ok (xs, r) :=
  ((readVal_eq_walk e f).2.2.1 et n bs).trans (Fits.eq ((of_sync e f).2.2.1 et n ⟨rfl, hb⟩) ((Binary.readVal_eq_walk e f).2.2.1 ▸ h))
theorem readPairs_of_sync (e : Endian) (f : Nat) (kt vt : TType) (n : Nat) (bs : Bytes) (hb : bs.length < 2 ^ 63) (xs : TPairs) (r : Bytes)
    (h : Binary.readPairs e f kt vt n bs = .ok (xs, r)) : runF (readPairs e f kt vt n) bs = .ok (xs, r) :=
  ((readVal_eq_walk e f).2.2.2 kt vt n bs).trans (Fits.eq ((of_sync e f).2.2.2 kt vt n ⟨rfl, hb⟩) ((Binary.readVal_eq_walk e f).2.2.2 ▸ h))

theorem sync_of_readVal (e : Endian) (f : Nat) (t : TType) (bs : Bytes) (hb : bs.length < 2 ^ 63) (v : TVal) (r : Bytes)
    (h : runF (readVal e f t) bs = .ok (v, r)) : Binary.readVal e f t bs = .ok (v, r) :=
  (Binary.readVal_eq_walk e f).1 ▸ Fits.eq ((to_sync e f).1 t ⟨rfl, hb⟩) (((readVal_eq_walk e f).1 t bs).symm.trans h)
theorem sync_of_readFields (e : Endian) (f : Nat) (bs : Bytes) (hb : bs.length < 2 ^ 63) (fs : TFields) (r : Bytes)
    (h : runF (readFields e f) bs = .ok (fs, r)) : Binary.readFields e f bs = .ok (fs, r) :=
  (Binary.readVal_eq_walk e f).2.1 ▸ Fits.eq ((to_sync e f).2.1 ⟨rfl, hb⟩) (((readVal_eq_walk e f).2.1 bs).symm.trans h)
theorem sync_of_readN (e : Endian) (f : Nat) (et : TType) (n : Nat) (bs : Bytes) (hb : bs.length < 2 ^ 63) (xs : TVals) (r : Bytes)
    (h : runF (readN e f et n) bs = .ok (xs, r)) : Binary.readN e f et n bs = .ok (xs, r) :=
  (Binary.readVal_eq_walk e f).2.2.1 ▸ Fits.eq ((to_sync e f).2.2.1 et n ⟨rfl, hb⟩) (((readVal_eq_walk e f).2.2.1 et n bs).symm.trans h)
theorem sync_of_readPairs (e : Endian) (f : Nat) (kt vt : TType) (n : Nat) (bs : Bytes) (hb : bs.length < 2 ^ 63) (xs : TPairs) (r : Bytes)
    (h : runF (readPairs e f kt vt n) bs = .ok (xs, r)) : Binary.readPairs e f kt vt n bs = .ok (xs, r) :=
  (Binary.readVal_eq_walk e f).2.2.2 ▸ Fits.eq ((to_sync e f).2.2.2 kt vt n ⟨rfl, hb⟩) (((readVal_eq_walk e f).2.2.2 kt vt n bs).symm.trans h)

theorem skip_of_sync (e : Endian) (f : Nat) (t : TType) (bs : Bytes) (hb : bs.length < 2 ^ 63) (v : TVal) (r : Bytes)
    (h : Binary.readVal e f t bs = .ok (v, r)) (d : Nat) (hd : v.need ≤ d) : runF (skip e f d t) bs = .ok ((), r) :=
  (askip_sim e f).1 f d t bs _ r (Nat.le_refl f) hb (Skip.skip_of_read_ok (Int.natCast_nonneg d) h (Int.ofNat_le.mpr hd))
theorem skipFields_of_sync (e : Endian) (f : Nat) (bs : Bytes) (hb : bs.length < 2 ^ 63) (fs : TFields) (r : Bytes)
    (h : Binary.readFields e f bs = .ok (fs, r)) (d : Nat) (hd : fs.need ≤ d) : runF (skipFields e f d) bs = .ok ((), r) := by
  have h1 := (Walk.skips (Skip.binary_skips e) (fun _ _ => trivial) f).2.1 (d := ((d + 1 : Nat) : Int)) (x := (fs, r)) (by omega) trivial
    ((Binary.readVal_eq_walk e f).2.1 ▸ h)
  rw [if_pos (by dsimp only; omega)] at h1
  rw [(skip_eq_rdSkip e f).2.1]
  exact Held.eq ((Skip.rdSkip_sim (skipPrims_of_sync e) f f (Nat.le_refl f)).2.1 _ ⟨rfl, hb⟩) h1
theorem skipN_of_sync (e : Endian) (f : Nat) (et : TType) (n : Nat) (bs : Bytes) (hb : bs.length < 2 ^ 63) (xs : TVals) (r : Bytes)
    (h : Binary.readN e f et n bs = .ok (xs, r)) (d : Nat) (hd : xs.need ≤ d) : runF (skipN e f d et n) bs = .ok ((), r) := by
  have h1 := (Walk.skips (Skip.binary_skips e) (fun _ _ => trivial) f).2.2.1 (d := ((d + 1 : Nat) : Int)) (x := (xs, r)) (by omega) trivial
    ((Binary.readVal_eq_walk e f).2.2.1 ▸ h)
  rw [if_pos (by dsimp only; omega)] at h1
  rw [(skip_eq_rdSkip e f).2.2.1]
  exact Held.eq ((Skip.rdSkip_sim (skipPrims_of_sync e) f f (Nat.le_refl f)).2.2.1 _ et n ⟨rfl, hb⟩) h1
theorem skipPairs_of_sync (e : Endian) (f : Nat) (kt vt : TType) (n : Nat) (bs : Bytes) (hb : bs.length < 2 ^ 63) (xs : TPairs) (r : Bytes)
    (h : Binary.readPairs e f kt vt n bs = .ok (xs, r)) (d : Nat) (hd : xs.need ≤ d) : runF (skipPairs e f d kt vt n) bs = .ok ((), r) := by
  have h1 := (Walk.skips (Skip.binary_skips e) (fun _ _ => trivial) f).2.2.2 (d := ((d + 1 : Nat) : Int)) (x := (xs, r)) (by omega) trivial
    ((Binary.readVal_eq_walk e f).2.2.2 ▸ h)
  rw [if_pos (by dsimp only; omega)] at h1
  rw [(skip_eq_rdSkip e f).2.2.2]
  exact Held.eq ((Skip.rdSkip_sim (skipPrims_of_sync e) f f (Nat.le_refl f)).2.2.2 _ kt vt n ⟨rfl, hb⟩) h1

end ABin
end Pilota.Thrift.Async
