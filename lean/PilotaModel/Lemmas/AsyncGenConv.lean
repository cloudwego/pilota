import PilotaModel.Lemmas.AsyncGen
import PilotaModel.Lemmas.AsyncSkipConv
/-
  Converse of `adec_sim`: whatever the emitted `decode_async` (binary / LE) accepts, the emitted in-memory `decode` accepts
  with the same value and the same rest.  Every decoded value occupies at least one byte, so a container count the async
  decoder got through passes the in-memory readers' size check.
-/
namespace Pilota.TGen
open Pilota Pilota.Thrift Pilota.Thrift.Async Pilota.Thrift.Async.ABin

variable (e : Endian) (d : Doc) (sf : Nat)

theorem leafI_conv (w : Nat) (hw : 0 < w) (c : Int → TVal) (bs : Bytes) (v : TVal) (r : Bytes)
    (h : runF ((readI e w).bind fun n => Prog.ret (c n)) bs = .ok (v, r)) :
    r.length < bs.length ∧ mapOut (fun x : Int × Bytes => (c x.1, x.2)) (Binary.readI e w bs) = .ok (v, r) := by
  obtain ⟨n, r', h1, ⟨⟩⟩ := runF_bind_ok.mp h
  exact ⟨(readI_sat e hw bs (F := True)).ok h1, by rw [← runF_readI, h1]; rfl⟩

theorem skip_conv_binRd (t : TType) (bs r : Bytes) (hb : bs.length < 2 ^ 63)
    (h : runF (skip e sf skipDepth t) bs = .ok ((), r)) : (sR e).skip t bs = .ok r ∧ r.length < bs.length := by
  obtain ⟨k, hk⟩ := skip_of_async e sf skipDepth t bs r hb h
  refine ⟨?_, ((askip_conv e sf).1 skipDepth t bs r hb h).1⟩
  show mapOut (·.2) (Skip.skip e (skipDepth : Int) t bs) = _
  rw [hk]; rfl

theorem adec_conv : ∀ f : Nat,
    (∀ ty bs v r, bs.length < 2 ^ 63 → runF (adecTy e d sf f ty) bs = .ok (v, r) →
      r.length < bs.length ∧ decTy (sR e) d f ty bs = .ok (v, r)) ∧
    (∀ el n acc bs xs r, bs.length < 2 ^ 63 → runF (adecN e d sf f el n acc) bs = .ok (xs, r) →
      n + r.length ≤ bs.length ∧ decN (sR e) d f el n acc bs = .ok (xs, r)) ∧
    (∀ k v n acc bs xs r, bs.length < 2 ^ 63 → runF (adecPairs e d sf f k v n acc) bs = .ok (xs, r) →
      n + r.length ≤ bs.length ∧ decPairs (sR e) d f k v n acc bs = .ok (xs, r)) ∧
    (∀ fs slots bs out r, bs.length < 2 ^ 63 → runF (adecFields e d sf f fs slots) bs = .ok (out, r) →
      r.length < bs.length ∧ decFields (sR e) d f fs slots bs = .ok (out, r)) ∧
    (∀ vs ret bs out r, bs.length < 2 ^ 63 → runF (adecUnion e d sf f vs ret) bs = .ok (out, r) →
      r.length < bs.length ∧ decUnion (sR e) d f vs ret bs = .ok (out, r)) := by
  intro f
  induction f with
  | zero =>
    refine ⟨?_, ?_, ?_, ?_, ?_⟩
    · intro _ _ _ _ _ h; unfold adecTy at h; cases h
    · intro _ _ _ _ _ _ _ h; unfold adecN at h; cases h
    · intro _ _ _ _ _ _ _ _ h; unfold adecPairs at h; cases h
    · intro _ _ _ _ _ _ h; unfold adecFields at h; cases h
    · intro _ _ _ _ _ _ h; unfold adecUnion at h; cases h
  | succ f ih =>
    obtain ⟨ihT, ihN, ihP, ihF, ihU⟩ := ih
    refine ⟨?_, ?_, ?_, ?_, ?_⟩
    · intro ty bs v r hb h
      cases ty
      all_goals (unfold adecTy at h; unfold decTy)
      case void => cases h
      case bool =>
        obtain ⟨n, r', h1, ⟨⟩⟩ := runF_bind_ok.mp h
        refine ⟨(readI_sat e (by decide) bs (F := True)).ok h1, ?_⟩
        rw [runF_readI] at h1
        simp only [show (sR e).readBool bs = mapOut (fun x => (x.1 != 0, x.2)) (Binary.readI e 1 bs) from rfl, h1, mapOut]
      case i8 | i16 | i32 | i64 => exact leafI_conv e _ (by decide) _ bs v r h
      case double =>
        obtain ⟨n, r', h1, ⟨⟩⟩ := runF_bind_ok.mp h
        refine ⟨(readU_sat e (by decide) bs (F := True)).ok h1, ?_⟩
        rw [runF_readU] at h1
        simp only [show (sR e).readDouble bs = Binary.readU e 8 bs from rfl, h1, mapOut]
      case string | binary =>
        obtain ⟨b, r', h1, ⟨⟩⟩ := runF_bind_ok.mp h
        refine ⟨by have := (readBytes_paid e bs (F := True)).ok h1; omega, ?_⟩
        simp only [show (sR e).readBytes bs = Binary.readBytes e bs from rfl, (readBytes_iff e bs hb _).mp h1, mapOut]
      case uuid =>
        obtain ⟨hle, h2⟩ := need_ok 16 _ bs _ h
        cases h2
        refine ⟨by rw [List.length_drop]; omega, ?_⟩
        simp only [show (sR e).readUuid bs = Binary.takeN 16 bs from rfl, Binary.takeN, if_pos hle, mapOut]
      case list el | set el =>
        obtain ⟨⟨et, n⟩, r0, h1, h2⟩ := runF_bind_ok.mp h
        obtain ⟨xs, _, h3, ⟨⟩⟩ := runF_bind_ok.mp h2
        have hlt := (readListBegin_sat e bs (F := True)).ok h1
        obtain ⟨hn, hd⟩ := ihN el n [] r0 xs _ (runF_lt_of_lt h1 hb) h3
        have hs : (sR e).listBegin bs = _ := sync_of_readListBegin hb h1 (by omega)
        refine ⟨by omega, ?_⟩
        simp only [hs, hd]
      case map k v' =>
        obtain ⟨⟨kt, vt, n⟩, r0, h1, h2⟩ := runF_bind_ok.mp h
        obtain ⟨xs, _, h3, ⟨⟩⟩ := runF_bind_ok.mp h2
        have hlt := (readMapBegin_sat e bs (F := True)).ok h1
        obtain ⟨hn, hd⟩ := ihP k v' n [] r0 xs _ (runF_lt_of_lt h1 hb) h3
        have hs : (sR e).mapBegin bs = _ := sync_of_readMapBegin hb h1 (by omega)
        refine ⟨by omega, ?_⟩
        simp only [hs, hd]
      case ref n =>
        cases hfind : d.find n with
        | none => rw [hfind] at h; cases h
        | some df =>
          rw [hfind] at h
          cases df with
          | struct fs =>
            dsimp only at h ⊢
            obtain ⟨slots, r1, h1, h2⟩ := runF_bind_ok.mp h
            obtain ⟨hl, hd⟩ := ihF fs [] bs slots r1 hb h1
            have hd : decFields (sR e) d f fs [] ((sR e).structBegin bs) = _ := hd
            simp only [hd, show (sR e).structEnd r1 = .ok r1 from rfl]
            cases hfin : finish fs slots with
            | ok out => rw [hfin] at h2; cases h2; exact ⟨hl, rfl⟩
            | _ => rw [hfin] at h2; cases h2
          | union vs =>
            dsimp only at h ⊢
            obtain ⟨ret, r1, h1, h2⟩ := runF_bind_ok.mp h
            obtain ⟨hl, hd⟩ := ihU vs none bs ret r1 hb h1
            have hd : decUnion (sR e) d f vs none ((sR e).structBegin bs) = _ := hd
            simp only [hd, show (sR e).structEnd r1 = .ok r1 from rfl]
            cases ret with
            | some p => cases h2; exact ⟨hl, rfl⟩
            | none =>
              dsimp only at h2 ⊢
              split at h2
              · cases h2; exact ⟨hl, rfl⟩
              · cases h2
          | enum => exact leafI_conv e 4 (by decide) _ bs v r h
          | typedef t => exact ihT t bs v r hb h
    · intro el n acc bs xs r hb h
      cases n with
      | zero => unfold adecN at h; cases h; exact ⟨Nat.le_of_eq (Nat.zero_add _), by unfold decN; rfl⟩
      | succ n =>
        unfold adecN at h
        obtain ⟨v, r1, h1, h2⟩ := runF_bind_ok.mp h
        obtain ⟨hl, hd⟩ := ihT el bs v r1 hb h1
        obtain ⟨hn, hd2⟩ := ihN el n _ r1 xs r (runF_lt_of_lt h1 hb) h2
        refine ⟨by omega, ?_⟩
        unfold decN
        simp only [hd]; exact hd2
    · intro k v n acc bs xs r hb h
      cases n with
      | zero => unfold adecPairs at h; cases h; exact ⟨Nat.le_of_eq (Nat.zero_add _), by unfold decPairs; rfl⟩
      | succ n =>
        unfold adecPairs at h
        obtain ⟨kv, r1, h1, h2⟩ := runF_bind_ok.mp h
        obtain ⟨vv, r2, h3, h4⟩ := runF_bind_ok.mp h2
        have hb1 := runF_lt_of_lt h1 hb
        obtain ⟨hl1, hd1⟩ := ihT k bs kv r1 hb h1
        obtain ⟨hl2, hd2⟩ := ihT v r1 vv r2 hb1 h3
        obtain ⟨hn, hd3⟩ := ihP k v n _ r2 xs r (runF_lt_of_lt h3 hb1) h4
        refine ⟨by omega, ?_⟩
        unfold decPairs
        simp only [hd1, hd2]; exact hd3
    · intro fs slots bs out r hb h
      unfold adecFields at h
      obtain ⟨⟨t, id⟩, r0, h1, h2⟩ := runF_bind_ok.mp h
      have hlt := (readFieldBegin_sat e bs (F := True)).ok h1
      have hb0 := runF_lt_of_lt h1 hb
      have h1 : (sR e).fieldBegin bs = _ := (runF_readFieldBegin e bs).symm.trans h1
      unfold decFields
      simp only [h1]
      dsimp only at h2
      by_cases hs : t = .stop
      · rw [if_pos hs] at h2 ⊢; cases h2; exact ⟨hlt, rfl⟩
      · rw [if_neg hs] at h2 ⊢
        cases hfind : fs.find? (fun fl => fl.id == id && d.ttype fl.ty == t) with
        | some fl =>
          rw [hfind] at h2
          dsimp only at h2 ⊢
          obtain ⟨v, r1, h3, h4⟩ := runF_bind_ok.mp h2
          obtain ⟨hl1, hd1⟩ := ihT fl.ty r0 v r1 hb0 h3
          obtain ⟨hl2, hd2⟩ := ihF fs _ r1 out r (runF_lt_of_lt h3 hb0) h4
          rw [hd1]; exact ⟨by omega, hd2⟩
        | none =>
          rw [hfind] at h2
          dsimp only at h2 ⊢
          obtain ⟨_, r1, h3, h4⟩ := runF_bind_ok.mp h2
          obtain ⟨hsk, hl1⟩ := skip_conv_binRd e sf t r0 r1 hb0 h3
          obtain ⟨hl2, hd2⟩ := ihF fs slots r1 out r (runF_lt_of_lt h3 hb0) h4
          rw [hsk]; exact ⟨by omega, hd2⟩
    · intro vs ret bs out r hb h
      unfold adecUnion at h
      obtain ⟨⟨t, id⟩, r0, h1, h2⟩ := runF_bind_ok.mp h
      have hlt := (readFieldBegin_sat e bs (F := True)).ok h1
      have hb0 := runF_lt_of_lt h1 hb
      have h1 : (sR e).fieldBegin bs = _ := (runF_readFieldBegin e bs).symm.trans h1
      unfold decUnion
      simp only [h1]
      dsimp only at h2
      by_cases hs : t = .stop
      · rw [if_pos hs] at h2 ⊢; cases h2; exact ⟨hlt, rfl⟩
      · rw [if_neg hs] at h2 ⊢
        cases hfind : vs.find? (fun x => x.1 == id && !(x.2 == .void)) with
        | some pr =>
          rw [hfind] at h2
          dsimp only at h2 ⊢
          split at h2
          · cases h2
          · rw [if_neg ‹_›]
            obtain ⟨v, r1, h3, h4⟩ := runF_bind_ok.mp h2
            obtain ⟨hl1, hd1⟩ := ihT pr.2 r0 v r1 hb0 h3
            obtain ⟨hl2, hd2⟩ := ihU vs _ r1 out r (runF_lt_of_lt h3 hb0) h4
            rw [hd1]; exact ⟨by omega, hd2⟩
        | none =>
          rw [hfind] at h2
          dsimp only at h2 ⊢
          obtain ⟨_, r1, h3, h4⟩ := runF_bind_ok.mp h2
          obtain ⟨hsk, hl1⟩ := skip_conv_binRd e sf t r0 r1 hb0 h3
          obtain ⟨hl2, hd2⟩ := ihU vs ret r1 out r (runF_lt_of_lt h3 hb0) h4
          rw [hsk]; exact ⟨by omega, hd2⟩

end Pilota.TGen
