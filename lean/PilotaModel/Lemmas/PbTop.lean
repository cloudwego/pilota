import PilotaModel.Lemmas.PbMerge
namespace Pilota.Proto
open Pilota Spec

theorem decodeIntoCtx_encode (s : Schema) (flag : Bool) (hs : WFSchema s = true) (ctx i : Nat) (x y : Slots)
    (hy : okSlots s flag (decls s i) y = true) (hn : needSlots y ≤ ctx) (hx : shapeSlots s (decls s i) x = true) :
    decodeIntoCtx s ctx i x (encode s flag i y) = .ok (mergeVal s i x y) := by
  have hdw := decls_wf s hs i
  have := foldRecs_loop s ctx (decls s i) _ x _ (fun r hr => wf_tags_ok _ _ hdw.1 _ (recsSlots_tags s flag _ _ r hr).1)
    (foldRecs_recsSlots s flag hs ctx (decls s i) y x hdw.1 hdw.2 hy hn hx) [] _ (Nat.le_refl _)
  simp only [List.append_nil, List.length_nil, flat_recsSlots s flag hs _ y hy] at this
  simp only [decodeIntoCtx, encode, this, mergeVal]

theorem decodeInto_encode (s : Schema) (flag : Bool) (hs : WFSchema s = true) (i : Nat) (x y : Slots)
    (hy : HasType s flag i y) (hx : shapeSlots s (decls s i) x = true) :
    decodeInto s i x (encode s flag i y) = .ok (mergeVal s i x y) :=
  decodeIntoCtx_encode s flag hs recursionLimit i x y hy.1 hy.2 hx

theorem mergeVal_default (s : Schema) (flag : Bool) (hs : WFSchema s = true) (i : Nat) (y : Slots)
    (hy : okSlots s flag (decls s i) y = true) : mergeVal s i (defaultMsg s i) y = y :=
  mergeValSlots_default s flag hs (decls s i) (decls_wf s hs i).1 _ y (exactDefault_defaultMsg s i) (shape_defaultMsg s hs i) hy

theorem decode_encode (s : Schema) (flag : Bool) (hs : WFSchema s = true) (i : Nat) (m : Slots) (hm : HasType s flag i m) :
    decode s i (encode s flag i m) = .ok m := by
  unfold decode
  rw [decodeInto_encode s flag hs i _ m hm (shape_defaultMsg s hs i), mergeVal_default s flag hs i m hm.1]

theorem encodedLen_encode (s : Schema) (flag : Bool) (hs : WFSchema s = true) (i : Nat) (m : Slots)
    (hm : okSlots s flag (decls s i) m = true) : encodedLen s flag i m = (encode s flag i m).length :=
  lenSlots_eq s flag hs (decls s i) (decls_wf s hs i).1 m hm

theorem decodeIntoCtx_ok (s : Schema) (ctx i : Nat) (m : Slots) (a : Bytes) (h : (decodeIntoCtx s ctx i m a).isOk = true) :
    ∃ m', mergeLoopGo (fieldStep (mergeField s ctx) (decls s i)) (a.length + 1) m a 0 = .ok (m', []) ∧
      decodeIntoCtx s ctx i m a = .ok m' := by
  unfold decodeIntoCtx at h ⊢
  have g := (mergeLoopGo_sim _ [] (mergeFieldStep_reader s ctx (decls s i) []) 0 (a.length + 1) m a (by omega)).safe
  cases hl : mergeLoopGo (fieldStep (mergeField s ctx) (decls s i)) (a.length + 1) m a 0 with
  | ok p =>
    obtain ⟨m', r⟩ := p
    rw [hl] at g
    cases List.eq_nil_of_length_eq_zero g.2
    exact ⟨m', rfl, rfl⟩
  | _ => rw [hl] at h; cases h

theorem decodeIntoCtx_concat (s : Schema) (ctx i : Nat) (m m' : Slots) (a b : Bytes)
    (h : decodeIntoCtx s ctx i m a = .ok m') : decodeIntoCtx s ctx i m (a ++ b) = decodeIntoCtx s ctx i m' b := by
  obtain ⟨m1, hl, h1⟩ := decodeIntoCtx_ok s ctx i m a (by rw [h]; rfl)
  cases h.symm.trans h1
  unfold decodeIntoCtx
  rw [loop_concat _ (fun x => mergeFieldStep_reader s ctx _ x) m m' a b _ hl 0 (Nat.zero_le _) _ (Nat.lt_succ_self _),
    mergeLoopGo_fuel_indep _ (mergeFieldStep_ok s ctx _) 0 ((a ++ b).length + 1) (b.length + 1) m' b (by simp only [List.length_append]; omega) (by omega)]

theorem decode_concat_encode (s : Schema) (flag : Bool) (hs : WFSchema s = true) (i : Nat) (x y : Slots)
    (hx : HasType s flag i x) (hy : HasType s flag i y) :
    decode s i (encode s flag i x ++ encode s flag i y) = .ok (mergeVal s i x y) := by
  have h1 := decode_encode s flag hs i x hx
  unfold decode decodeInto at h1 ⊢
  rw [decodeIntoCtx_concat s recursionLimit i _ x _ _ h1]
  exact decodeInto_encode s flag hs i x y hy (okSlots_shape s flag _ x hx.1)

end Pilota.Proto
