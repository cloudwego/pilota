import PilotaModel.Lemmas.DeclOrder
import PilotaModel.Lemmas.KeepRTBase
import PilotaModel.Lemmas.ProjMono
/-  Struct-level lemmas for the C13 round trip: the field loop of the full reader over a list of entries it accepts, and
    `finish` on the slots it leaves. -/
namespace Pilota.TGen
open Pilota Pilota.Thrift

section
variable (d : Doc) (P : STy → TVal → Bool)

theorem hasFields_mem (fs : List Field) (wfs : TFields) (hpw : fs.Pairwise (fun a b => a.id ≠ b.id)) (h : hasFields d P fs wfs = true) :
    ∀ p ∈ wfs.toList, ∃ fl ∈ fs, fl.id = p.1 ∧ inS 2 p.1 ∧ d.ttype fl.ty = p.2.ttype ∧ P fl.ty p.2 = true := by
  obtain ⟨e, hall⟩ := hasFields_elim d P fs wfs hpw h
  intro p hp
  rw [e] at hp
  obtain ⟨fl, hfl, hx⟩ := List.mem_filterMap.mp hp
  obtain ⟨v, hv, rfl⟩ := Option.map_eq_some_iff.mp hx
  have := hall fl hfl
  rw [hv] at this
  exact ⟨fl, hfl, rfl, this⟩

theorem hasFields_absent (fs : List Field) (wfs : TFields) (hpw : fs.Pairwise (fun a b => a.id ≠ b.id)) (h : hasFields d P fs wfs = true) :
    ∀ fl ∈ fs, (∃ p ∈ wfs.toList, p.1 = fl.id) ∨ (fl.required = false ∧ fl.dflt = none) := by
  intro fl hfl
  have := (hasFields_elim d P fs wfs hpw h).2 fl hfl
  cases hv : slotGet wfs.toList fl.id with
  | some v => exact .inl ⟨_, slotGet_some_mem _ _ v hv, rfl⟩
  | none => rw [hv] at this; exact .inr this

theorem hasFields_nodup (fs : List Field) (wfs : TFields) (hpw : fs.Pairwise (fun a b => a.id ≠ b.id)) (h : hasFields d P fs wfs = true) :
    (wfs.toList.map (·.1)).Nodup := by
  rw [(hasFields_elim d P fs wfs hpw h).1]
  exact nodup_filterMap (entryOf_id _) hpw

theorem slotGet_of_mem : ∀ (l : List (Int × TVal)), (l.map (·.1)).Nodup → ∀ p ∈ l, slotGet l p.1 = some p.2
  | a :: l, hn, p, hp => by
    obtain ⟨hna, hnl⟩ := List.nodup_cons.mp hn
    rw [slotGet_cons]
    rcases List.mem_cons.mp hp with rfl | hp
    · rw [if_pos rfl]
    · rw [if_neg fun e => hna (List.mem_map.mpr ⟨p, hp, e.symm⟩), slotGet_of_mem l hnl p hp]

theorem hasFields_finish : ∀ (fs : List Field) (wfs : TFields) (slots : List (Int × TVal)),
    fs.Pairwise (fun a b => a.id ≠ b.id) → hasFields d P fs wfs = true →
    (∀ fl ∈ fs, slotGet slots fl.id = slotGet wfs.toList fl.id) → finish fs slots = .ok wfs.toList := by
  intro fs wfs slots hpw h hs
  obtain ⟨e, hall⟩ := hasFields_elim d P fs wfs hpw h
  rw [finish_typed d P fs slots _ (fun _ v => v) hall fun fl hfl => by rw [hs fl hfl, Option.map_id']]
  exact congrArg _ e.symm
end

theorem finish_mem : ∀ (fs : List Field) (slots out : List (Int × TVal)), finish fs slots = .ok out →
    ∀ p ∈ out, ∃ fl ∈ fs, fl.id = p.1 ∧ (slotGet slots fl.id = some p.2 ∨ (slotGet slots fl.id = none ∧ fl.dflt = some p.2)) := by
  intro fs slots out h p hp
  rw [← ((finish_ok_iff fs slots out).mp h).2] at hp
  obtain ⟨fl, hfl, he⟩ := List.mem_filterMap.mp hp
  exact ⟨fl, hfl, slotOrDflt_eq_some.mp he⟩

theorem finish_has : ∀ (fs : List Field) (slots out : List (Int × TVal)), finish fs slots = .ok out →
    ∀ fl ∈ fs, ∀ v, slotGet slots fl.id = some v → (fl.id, v) ∈ out := by
  intro fs slots out h fl hfl v hv
  rw [← ((finish_ok_iff fs slots out).mp h).2]
  exact List.mem_filterMap.mpr ⟨fl, hfl, slotOrDflt_eq_some.mpr ⟨rfl, .inl hv⟩⟩

/-- the slot table `s` after storing the entries `ks` in order -/
def setAll (s ks : List (Int × TVal)) : List (Int × TVal) := ks.foldl (fun a p => slotSet a p.1 p.2) s

theorem setAll_get_some : ∀ (ks s : List (Int × TVal)) (id : Int) (v : TVal), slotGet (setAll s ks) id = some v →
    (id, v) ∈ ks ∨ slotGet s id = some v := by
  intro ks
  induction ks with
  | nil => intro s id v h; exact .inr h
  | cons k ks ih =>
    intro s id v h
    simp only [setAll, List.foldl_cons] at h
    rcases ih (slotSet s k.1 k.2) id v h with hm | hs
    · exact .inl (by simp [hm])
    · rw [slotGet_slotSet] at hs
      by_cases hk : k.1 = id
      · simp only [hk, if_true, Option.some.injEq] at hs
        exact .inl (by rw [← hs, ← hk]; simp)
      · simp only [hk, if_false] at hs; exact .inr hs

theorem setAll_get_isSome : ∀ (ks s : List (Int × TVal)) (id : Int), ((∃ p ∈ ks, p.1 = id) ∨ (slotGet s id).isSome = true) →
    (slotGet (setAll s ks) id).isSome = true := by
  intro ks
  induction ks with
  | nil =>
    intro s id h
    rcases h with ⟨p, hp, _⟩ | h
    · cases hp
    · exact h
  | cons k ks ih =>
    intro s id h
    simp only [setAll, List.foldl_cons]
    apply ih
    rcases h with ⟨p, hp, hpid⟩ | h
    · rcases List.mem_cons.mp hp with rfl | hp
      · right; rw [slotGet_slotSet]; simp [hpid]
      · left; exact ⟨p, hp, hpid⟩
    · right; rw [slotGet_slotSet]; by_cases hk : k.1 = id <;> simp [hk, h]

section
variable (d : Doc) (dp : Option Nat)

/-- the plain reader's field loop over entries each of which it either knows (and reads as `φ id`) or skips -/
theorem projFields_mixed (fs : List Field) (φ : Int → TVal) (F : Nat) : ∀ (es slots : List (Int × TVal)),
    (∀ p ∈ es, inS 2 p.1 ∧
      ((∃ fl, fs.find? (fun x => x.id == p.1 && d.ttype x.ty == p.2.ttype) = some fl ∧ projTy d dp F fl.ty p.2 = some (.ok (φ p.1))) ∨
       (fs.find? (fun x => x.id == p.1 && d.ttype x.ty == p.2.ttype) = none ∧ admitsB dp p.2.need = true))) →
    ∃ slots', projFields d dp (F + es.length + 1) fs slots (TFields.ofList es) = some (.ok slots') ∧
      ∀ id, slotGet slots' id =
        if es.any (fun p => (fs.find? (fun x => x.id == p.1 && d.ttype x.ty == p.2.ttype)).isSome && p.1 == id) then some (φ id) else slotGet slots id := by
  intro es
  induction es with
  | nil => intro slots _; exact ⟨slots, by simp [TFields.ofList, projFields], by simp⟩
  | cons p es ih =>
    intro slots hacc
    obtain ⟨id, v⟩ := p
    obtain ⟨hin, hcase⟩ := hacc (id, v) (by simp)
    have hlen : F + ((id, v) :: es).length + 1 = (F + es.length + 1) + 1 := by simp; omega
    rw [hlen]
    simp only [TFields.ofList]
    rw [projFields]
    simp only [hin, not_true_eq_false, if_false]
    simp only at hcase
    rcases hcase with ⟨fl, hfind, hproj⟩ | ⟨hfind, hadm⟩
    · rw [hfind]
      have hmono : projTy d dp (F + es.length + 1) fl.ty v = some (.ok (φ id)) := projTy_mono d dp F _ (by omega) fl.ty v _ hproj
      simp only [hmono]
      obtain ⟨slots', hrun, hget⟩ := ih (slotSet slots id (φ id)) (fun q hq => hacc q (by simp [hq]))
      refine ⟨slots', hrun, ?_⟩
      intro j
      rw [hget j, slotGet_slotSet]
      simp only [List.any_cons, hfind, Option.isSome_some, Bool.true_and]
      by_cases hj : id = j
      · subst hj; simp
      · have : (id == j) = false := by simpa using hj
        simp only [this, hj, if_false, Bool.false_or]
    · rw [hfind]
      simp only [hadm, if_true]
      obtain ⟨slots', hrun, hget⟩ := ih slots (fun q hq => hacc q (by simp [hq]))
      refine ⟨slots', hrun, ?_⟩
      intro j
      rw [hget j]
      simp only [List.any_cons, hfind, Option.isSome_none, Bool.false_and, Bool.false_or]

theorem projFields_all (fs : List Field) (φ : Int → TVal) (F : Nat) : ∀ (es slots : List (Int × TVal)),
    (∀ p ∈ es, inS 2 p.1 ∧ ∃ fl, fs.find? (fun x => x.id == p.1 && d.ttype x.ty == p.2.ttype) = some fl ∧
      projTy d dp F fl.ty p.2 = some (.ok (φ p.1))) →
    ∃ slots', projFields d dp (F + es.length + 1) fs slots (TFields.ofList es) = some (.ok slots') ∧
      ∀ id, slotGet slots' id = if es.any (fun p => p.1 == id) then some (φ id) else slotGet slots id := by
  intro es slots hacc
  obtain ⟨slots', hrun, hget⟩ := projFields_mixed d dp fs φ F es slots fun p hp => ⟨(hacc p hp).1, .inl (hacc p hp).2⟩
  refine ⟨slots', hrun, fun id => ?_⟩
  rw [hget id]
  congr 2
  rw [Bool.eq_iff_iff, List.any_eq_true, List.any_eq_true]
  exact ⟨fun ⟨p, hp, h⟩ => ⟨p, hp, (Bool.and_eq_true _ _ ▸ h).2⟩,
    fun ⟨p, hp, h⟩ => ⟨p, hp, by obtain ⟨_, fl, hf, _⟩ := hacc p hp; simp [hf, h]⟩⟩

end

theorem uniform_fuel {α : Type} (Q : α → Nat → Prop) (hmono : ∀ a f g, f ≤ g → Q a f → Q a g) :
    ∀ (l : List α), (∀ a ∈ l, ∃ G, Q a G) → ∃ F, ∀ a ∈ l, Q a F := by
  intro l
  induction l with
  | nil => intro _; exact ⟨0, fun a ha => by cases ha⟩
  | cons a l ih =>
    intro h
    obtain ⟨F, hF⟩ := ih (fun x hx => h x (by simp [hx]))
    obtain ⟨G, hG⟩ := h a (by simp)
    refine ⟨max F G, ?_⟩
    intro x hx
    rcases List.mem_cons.mp hx with rfl | hx
    · exact hmono _ G _ (Nat.le_max_right _ _) hG
    · exact hmono x F _ (Nat.le_max_left _ _) (hF x hx)

end Pilota.TGen
