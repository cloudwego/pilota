import PilotaModel.Lemmas.PbLen
import PilotaModel.Lemmas.PbSpecScalar
/-
  pilota-build's lowering of a declared schema (`Spec.lowerSchema`): field numbers and oneof members
  stay, and the module selected for a scalar or enum type reads and writes the records the encoding
  guide prescribes for that type.  Both directions of C06 rest on this file.
-/
namespace Pilota.Proto
open Pilota Spec

theorem codec_wireClass (t : PType) : t.codec.wireClass = t := by cases t <;> rfl

theorem lower_tags (d : PDecl) : (lowerDecl d).tags = d.tags := by
  cases d <;> simp [lowerDecl, FieldDecl.tags, PDecl.tags, List.map_map, Function.comp_def]

theorem decls_lower (ps : PSchema) (i : Nat) : decls (lowerSchema ps) i = (pdecls ps i).map lowerDecl := by
  unfold decls pdecls lowerSchema
  rw [List.getD_eq_getElem?_getD, List.getD_eq_getElem?_getD, List.getElem?_map]
  cases ps[i]? <;> rfl

theorem lookup_lower (vs : List (Nat × PFTy)) (t : Nat) :
    lookupVariant (vs.map fun p => (p.1, lowerTy p.2)) t = (lookupP vs t).map lowerTy := by
  have : ((fun p : Nat × FTy => p.1 == t) ∘ fun p : Nat × PFTy => (p.1, lowerTy p.2)) = fun p => p.1 == t := rfl
  unfold lookupVariant lookupP
  rw [List.find?_map, this]
  cases vs.find? (fun p => p.1 == t) <;> rfl

theorem okE_s {s : Schema} {flag : Bool} {ty : FTy} {x : SVal} (h : okE s flag ty (.s x) = true) :
    ∃ c, ty = .scalar c ∧ c.ok x = true ∧ Codec.lenOk x := by
  cases ty with
  | scalar c => exact ⟨c, rfl, (Bool.and_eq_true_iff.mp h).1, (lenOk_iff x).mp (Bool.and_eq_true_iff.mp h).2⟩
  | msg i => cases h

theorem okE_msg {s : Schema} {flag : Bool} {ty : FTy} {fs : Slots} (h : okE s flag ty (.msg fs) = true) :
    ∃ i, ty = .msg i ∧ okSlots s flag (decls s i) fs = true ∧ lenSlots s flag (decls s i) fs < 2 ^ 64 := by
  cases ty with
  | scalar c => cases h
  | msg i => exact ⟨i, rfl, (Bool.and_eq_true_iff.mp h).1, of_decide_eq_true (Bool.and_eq_true_iff.mp h).2⟩

theorem okEs_scalar {s : Schema} {flag : Bool} {c : Codec} : ∀ {xs : EVals}, okEs s flag (.scalar c) xs = true →
    ∃ vs, xs = svalsToE vs ∧ Codec.allOk c vs
  | .nil, _ => ⟨[], rfl, nofun⟩
  | .cons x r, h => by
    have h := Bool.and_eq_true_iff.mp h
    obtain ⟨vs, rfl, hvs⟩ := okEs_scalar h.2
    cases x with
    | s y =>
      obtain ⟨_, hc, hok, hl⟩ := okE_s h.1
      cases hc
      exact ⟨y :: vs, rfl, List.forall_mem_cons.mpr ⟨⟨hok, hl⟩, hvs⟩⟩
    | msg fs => cases h.1

theorem svalsOf_svalsToE : ∀ (vs : List SVal), svalsOf (svalsToE vs) = some vs
  | [] => rfl
  | v :: vs => by rw [svalsToE, svalsOf, svalsOf_svalsToE vs]; rfl

theorem svalsToE_append : ∀ (a b : List SVal), svalsToE (a ++ b) = (svalsToE a).append (svalsToE b)
  | [], _ => rfl
  | x :: a, b => congrArg (EVals.cons (.s x)) (svalsToE_append a b)

theorem lowerTy_msg {pty : PFTy} {i : Nat} (h : lowerTy pty = .msg i) : pty = .msg i := by
  cases pty <;> cases h <;> rfl

theorem wireOfTy_lower {pty : PFTy} {c : Codec} (hl : lowerTy pty = .scalar c) : wireOfTy pty = c.wt := by
  cases pty with
  | scalar t => cases hl; rw [Codec.wt_wireClass, codec_wireClass]; rfl
  | enum => cases hl; rfl
  | msg i => cases hl

theorem encScalar_lower {pty : PFTy} {c : Codec} {x : SVal} (hl : lowerTy pty = .scalar c) (hx : c.ok x = true) :
    encScalar (scalarTy pty) x = c.encPayload x := by
  cases pty with
  | scalar t => cases hl; rw [(module_conforms _ x hx).2, codec_wireClass]; rfl
  | enum => cases hl; exact (module_conforms _ x hx).2.symm
  | msg i => cases hl

theorem encE_scalar {ps : PSchema} {pty : PFTy} {c : Codec} {x : SVal} {r : Rec} (hl : lowerTy pty = .scalar c)
    (hok : c.ok x = true) : EncE ps pty (.s x) r ↔ r.wt = c.wt ∧ r.payload = c.encPayload x := by
  rw [← wireOfTy_lower hl, ← encScalar_lower hl hok]
  cases pty <;> first | exact Iff.rfl | cases hl

theorem packable_lower {pty : PFTy} (hp : packable pty = true) : ∃ c, lowerTy pty = .scalar c ∧ c.isNumeric = true := by
  cases pty with
  | scalar t => cases t <;> first | exact ⟨_, rfl, rfl⟩ | cases hp
  | enum => exact ⟨_, rfl, rfl⟩
  | msg i => cases hp

theorem zeroOf_iff {s : Schema} {flag : Bool} {pty : PFTy} {v : EVal} (h : okE s flag (lowerTy pty) v = true) :
    zeroOf pty v ↔ v.exactDefault = true := by
  cases v <;> cases pty <;> first | exact Iff.rfl | cases h

end Pilota.Proto
