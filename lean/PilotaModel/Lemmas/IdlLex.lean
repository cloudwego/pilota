import PilotaModel.Idl.WF
import PilotaModel.Lemmas.IdlTotal
/-
  C15, lexical layer.  First what the files above share: the follow conditions on the next character (`hdP`, `Sep`, `NB`),
  the evaluation steps of the combinators (`andThen_of_ok` ..), the first set of a parser (`First`).  Then blanks (whitespace
  runs and the three comment styles, merged the way `many1(alt((comment, multispace1)))` reads them), identifiers, keywords,
  literals, numbers.
-/
namespace Pilota.Idl

/-- the text is empty or begins with a character of class `f`.  The EMPTY text passes: every follow condition built on
`hdP` (`NB`, `Sep`, `NoSepStart`, `ItemStart`, `FieldFollow` ..) therefore holds at the end of the input, for negative
classes (`· != c`) and positive ones (`isDecDigit`) alike. -/
def hdP (f : Char → Bool) : List Char → Bool
  | [] => true
  | c :: _ => f c

/-- `hdP f T = true` as a predicate on texts, the form the targets of `Follows` take -/
abbrev Hd (f : Char → Bool) (T : List Char) : Prop := hdP f T = true

@[simp] theorem hdP_nil (f) : hdP f [] = true := rfl
@[simp] theorem hdP_cons (f c r) : hdP f (c :: r) = f c := rfl

theorem hdP_append_of_ne {f} {a b : List Char} (h : a ≠ []) : hdP f (a ++ b) = hdP f a := by
  cases a with
  | nil => exact absurd rfl h
  | cons c a => rfl

theorem hdP_mono {f g : Char → Bool} (h : ∀ c, f c = true → g c = true) {r} (hr : hdP f r = true) : hdP g r = true := by
  cases r with
  | nil => rfl
  | cons c r => exact h c hr

theorem ne_of_class {f : Char → Bool} {c x : Char} (hc : f c = true) (hx : f x = false) : c ≠ x := by
  intro e; subst e; rw [hc] at hx; cases hx

/-- characters that can follow a word or a number in a rendered document: blank starters and
punctuation.  None is alphanumeric (ASCII or Unicode), `_`, `.`, `+`, `-`. -/
def isSepChar (c : Char) : Bool :=
  c == ' ' || c == '\t' || c == '\r' || c == '\n' || c == '/' || c == '#' || c == ',' || c == ';' ||
  c == ':' || c == '=' || c == '(' || c == ')' || c == '{' || c == '}' || c == '[' || c == ']' ||
  c == '<' || c == '>' || c == '"' || c == '\''

/-- `r` may follow a word (not to be confused with the LIST separator `,` `;` of `sepChar`, `NoSepStart`, `Tail.sep`) -/
abbrev Sep (r : List Char) : Prop := hdP isSepChar r = true
/-- neither whitespace nor the first character of a comment -/
def notBlankStart (c : Char) : Bool := !(isMultispace c || c == '/' || c == '#')
/-- "no blank": `r` does not begin a blank, so `blank` / `opt(blank)` in front of it stop exactly there -/
abbrev NB (r : List Char) : Prop := hdP notBlankStart r = true

def sepChars : List Char :=
  [' ', '\t', '\r', '\n', '/', '#', ',', ';', ':', '=', '(', ')', '{', '}', '[', ']', '<', '>', '"', '\'']

theorem isSepChar_mem {c : Char} (h : isSepChar c = true) : c ∈ sepChars := by
  simpa [isSepChar, sepChars, or_assoc] using h

/-- `hf` is checked on each of the twenty separator characters -/
theorem sep_not {f : Char → Bool} (hf : sepChars.all (fun c => !f c) = true) {r} (h : Sep r) :
    hdP (fun c => !f c) r = true := by
  cases r with
  | nil => rfl
  | cons c r => exact List.all_eq_true.mp hf c (isSepChar_mem h)

theorem Sep.noIdent {r} (h : Sep r) : hdP (fun c => !isIdentChar c) r = true := sep_not (by decide) h
theorem Sep.noAnn {r} (h : Sep r) : hdP (fun c => !(isIdentChar c || c == '.')) r = true := sep_not (by decide) h
theorem Sep.noAlnumU {r} (h : Sep r) : hdP (fun c => !(isAlnumU c || c == '_')) r = true := sep_not (by decide) h
theorem Sep.noDigit {r} (h : Sep r) : hdP (fun c => !isDecDigit c) r = true := sep_not (by decide) h

theorem span_append_stop {f : Char → Bool} (t : List Char) {r : List Char} (hr : hdP (fun c => !f c) r = true) :
    (t ++ r).takeWhile f = t.takeWhile f ∧ (t ++ r).dropWhile f = t.dropWhile f ++ r := by
  induction t with
  | nil =>
    cases r with
    | nil => exact ⟨rfl, rfl⟩
    | cons c r => simp at hr; simp [List.takeWhile, List.dropWhile, hr]
  | cons c t ih => by_cases hc : f c <;> simp [List.takeWhile, List.dropWhile, hc, ih]

theorem takeWhile_append_stop {f : Char → Bool} {a r : List Char} (ha : ∀ c ∈ a, f c = true)
    (hr : hdP (fun c => !f c) r = true) : (a ++ r).takeWhile f = a ∧ (a ++ r).dropWhile f = r := by
  rw [List.takeWhile_append_of_pos ha, List.dropWhile_append_of_pos ha]
  simpa using span_append_stop [] hr

theorem take_append_length_sub (a r : List Char) : (a ++ r).take ((a ++ r).length - r.length) = a := by
  simp

theorem andThen_of_ok {α β} {p : P α} {f : α → P β} {s a r} (h : p s = .ok a r) : andThen p f s = f a r := by
  simp [andThen, h, PR.bind]
theorem andThen_of_err {α β} {p : P α} {f : α → P β} {s} (h : p s = .err) : andThen p f s = .err := by
  simp [andThen, h, PR.bind]
theorem andThen_assoc {α β γ} (p : P α) (f : α → P β) (g : β → P γ) :
    andThen (andThen p f) g = andThen p fun x => andThen (f x) g := by
  funext s; simp only [andThen]; cases p s <;> rfl
theorem skip_of_ok {α β} {p : P α} {q : P β} {s a r} (h : p s = .ok a r) : skip p q s = q r := andThen_of_ok h
theorem skip_of_err {α β} {p : P α} {q : P β} {s} (h : p s = .err) : skip p q s = .err := andThen_of_err h
theorem pmap_of_ok {α β} {p : P α} {f : α → β} {s a r} (h : p s = .ok a r) : pmap f p s = .ok (f a) r := by
  simp [pmap, h, PR.map, PR.bind]
theorem pmap_of_err {α β} {p : P α} {f : α → β} {s} (h : p s = .err) : pmap f p s = .err := by
  simp [pmap, h, PR.map, PR.bind]
theorem opt_of_ok {α} {p : P α} {s a r} (h : p s = .ok a r) : opt p s = .ok (some a) r := by simp [opt, h]
theorem opt_of_err {α} {p : P α} {s} (h : p s = .err) : opt p s = .ok none s := by simp [opt, h]
theorem alt_cons_of_ok {α} {p : P α} {ps : List (P α)} {s a r} (h : p s = .ok a r) : alt (p :: ps) s = .ok a r := by
  simp [alt, h]
theorem alt_cons_of_err {α} {p : P α} {ps : List (P α)} {s} (h : p s = .err) : alt (p :: ps) s = alt ps s := by
  simp [alt, h]
theorem ret_apply {α} (a : α) (s : List Char) : ret a s = .ok a s := rfl

@[simp] theorem tag_append (t r : List Char) : tag t (t ++ r) = .ok t r := by
  simp [tag, stripPrefix_append]

theorem tag1 (c : Char) (r : List Char) : tag [c] (c :: r) = .ok [c] r := tag_append [c] r

theorem tag_cons_ne {t c : Char} {ts r : List Char} (h : t ≠ c) : tag (t :: ts) (c :: r) = .err := by
  simp [tag, stripPrefix, h]

theorem tag_nil_err {t : Char} {ts : List Char} : tag (t :: ts) [] = .err := rfl

theorem tag_hd {t : Char} {ts r : List Char} (h : hdP (fun c => c != t) r = true) : tag (t :: ts) r = .err := by
  cases r with
  | nil => rfl
  | cons c r => simp at h; exact tag_cons_ne (fun e => h e.symm)

theorem stripPrefix_stop {t s : List Char} {c : Char} (x : List Char) (hc : c ∉ t) :
    stripPrefix t (s ++ c :: x) = (stripPrefix t s).map (· ++ c :: x) := by
  induction t generalizing s with
  | nil => rfl
  | cons a t ih =>
    cases s with
    | nil => simp only [List.nil_append, stripPrefix]; rw [if_neg (fun e => hc (by simp [e]))]; rfl
    | cons b s =>
      simp only [List.cons_append, stripPrefix]
      split
      · exact ih (fun h => hc (by simp [h]))
      · rfl

/-- `p` fails on the empty text and on every text whose first character is outside the class `f`.
The class is an output of instance search, which follows the combinator structure of `p` (a bind has the first set of
its first step, an `alt` the union over its arms), so "this arm of an `alt` fails here" is a fact about one character:
`First.err_cons rfl _` on a literal character, a disjointness fact of two classes otherwise; where the parser is a named
definition the theorem unfolds it first.  The search runs again at every use. -/
class First {α} (p : P α) (f : outParam (Char → Bool)) : Prop where
  err : ∀ r, hdP (fun c => !f c) r = true → p r = .err

namespace First
variable {α β γ : Type} {p : P α} {q : P β} {f g : Char → Bool}

theorem err_cons [h : First p f] {c : Char} (hc : f c = false) (r : List Char) : p (c :: r) = .err :=
  h.err _ (by rw [hdP_cons, hc]; rfl)

theorem head [h : First p f] {s a r} (e : p s = .ok a r) : ∃ c x, s = c :: x ∧ f c = true := by
  cases s with
  | nil => rw [h.err [] rfl] at e; cases e
  | cons c x =>
    refine ⟨c, x, rfl, ?_⟩
    cases hc : f c with
    | true => rfl
    | false => rw [err_cons (p := p) hc x] at e; cases e

theorem of_bind {x : P α} {k : List Char → α → List Char → PR β} (h : First x f) : First (fun s => (x s).bind (k s)) f :=
  ⟨fun r hr => by show (x r).bind (k r) = .err; rw [h.err r hr]; rfl⟩

theorem union (hp : First p f) (hq : First q g) {r : List Char} (hr : hdP (fun c => !(f c || g c)) r = true) :
    p r = .err ∧ q r = .err :=
  ⟨hp.err r (hdP_mono (fun c hc => by simp at hc ⊢; exact hc.1) hr), hq.err r (hdP_mono (fun c hc => by simp at hc ⊢; exact hc.2) hr)⟩

instance (t : Char) (ts) : First (tag (t :: ts)) (· == t) :=
  ⟨fun r hr => tag_hd (hdP_mono (fun c hc => by simpa using hc) hr)⟩
instance (g) : First (satisfy g) g := ⟨fun r hr => by
  cases r with
  | nil => rfl
  | cons c r => rw [hdP_cons, Bool.not_eq_true'] at hr; simp [satisfy, hr]⟩
instance (cs) : First (oneOf cs) (fun c => cs.contains c) := inferInstanceAs (First (satisfy _) _)
instance (g) : First (takeWhile1 g) g := ⟨fun r hr => by
  cases r with
  | nil => rfl
  | cons c r => rw [hdP_cons, Bool.not_eq_true'] at hr; simp [takeWhile1, hr]⟩
instance : First digit1 isDecDigit := inferInstanceAs (First (takeWhile1 _) _)
instance : First multispace1 isMultispace := inferInstanceAs (First (takeWhile1 _) _)
instance : First (tagNoCase ['e']) (lowerEq · 'e') := ⟨fun r hr => by
  cases r with
  | nil => rfl
  | cons c x => rw [hdP_cons, Bool.not_eq_true'] at hr; simp [tagNoCase, stripPrefixNoCase, hr]⟩

instance {k : α → P β} [h : First p f] : First (andThen p k) f := of_bind h
instance [h : First p f] : First (skip p q) f := of_bind h
instance (m : α → β) [h : First p f] : First (pmap m p) f := of_bind h
instance (m : α → Option β) [h : First p f] : First (mapRes p m) f := of_bind h
instance [h : First p f] : First (recognize p) f := of_bind h
instance [h : First p f] : First (separatedList1 q p) f := of_bind h

instance [h : First p f] : First (alt [p]) f := ⟨fun r hr => by rw [alt_cons_of_err (h.err r hr)]; rfl⟩
instance {ps : List (P α)} [h : First p f] [hs : First (alt ps) g] : First (alt (p :: ps)) (fun c => f c || g c) :=
  ⟨fun r hr => by rw [alt_cons_of_err (union h hs hr).1]; exact (union h hs hr).2⟩
/-- an optional first part: what follows may come at once -/
instance (priority := high) optThen {k : Option α → P β} [h : First p f] [hk : ∀ o, First (k o) g] :
    First (andThen (opt p) k) (fun c => f c || g c) :=
  ⟨fun r hr => by rw [andThen_of_ok (opt_of_err (union h (hk none) hr).1)]; exact (union h (hk none) hr).2⟩
instance (priority := high) optMapThen (m : Option α → γ) {k : γ → P β} [h : First p f] [hk : ∀ o, First (k o) g] :
    First (andThen (pmap m (opt p)) k) (fun c => f c || g c) :=
  ⟨fun r hr => by
    rw [andThen_of_ok (pmap_of_ok (opt_of_err (union h (hk (m none)) hr).1))]; exact (union h (hk (m none)) hr).2⟩

theorem alt_skip {ps : List (P α)} [h : First p f] {c : Char} {r : List Char} {x : PR α} (e : alt ps (c :: r) = x)
    (hc : f c = false := by rfl) : alt (p :: ps) (c :: r) = x :=
  (alt_cons_of_err (err_cons hc r)).trans e

end First

instance : First comment (fun c => c == '/' || (c == '/' || c == '#')) := by unfold comment; infer_instance
instance : First listSeparator (fun c => [',', ';'].contains c) := by unfold listSeparator; infer_instance
instance {α} (k ks) (v : α) : First (keyword (k :: ks) v) (· == k) := by unfold keyword; infer_instance
instance : First Ident.parse isIdentStart := by unfold Ident.parse; infer_instance
instance : First annKey isIdentStart := by unfold annKey; infer_instance
instance : First Path.parse isIdentStart := by unfold Path.parse; infer_instance
instance : First Literal.parse (fun c => c == '\'' || c == '"') := by unfold Literal.parse quoted; infer_instance
instance : First IntConstant.parse (fun c => c == '-' || (c == '0' || isDecDigit c)) := by
  unfold IntConstant.parse IntConstant.unsigned; infer_instance
instance : First DoubleConstant.parse
    (fun c => c == '-' || (c == '+' || (isDecDigit c || ((isDecDigit c || c == '.') || isDecDigit c)))) := by
  rw [double_of_body]; unfold doubleSigned doubleBody; infer_instance

/-- the text begins with `ch`; unlike `hdP`, false of the empty text -/
def hdIs (ch : Char) : List Char → Bool
  | [] => false
  | d :: _ => d == ch

/-- no `*/` inside: the text can stand between `/*` and the `*/` that closes a block comment -/
def noSS : List Char → Bool
  | [] => true
  | c :: r => !(c == '*' && hdIs '/' r) && noSS r

/-- inductive characterisation of a rendered blank: whitespace characters one at a time (adjacent
whitespace pieces merge in `multispace1`), line comments up to and including their newline, block
comments up to the first `*/`. -/
inductive BT : List Char → Prop
  | nil : BT []
  | ws (c : Char) (t : List Char) : isMultispace c = true → BT t → BT (c :: t)
  | line (x t : List Char) : (∀ c ∈ x, (c != '\n') = true) → BT t → BT ('/' :: '/' :: (x ++ '\n' :: t))
  | hash (x t : List Char) : (∀ c ∈ x, (c != '\n') = true) → BT t → BT ('#' :: (x ++ '\n' :: t))
  | block (x t : List Char) : noSS x = true → BT t → BT ('/' :: '*' :: (x ++ '*' :: '/' :: t))

theorem BT.append {a b : List Char} (ha : BT a) (hb : BT b) : BT (a ++ b) := by
  induction ha with
  | nil => exact hb
  | ws c t hc _ ih => exact BT.ws c _ hc ih
  | line x t hx _ ih => have := BT.line x _ hx ih; simpa using this
  | hash x t hx _ ih => have := BT.hash x _ hx ih; simpa using this
  | block x t hx _ ih => have := BT.block x _ hx ih; simpa using this

theorem BT.of_ws : ∀ (cs : List Char), (∀ c ∈ cs, isMultispace c = true) → BT cs
  | [], _ => BT.nil
  | c :: cs, h => BT.ws c cs (h c (by simp)) (BT.of_ws cs (fun x hx => h x (by simp [hx])))

theorem noSS_sanBlock : ∀ (b : Bool) (cs : List Char), noSS (sanBlock b cs) = true ∧
    (b = true → hdIs '/' (sanBlock b cs) = false)
  | _, [] => by simp [sanBlock, noSS, hdIs]
  | b, c :: r => by
    simp only [sanBlock]
    split
    · have := noSS_sanBlock true r
      exact ⟨this.1, fun _ => this.2 rfl⟩
    · rename_i h
      have ih := noSS_sanBlock (c == '*') r
      refine ⟨?_, ?_⟩
      · simp only [noSS, ih.1, Bool.and_true]
        by_cases hc : (c == '*') = true
        · have := ih.2 hc
          rw [hc] at this
          simp [hc, this]
        · simp [hc]
      · intro hb; subst hb
        simp at h
        simp [hdIs, h]

theorem BT.of_piece (p : Piece) : BT p.text := by
  cases p with
  | ws cs => exact BT.of_ws _ (by intro c hc; exact (List.mem_filter.mp hc).2)
  | line cs =>
    have := BT.line (cs.filter (fun c => c != '\n')) [] (by intro c hc; exact (List.mem_filter.mp hc).2) BT.nil
    simpa [Piece.text] using this
  | hash cs =>
    have := BT.hash (cs.filter (fun c => c != '\n')) [] (by intro c hc; exact (List.mem_filter.mp hc).2) BT.nil
    simpa [Piece.text] using this
  | block cs =>
    have := BT.block (sanBlock false cs) [] (noSS_sanBlock false cs).1 BT.nil
    simpa [Piece.text] using this

theorem BT.of_blankText : ∀ ps, BT (blankText ps)
  | [] => BT.nil
  | p :: ps => BT.append (BT.of_piece p) (BT.of_blankText ps)

theorem BT.of_blankText1 (ps : List Piece) : BT (blankText1 ps) ∧ blankText1 ps ≠ [] := by
  unfold blankText1
  split
  · exact ⟨BT.ws ' ' [] (by decide) BT.nil, by simp⟩
  · rename_i h; exact ⟨BT.of_blankText ps, by intro e; exact h e⟩

theorem BT.sep_append {b r : List Char} (hb : BT b) (h : b ≠ [] ∨ Sep r) : Sep (b ++ r) := by
  cases hb with
  | nil => rcases h with h | h; exact absurd rfl h; exact h
  | ws c t hc _ =>
    simp only [List.cons_append, Sep, hdP_cons]
    simp [isMultispace] at hc
    rcases hc with ((h | h) | h) | h <;> subst h <;> decide
  | line | hash | block => rfl

theorem blankStart_cases {c : Char} (h : notBlankStart c = false) :
    c = ' ' ∨ c = '\t' ∨ c = '\r' ∨ c = '\n' ∨ c = '/' ∨ c = '#' := by
  have hb' : ¬c = ' ' → ¬c = '\t' → ¬c = '\r' → ¬c = '\n' → ¬c = '/' → c = '#' := by
    simpa [notBlankStart, isMultispace, or_assoc] using h
  by_cases h1 : c = ' '; · exact Or.inl h1
  by_cases h2 : c = '\t'; · exact Or.inr (Or.inl h2)
  by_cases h3 : c = '\r'; · exact Or.inr (Or.inr (Or.inl h3))
  by_cases h4 : c = '\n'; · exact Or.inr (Or.inr (Or.inr (Or.inl h4)))
  by_cases h5 : c = '/'; · exact Or.inr (Or.inr (Or.inr (Or.inr (Or.inl h5))))
  exact Or.inr (Or.inr (Or.inr (Or.inr (Or.inr (hb' h1 h2 h3 h4 h5)))))

theorem BT.head_blankStart {c : Char} {t : List Char} (h : BT (c :: t)) : notBlankStart c = false := by
  cases h with
  | ws _ _ hc _ => simp [notBlankStart, hc]
  | line | hash | block => rfl

theorem BT.hdP_append {f : Char → Bool} {b r : List Char} (hb : BT b)
    (hf : ∀ c, notBlankStart c = false → f c = true) (hr : hdP f r = true) : hdP f (b ++ r) = true := by
  cases b with
  | nil => exact hr
  | cons c t => exact hf c hb.head_blankStart

theorem blankStart_not_identChar (c : Char) (h : notBlankStart c = false) : (!isIdentChar c) = true := by
  rcases blankStart_cases h with h | h | h | h | h | h <;> subst h <;> decide

theorem identChar_NB {c : Char} (hc : isIdentChar c = true) : notBlankStart c = true := by
  cases hb : notBlankStart c with
  | true => rfl
  | false => have := blankStart_not_identChar c hb; simp [hc] at this

theorem identChar_props {c : Char} (h : isIdentChar c = true) :
    (!(c == ',' || c == ';')) = true ∧ (c != '(') = true := by
  have h1 := ne_of_class h (x := ',') (by decide)
  have h2 := ne_of_class h (x := ';') (by decide)
  have h3 := ne_of_class h (x := '(') (by decide)
  refine ⟨?_, ?_⟩
  · simp [h1, h2]
  · simp [h3]

theorem findSub_noSS : ∀ (x r : List Char), noSS x = true →
    findSub ['*', '/'] (x ++ '*' :: '/' :: r) = some (x, '*' :: '/' :: r)
  | [], r, _ => by simp [findSub, stripPrefix]
  | c :: x, r, h => by
    simp only [noSS, Bool.and_eq_true, Bool.not_eq_true'] at h
    have ih := findSub_noSS x r h.2
    have hno : (stripPrefix ['*', '/'] (c :: (x ++ '*' :: '/' :: r))).isSome = false := by
      by_cases hc : c = '*'
      · subst hc
        cases x with
        | nil => simp [stripPrefix]
        | cons e x =>
          have : e ≠ '/' := by
            have := h.1; simp [hdIs] at this; exact this
          simp [stripPrefix, Ne.symm this]
      · simp [stripPrefix, Ne.symm hc]
    simp only [List.cons_append, findSub, hno, ih]
    simp

theorem BT.dropWhile_ws {t : List Char} (h : BT t) : BT (t.dropWhile isMultispace) := by
  induction h with
  | nil => exact BT.nil
  | ws c t hc _ ih => simpa [List.dropWhile, hc] using ih
  | line x t hx ht _ => simpa [List.dropWhile, isMultispace] using BT.line x t hx ht
  | hash x t hx ht _ => simpa [List.dropWhile, isMultispace] using BT.hash x t hx ht
  | block x t hx ht _ => simpa [List.dropWhile, isMultispace] using BT.block x t hx ht

def blankRound : P (List Char) := alt [comment, multispace1]

theorem NB.notWs {r} (h : NB r) : hdP (fun c => !isMultispace c) r = true :=
  hdP_mono (by intro c hc; simp [notBlankStart] at hc; simp [hc.1]) h

theorem blankRound_err {r : List Char} (h : NB r) : blankRound r = .err :=
  First.err (p := alt [comment, multispace1]) r (hdP_mono (fun c hc => by simp [notBlankStart] at hc; simp [hc]) h)

theorem takeTill_line (x r : List Char) (hx : ∀ c ∈ x, (c != '\n') = true) :
    takeTill (fun c => c == '\n') (x ++ '\n' :: r) = .ok x ('\n' :: r) := by
  have := takeWhile_append_stop (f := fun c => !(c == '\n')) (a := x) (r := '\n' :: r)
    (by intro c hc; have := hx c hc; simpa using this) (by simp)
  simp [takeTill, takeWhile, this.1, this.2]

theorem blankRound_step {b r : List Char} (hb : BT b) (hne : b ≠ []) (hr : NB r) :
    ∃ a b', blankRound (b ++ r) = .ok a (b' ++ r) ∧ BT b' ∧ b'.length < b.length := by
  cases hb with
  | nil => exact absurd rfl hne
  | ws c t hc ht =>
    refine ⟨(c :: (t ++ r)).takeWhile isMultispace, t.dropWhile isMultispace, ?_, ht.dropWhile_ws, ?_⟩
    · have e1 : '/' ≠ c := by intro e; subst e; simp [isMultispace] at hc
      have e2 : '#' ≠ c := by intro e; subst e; simp [isMultispace] at hc
      have hd := (span_append_stop (f := isMultispace) t hr.notWs).2
      simp [blankRound, alt, comment, skip, andThen, tag, stripPrefix, e1, e2, PR.bind, multispace1, takeWhile1, hc,
        hd]
    · have := (List.dropWhile_suffix (l := t) isMultispace).length_le
      simp; omega
  | line x t hx ht | hash x t hx ht =>
    refine ⟨x, '\n' :: t, ?_, BT.ws '\n' t (by decide) ht, by simp; omega⟩
    simp [blankRound, alt, comment, skip, andThen, tag, stripPrefix, PR.bind, takeTill_line x (t ++ r) hx]
  | block x t hx ht =>
    refine ⟨x, t, ?_, ht, by simp; omega⟩
    have := findSub_noSS x (t ++ r) hx
    simp [blankRound, alt, comment, skip, andThen, terminated, pmap, PR.map, tag, stripPrefix, PR.bind, takeUntil, this]

theorem many0F_blankRound : ∀ (n : Nat) (b r : List Char), BT b → NB r → b.length + r.length < n →
    ∃ xs, many0F blankRound n (b ++ r) = .ok xs r
  | 0, _, _, _, _, h => by omega
  | n + 1, b, r, hb, hr, hn => by
    by_cases hne : b = []
    · subst hne; exact ⟨[], by simp [many0F, blankRound_err hr]⟩
    · obtain ⟨a, b', e, hb', hl⟩ := blankRound_step hb hne hr
      obtain ⟨xs, ih⟩ := many0F_blankRound n b' r hb' hr (by omega)
      refine ⟨a :: xs, ?_⟩
      have hlen : ¬ (b' ++ r).length = (b ++ r).length := by simp; omega
      simp only [many0F, e]
      rw [if_neg hlen, ih]; rfl

/-- `blank` consumes any non-empty rendered blank, however its pieces were laid out, provided what follows does not
itself start a blank (`C15.blank_any` is the case of `blankText`). -/
theorem blank_rt {b r : List Char} (hb : BT b) (hne : b ≠ []) (hr : NB r) : blank (b ++ r) = .ok () r := by
  obtain ⟨a, b', e, hb', _⟩ := blankRound_step hb hne hr
  obtain ⟨xs, h⟩ := many0F_blankRound ((b' ++ r).length + 1) b' r hb' hr (by simp)
  have e' : alt [comment, multispace1] (b ++ r) = .ok a (b' ++ r) := e
  have h' : many0F (alt [comment, multispace1]) ((b' ++ r).length + 1) (b' ++ r) = .ok xs r := h
  unfold blank pmap many1
  simp only [e', PR.bind, h']
  rfl

theorem blank_err {r : List Char} (hr : NB r) : blank r = .err := by
  have e : alt [comment, multispace1] r = .err := blankRound_err hr
  simp [blank, pmap, many1, e, PR.map, PR.bind]

/-- value of `opt(blank)` on a rendered optional blank -/
def optUnit (b : List Char) : Option Unit := if b = [] then none else some ()

theorem optBlank_rt {b r : List Char} (hb : BT b) (hr : NB r) : opt blank (b ++ r) = .ok (optUnit b) r := by
  by_cases hne : b = []
  · subst hne; simp [opt, blank_err hr, optUnit]
  · simp [opt, blank_rt hb hne hr, optUnit, hne]

theorem andThen_optBlank {α} {f : Option Unit → P α} {b r : List Char} (hb : BT b) (hr : NB r) :
    andThen (opt blank) f (b ++ r) = f (optUnit b) r := by
  simp [andThen, optBlank_rt hb hr, PR.bind]

theorem andThen_blank {α} {f : Unit → P α} {b r : List Char} (hb : BT b) (hne : b ≠ []) (hr : NB r) :
    andThen blank f (b ++ r) = f () r := by
  simp [andThen, blank_rt hb hne hr, PR.bind]

theorem identOk_cons {i : Ident} (h : identOk i = true) :
    ∃ c cs, i = c :: cs ∧ isIdentStart c = true ∧ ∀ x ∈ cs, isIdentChar x = true := by
  cases i with
  | nil => simp [identOk] at h
  | cons c cs =>
    simp only [identOk, Bool.and_eq_true, List.all_eq_true] at h
    exact ⟨c, cs, rfl, h.1, h.2⟩

theorem isIdentStart_identChar {c : Char} (h : isIdentStart c = true) : isIdentChar c = true := by
  simp only [isIdentStart, isIdentChar, Char.isAlphanum, Bool.or_eq_true] at *
  rcases h with h | h
  · exact Or.inl (Or.inl h)
  · exact Or.inr h

theorem identOk_all {i : Ident} (h : identOk i = true) : ∀ x ∈ i, isIdentChar x = true := by
  obtain ⟨c, cs, rfl, h1, h2⟩ := identOk_cons h
  intro x hx
  rcases List.mem_cons.mp hx with rfl | hx
  · exact isIdentStart_identChar h1
  · exact h2 x hx

theorem ident_ne_nil {i : Ident} (h : identOk i = true) : i ≠ [] := by
  obtain ⟨c, cs, rfl, _, _⟩ := identOk_cons h; simp

theorem word_rt {start f : Char → Bool} {c : Char} {cs r : List Char} (hc : start c = true) (hcs : ∀ x ∈ cs, f x = true)
    (hr : hdP (fun c => !f c) r = true) :
    recognize (andThen (satisfy start) fun _ => takeWhile f) (c :: cs ++ r) = .ok (c :: cs) r := by
  have := takeWhile_append_stop (f := f) (a := cs) (r := r) hcs hr
  simp only [recognize, andThen, satisfy, List.cons_append, hc, if_true, PR.bind, takeWhile, this.1, this.2]
  congr 1
  have := take_append_length_sub (c :: cs) r
  simpa using this

theorem ident_rt {i r : List Char} (hi : identOk i = true) (hr : hdP (fun c => !isIdentChar c) r = true) :
    Ident.parse (i ++ r) = .ok i r := by
  obtain ⟨c, cs, rfl, h1, h2⟩ := identOk_cons hi
  exact word_rt h1 h2 hr

theorem annKey_rt {k r : List Char} (hk : annKeyOk k = true)
    (hr : hdP (fun c => !(isIdentChar c || c == '.')) r = true) : annKey (k ++ r) = .ok k r := by
  cases k with
  | nil => simp [annKeyOk] at hk
  | cons c cs =>
    simp only [annKeyOk, Bool.and_eq_true, List.all_eq_true] at hk
    exact word_rt hk.1 hk.2 hr

theorem boundary_ok {r : List Char} (hr : hdP (fun c => !(isAlnumU c || c == '_')) r = true) :
    peek (pnot alnumOrUnderscore) r = .ok () r := by
  cases r with
  | nil => rfl
  | cons c r =>
    simp only [hdP_cons, Bool.not_eq_true'] at hr
    simp [peek, pnot, alnumOrUnderscore, satisfy, hr, PR.bind]

theorem boundary_err {c : Char} {r : List Char} (hc : isIdentChar c = true) :
    peek (pnot alnumOrUnderscore) (c :: r) = .err := by
  have : (isAlnumU c || c == '_') = true := by
    simp only [isIdentChar, Bool.or_eq_true] at hc ⊢
    rcases hc with hc | hc
    · left
      have hlt : c.toNat < 128 := by
        simp only [Char.isAlphanum, Char.isAlpha, Char.isUpper, Char.isLower, Char.isDigit, Bool.or_eq_true,
          Bool.and_eq_true, decide_eq_true_eq] at hc
        have : c.val.toNat = c.toNat := rfl
        rcases hc with (⟨_, h⟩ | ⟨_, h⟩) | ⟨_, h⟩ <;>
          (have := UInt32.le_iff_toNat_le.mp h; simp at this; omega)
      simp [isAlnumU, hlt, hc]
    · right; exact hc
  simp [peek, pnot, alnumOrUnderscore, satisfy, this, PR.bind]

theorem keyword_rt {α} {t : List Char} {v : α} {r : List Char} (hr : Sep r) :
    keyword t v (t ++ r) = .ok v r := by
  simp [keyword, andThen, PR.bind, boundary_ok hr.noAlnumU, ret]

theorem prefix_of_word : ∀ (kw i r r' : List Char), (∀ c ∈ kw, isIdentChar c = true) →
    hdP (fun c => !isIdentChar c) r = true → i ++ r = kw ++ r' → ∃ m, i = kw ++ m ∧ r' = m ++ r
  | [], i, r, r', _, _, h => ⟨i, rfl, by simpa using h.symm⟩
  | k :: kw, [], r, r', hk, hr, h => by
    simp only [List.nil_append, List.cons_append] at h
    subst h
    have := hk k (by simp)
    simp [this] at hr
  | k :: kw, c :: i, r, r', hk, hr, h => by
    simp only [List.cons_append, List.cons.injEq] at h
    obtain ⟨rfl, h⟩ := h
    obtain ⟨m, rfl, rfl⟩ := prefix_of_word kw i r r' (fun x hx => hk x (by simp [hx])) hr h
    exact ⟨m, rfl, rfl⟩

theorem tag_word {kw i r : List Char} (hk : ∀ c ∈ kw, isIdentChar c = true)
    (hr : hdP (fun c => !isIdentChar c) r = true) :
    tag kw (i ++ r) = .err ∨ ∃ m, i = kw ++ m ∧ tag kw (i ++ r) = .ok kw (m ++ r) := by
  unfold tag
  cases h : stripPrefix kw (i ++ r) with
  | none => exact Or.inl rfl
  | some r' =>
    obtain ⟨m, e1, e2⟩ := prefix_of_word kw i r r' hk hr (stripPrefix_eq h)
    exact Or.inr ⟨m, e1, by simp [e2]⟩

/-- a word that is not exactly `kw` is not read by an arm `tag(kw), k`, provided `k` fails on a word character: either
`tag` fails, or the word merely begins with `kw` (`trueValue`, `i32x`, `optionalFoo`) and `k` meets its next character -/
theorem wordArm_err {β} {kw : List Char} {k : P β} {s r : List Char} (hk : ∀ c ∈ kw, isIdentChar c = true)
    (hs : ∀ c ∈ s, isIdentChar c = true) (hr : hdP (fun c => !isIdentChar c) r = true) (hne : s ≠ kw)
    (hfail : ∀ c x, isIdentChar c = true → k (c :: x) = .err) :
    andThen (tag kw) (fun _ => k) (s ++ r) = .err := by
  rcases tag_word (kw := kw) (i := s) hk hr with h | ⟨m, e, h⟩
  · exact andThen_of_err h
  · rw [andThen_of_ok h]
    cases m with
    | nil => simp at e; exact absurd e hne
    | cons c m => exact hfail c _ (hs c (by simp [e]))

theorem keyword_word_err {α} {kw : List Char} {v : α} {i r : List Char} (hk : ∀ c ∈ kw, isIdentChar c = true)
    (hi : ∀ c ∈ i, isIdentChar c = true) (hr : hdP (fun c => !isIdentChar c) r = true) (hne : i ≠ kw) :
    keyword kw v (i ++ r) = .err :=
  wordArm_err hk hi hr hne fun _ _ hc => andThen_of_err (boundary_err hc)

/-- `t1` is what `escaped` has consumed so far, `t2` what is left before the closing quote; the side
condition `t1 ≠ [] ∨ t2 ≠ []` mirrors nom's `index == 0` error for an empty match -/
theorem escapedF_lit {normal esc : P Char} {q : Char} (hq : q ≠ '\\')
    (hn_ok : ∀ c r, c ≠ '\\' → c ≠ q → normal (c :: r) = .ok c r)
    (hn_err : ∀ c r, (c = '\\' ∨ c = q) → normal (c :: r) = .err)
    (he : ∀ e r, isEscapable e = true → esc (e :: r) = .ok e r) :
    ∀ (n : Nat) (t1 t2 r : List Char), litOk q t2 = true →
    (t1 ≠ [] ∨ t2 ≠ []) → t2.length + 1 + r.length < n →
    escapedF normal '\\' esc (t1 ++ (t2 ++ q :: r)) n (t2 ++ q :: r) = .ok (t1 ++ t2) (q :: r)
  | 0, _, _, _, _, _, h => by omega
  | n + 1, t1, t2, r, hl, hne, hn => by
    cases t2 with
    | nil =>
      have h1 : t1 ≠ [] := by rcases hne with h | h; exact h; exact absurd rfl h
      have hlen : ¬ (q :: r).length = (t1 ++ (q :: r)).length := by
        cases t1 with
        | nil => exact absurd rfl h1
        | cons a t1 => simp; omega
      have hq' : ¬ q = '\\' := hq
      have e0 : ¬ (q :: r).length = 0 := by simp
      simp only [List.nil_append, escapedF]
      rw [if_neg e0, hn_err q r (Or.inr rfl)]
      simp only
      rw [if_neg hq', if_neg hlen]
      simp
    | cons c t2 =>
      have e0 : ¬ (c :: t2 ++ q :: r).length = 0 := by simp
      by_cases hc : c = '\\'
      · subst hc
        cases t2 with
        | nil => simp [litOk] at hl
        | cons e t2 =>
          simp only [litOk, if_true, Bool.and_eq_true] at hl
          have ih := escapedF_lit hq hn_ok hn_err he n (t1 ++ ['\\', e]) t2 r hl.2 (Or.inl (by simp))
            (by simp at hn; omega)
          simp only [List.append_assoc, List.cons_append, List.nil_append] at ih
          have e1 : ¬ (e :: t2 ++ q :: r).length = 0 := by simp
          have e2 : ¬ (t2 ++ q :: r).length = 0 := by simp
          simp only [escapedF]
          rw [if_neg e0]
          simp only [List.cons_append] at e1 ⊢
          rw [hn_err '\\' _ (Or.inl rfl)]
          simp only [if_true]
          rw [if_neg e1, he e _ hl.1]
          simp only [PR.bind]
          rw [if_neg e2, ih]
      · unfold litOk at hl
        rw [if_neg hc] at hl
        simp only [Bool.and_eq_true, bne_iff_ne, ne_eq] at hl
        have ih := escapedF_lit hq hn_ok hn_err he n (t1 ++ [c]) t2 r hl.2 (Or.inl (by simp)) (by simp at hn; omega)
        simp only [List.append_assoc, List.cons_append, List.nil_append] at ih
        have e2 : ¬ (t2 ++ q :: r).length = 0 := by simp
        have e3 : ¬ (t2 ++ q :: r).length = (c :: (t2 ++ q :: r)).length := by simp
        simp only [escapedF]
        rw [if_neg e0]
        simp only [List.cons_append]
        rw [hn_ok c _ hc hl.1]
        simp only
        rw [if_neg e2, if_neg e3, ih]

theorem noneOf_ok {q c : Char} {r : List Char} (h1 : c ≠ '\\') (h2 : c ≠ q) : noneOf ['\\', q] (c :: r) = .ok c r := by
  simp [noneOf, satisfy, h1, h2]
theorem noneOf_err {q c : Char} {r : List Char} (h : c = '\\' ∨ c = q) : noneOf ['\\', q] (c :: r) = .err := by
  rcases h with h | h <;> simp [noneOf, satisfy, h]
theorem oneOf_esc {e : Char} {r : List Char} (h : isEscapable e = true) :
    oneOf ['\'', '"', 'n', '\\'] (e :: r) = .ok e r := by
  simp only [isEscapable, Bool.or_eq_true, beq_iff_eq] at h
  rcases h with ((h | h) | h) | h <;> subst h <;> simp [oneOf, satisfy]

theorem quoted_rt {q : Char} (hq : q ≠ '\\') {t r : List Char} (hl : litOk q t = true) :
    quoted q (q :: (t ++ q :: r)) = .ok t r := by
  cases t with
  | nil =>
    have hq' : ¬ q = '\\' := hq
    have e0 : ¬ (q :: r).length = 0 := by simp
    have he : escaped (noneOf ['\\', q]) '\\' (oneOf ['\'', '"', 'n', '\\']) (q :: r) = .err := by
      simp only [escaped, escapedF]
      rw [if_neg e0, noneOf_err (Or.inr rfl)]
      simp only
      rw [if_neg hq']
      simp
    have hnil : tag [] (q :: r) = .ok [] (q :: r) := rfl
    simp only [quoted, andThen, List.nil_append, tag1, PR.bind, terminated, alt, he, hnil, pmap, PR.map]
  | cons c t =>
    have := escapedF_lit hq (fun c r => noneOf_ok) (fun c r => noneOf_err) (fun e r => oneOf_esc)
      ((c :: t ++ q :: r).length + 1) [] (c :: t) r hl (Or.inr (by simp)) (by simp; omega)
    simp only [List.nil_append] at this
    have he : escaped (noneOf ['\\', q]) '\\' (oneOf ['\'', '"', 'n', '\\']) (c :: t ++ q :: r) = .ok (c :: t) (q :: r) := this
    simp only [quoted, andThen, tag1, PR.bind, terminated, alt, he, pmap, PR.map]

theorem literal_rt_single {t r : List Char} (hl : litOk '\'' t = true) :
    Literal.parse ('\'' :: (t ++ '\'' :: r)) = .ok t r := by
  simp [Literal.parse, alt, quoted_rt (q := '\'') (by decide) hl]

theorem literal_rt_double {t r : List Char} (hl : litOk '"' t = true) :
    Literal.parse ('"' :: (t ++ '"' :: r)) = .ok t r := by
  have : quoted '\'' ('"' :: (t ++ '"' :: r)) = .err := by
    simp [quoted, andThen, tag, stripPrefix, PR.bind]
  simp [Literal.parse, alt, this, quoted_rt (q := '"') (by decide) hl]

theorem quoteFor_spec (flag : Bool) {t : List Char} (h : literalOk t = true) :
    (quoteFor flag t = '\'' ∨ quoteFor flag t = '"') ∧ litOk (quoteFor flag t) t = true := by
  simp only [literalOk, Bool.or_eq_true] at h
  unfold quoteFor
  cases flag <;> simp only [Bool.false_eq_true, if_false, if_true]
  · by_cases h1 : litOk '\'' t = true
    · simp [h1]
    · rcases h with h | h
      · exact absurd h h1
      · simp [h1, h]
  · by_cases h1 : litOk '"' t = true
    · simp [h1]
    · rcases h with h | h
      · simp [h1, h]
      · exact absurd h h1

theorem literal_rt (flag : Bool) {t r : List Char} (h : literalOk t = true) :
    Literal.parse (quoteFor flag t :: (t ++ quoteFor flag t :: r)) = .ok t r := by
  obtain ⟨hq, hl⟩ := quoteFor_spec flag h
  rcases hq with e | e <;> rw [e] at hl ⊢
  · exact literal_rt_single hl
  · exact literal_rt_double hl

theorem digitChar_spec : ∀ m, m < 10 → isDecDigit (Char.ofNat (48 + m)) = true ∧ digitVal (Char.ofNat (48 + m)) = m := by
  decide

theorem digitChar_digit (n : Nat) : isDecDigit (digitChar n) = true :=
  (digitChar_spec (n % 10) (Nat.mod_lt _ (by decide))).1
theorem digitChar_val (n : Nat) : digitVal (digitChar n) = n % 10 :=
  (digitChar_spec (n % 10) (Nat.mod_lt _ (by decide))).2

theorem decVal_snoc (a : List Char) (c : Char) : decVal (a ++ [c]) = decVal a * 10 + digitVal c := by
  simp [decVal, List.foldl_append]

theorem decDigitsGo_spec (n : Nat) : ∀ f, n < f → ∀ acc, ∃ ds, decDigitsGo f n acc = ds ++ acc ∧ ds ≠ [] ∧
    (∀ c ∈ ds, isDecDigit c = true) ∧ decVal ds = n := by
  induction n using Nat.strongRecOn with
  | _ n ih =>
    intro f hf acc
    obtain ⟨f, rfl⟩ : ∃ f', f = f' + 1 := ⟨f - 1, by omega⟩
    by_cases h : n < 10
    · refine ⟨[digitChar n], by simp [decDigitsGo, h], by simp, fun c hc => ?_, ?_⟩
      · rw [List.mem_singleton.mp hc]; exact digitChar_digit n
      · simp [decVal, digitChar_val, Nat.mod_eq_of_lt h]
    · obtain ⟨ds, e, _, h2, h3⟩ := ih (n / 10) (Nat.div_lt_self (by omega) (by decide)) f (by omega) (digitChar (n % 10) :: acc)
      refine ⟨ds ++ [digitChar (n % 10)], by simp [decDigitsGo, h, e], by simp, fun c hc => ?_, ?_⟩
      · rcases List.mem_append.mp hc with hc | hc
        · exact h2 c hc
        · rw [List.mem_singleton.mp hc]; exact digitChar_digit _
      · rw [decVal_snoc, h3, digitChar_val, Nat.mod_mod]; omega

theorem decDigits_spec (n : Nat) : decDigits n ≠ [] ∧ (∀ c ∈ decDigits n, isDecDigit c = true) ∧ decVal (decDigits n) = n := by
  obtain ⟨ds, e, h⟩ := decDigitsGo_spec n (n + 1) (Nat.lt_succ_self n) []
  rw [decDigits, e, List.append_nil]; exact h

theorem digit1_rt {ds r : List Char} (hne : ds ≠ []) (hd : ∀ c ∈ ds, isDecDigit c = true)
    (hr : hdP (fun c => !isDecDigit c) r = true) : digit1 (ds ++ r) = .ok ds r := by
  cases ds with
  | nil => exact absurd rfl hne
  | cons c cs =>
    have := takeWhile_append_stop hd hr
    simp only [List.cons_append] at this
    simp [digit1, takeWhile1, hd c (by simp), this.1, this.2]

theorem digits_no_0x {ds r : List Char} (hd : ∀ c ∈ ds, isDecDigit c = true) (hne : ds ≠ []) (hr : Sep r) :
    tag ['0', 'x'] (ds ++ r) = .err := by
  cases ds with
  | nil => exact absurd rfl hne
  | cons c cs =>
    by_cases hc : '0' = c
    · subst hc
      cases cs with
      | nil =>
        cases r with
        | nil => rfl
        | cons e r =>
          have : 'x' ≠ e := by intro h; subst h; simp [Sep, isSepChar] at hr
          simp [tag, stripPrefix, this]
      | cons e cs =>
        have : 'x' ≠ e := by intro h; subst h; have := hd 'x' (by simp); simp [isDecDigit] at this
        simp [tag, stripPrefix, this]
    · simp [tag, stripPrefix, hc]

theorem digits_no_minus {ds r : List Char} (hd : ∀ c ∈ ds, isDecDigit c = true) (hne : ds ≠ []) :
    tag ['-'] (ds ++ r) = .err := by
  cases ds with
  | nil => exact absurd rfl hne
  | cons c cs =>
    have : '-' ≠ c := by intro h; subst h; have := hd '-' (by simp); simp [isDecDigit] at this
    simp [tag, stripPrefix, this]

theorem unsigned_rt {m : Nat} {r : List Char} (hm : (m : Int) ≤ i64Max) (hr : Sep r) :
    IntConstant.unsigned (decDigits m ++ r) = .ok (m : Int) r := by
  obtain ⟨h1, h2, h3⟩ := decDigits_spec m
  have e2 := digits_no_0x h2 h1 hr
  have e3 := digit1_rt h1 h2 hr.noDigit
  simp [IntConstant.unsigned, alt, skip, andThen, e2, PR.bind, mapRes, e3, parseI64Dec, h3, hm]

theorem intConstant_rt {n : Int} {r : List Char} (hn : intOk n = true) (hr : Sep r) :
    IntConstant.parse (intText n ++ r) = .ok n r := by
  simp only [intOk, Bool.and_eq_true, decide_eq_true_eq] at hn
  unfold intText
  by_cases hneg : n < 0
  · have hm : ((-n).toNat : Int) ≤ i64Max := by unfold i64Max at *; omega
    have h1 := unsigned_rt hm hr
    have hv : ¬ ((-n).toNat : Int) = i64Min := by unfold i64Min; omega
    have hback : -((-n).toNat : Int) = n := by omega
    simp only [hneg, if_true, List.cons_append]
    unfold IntConstant.parse
    simp only [alt, skip, andThen, tag1, PR.bind, pmapChecked, h1, negI64, hv, if_false, hback]
  · have hm : (n.toNat : Int) ≤ i64Max := by omega
    have h1 := unsigned_rt hm hr
    have hback : (n.toNat : Int) = n := by omega
    obtain ⟨d1, d2, _⟩ := decDigits_spec n.toNat
    have e1 := digits_no_minus (r := r) d2 d1
    simp only [hneg, if_false]
    unfold IntConstant.parse
    simp only [alt, skip, andThen, e1, PR.bind, h1, hback]

theorem fieldId_digits {id : Int} (h0 : 0 ≤ id) (h1 : id ≤ i32Max) :
    parseI32Dec (decDigits id.toNat) = some id := by
  obtain ⟨_, _, h3⟩ := decDigits_spec id.toNat
  have : (id.toNat : Int) = id := by omega
  simp [parseI32Dec, h3, this, h1]

end Pilota.Idl
