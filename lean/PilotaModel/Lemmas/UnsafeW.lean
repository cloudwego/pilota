import PilotaModel.Lemmas.LenSim
import PilotaModel.Thrift.Unsafe
/-  The unchecked writers stay inside their window and write what the checked writer writes. -/
namespace Pilota.Thrift.Unsafe
open Pilota Pilota.Thrift

/-- the window `w'` is `w` moved on by `out`; nothing at or above the new index changed. -/
structure Ext (w w' : Win) (out : Bytes) : Prop where
  idx : w'.idx = w.idx + out.length
  len : w'.mem.length = w.mem.length
  wr : w'.mem.take w'.idx = w.mem.take w.idx ++ out
  tail : w'.mem.drop w'.idx = w.mem.drop w'.idx

theorem Ext.refl (w : Win) : Ext w w [] := ⟨rfl, rfl, (List.append_nil _).symm, rfl⟩

theorem Ext.trans {w w' w'' : Win} {a b : Bytes} (h1 : Ext w w' a) (h2 : Ext w' w'' b) : Ext w w'' (a ++ b) := by
  refine ⟨by rw [h2.idx, h1.idx, List.length_append, Nat.add_assoc], by rw [h2.len, h1.len],
    by rw [h2.wr, h1.wr, List.append_assoc], ?_⟩
  rw [h2.tail, h2.idx, ← List.drop_drop, h1.tail, List.drop_drop]

theorem poke_ok (mem : Bytes) (pos : Nat) (bs : Bytes) (h : pos + bs.length ≤ mem.length) :
    ∃ m, poke mem pos bs = .ok m ∧ m.length = mem.length ∧
      m.take (pos + bs.length) = mem.take pos ++ bs ∧ m.drop (pos + bs.length) = mem.drop (pos + bs.length) := by
  have hp : (mem.take pos).length = pos := by
    rw [List.length_take]; exact Nat.min_eq_left (Nat.le_trans (Nat.le_add_right _ _) h)
  have hl : (mem.take pos ++ bs).length = pos + bs.length := by rw [List.length_append, hp]
  refine ⟨mem.take pos ++ bs ++ mem.drop (pos + bs.length), by rw [poke, if_pos h], ?_, ?_, ?_⟩
  · rw [List.length_append, hl, List.length_drop]; omega
  · rw [← hl]; exact List.take_left' rfl
  · rw [← hl]; exact List.drop_left' rfl

theorem put_ok (w : Win) (bs : Bytes) (h : w.idx + bs.length ≤ w.cap) :
    ∃ w', put w bs = .ok w' ∧ Ext w w' bs := by
  obtain ⟨m, hm, hl, ht, hd⟩ := poke_ok w.mem w.idx bs h
  exact ⟨{ mem := m, idx := w.idx + bs.length }, by rw [put, hm], ⟨rfl, hl, ht, hd⟩⟩

theorem put_oob (w : Win) (bs : Bytes) (h : w.cap < w.idx + bs.length) : put w bs = .panic "oob" := by
  rw [put, poke, if_neg (show ¬ w.idx + bs.length ≤ w.mem.length from Nat.not_le_of_gt h)]

theorem putAll_ok (cs : List Bytes) (w : Win) (h : w.idx + (cs.map List.length).sum ≤ w.cap) :
    ∃ w', putAll w cs = .ok w' ∧ Ext w w' cs.flatten := by
  induction cs generalizing w with
  | nil => exact ⟨w, rfl, Ext.refl w⟩
  | cons c cs ih =>
    rw [List.map_cons, List.sum_cons, ← Nat.add_assoc] at h
    obtain ⟨w1, h1, e1⟩ := put_ok w c (Nat.le_of_add_right_le h)
    obtain ⟨w2, h2, e2⟩ := ih w1 (by rw [e1.idx]; exact Nat.le_trans h (Nat.le_of_eq e1.len.symm))
    exact ⟨w2, by rw [putAll, h1]; exact h2, e1.trans e2⟩

theorem be_length (w : Nat) (n : Int) : (be w n).length = w := encFixed_length .be w _

theorem fieldBegin_ok (w : Win) (t : TType) (id : Int) (h : w.idx + 3 ≤ w.cap) :
    ∃ w', fieldBegin w t id = .ok w' ∧ Ext w w' (UInt8.ofNat t.toByte :: be 2 id) := by
  have hb : (be 2 id).length = 2 := be_length 2 id
  obtain ⟨m1, hm1, hl1, (ht1 : m1.take (w.idx + 1) = _), (hd1 : m1.drop (w.idx + 1) = w.mem.drop (w.idx + 1))⟩ :=
    poke_ok w.mem w.idx [UInt8.ofNat t.toByte] (Nat.le_trans (Nat.add_le_add_left (show 1 ≤ 3 by decide) w.idx) h)
  obtain ⟨m2, hm2, hl2, ht2, hd2⟩ := poke_ok m1 (w.idx + 1) (be 2 id) (by rw [hb, hl1]; exact h)
  rw [hb] at ht2 hd2
  refine ⟨{ mem := m2, idx := w.idx + 3 }, by rw [fieldBegin, hm1]; dsimp only; rw [hm2], ⟨?_, by rw [hl2, hl1], ?_, ?_⟩⟩
  · rw [List.length_cons, hb]
  · show m2.take (w.idx + 1 + 2) = _
    rw [ht2]; exact congrArg (· ++ be 2 id) ht1 |>.trans (List.append_assoc ..)
  · show m2.drop (w.idx + 1 + 2) = w.mem.drop (w.idx + 1 + 2)
    rw [hd2, ← List.drop_drop, hd1, List.drop_drop]

theorem chunks_flatten (o : Op) : (chunks o).flatten = Binary.wOp .be o := by
  cases o <;> simp [chunks, Binary.wOp, be]

theorem chunks_sum (o : Op) (hwf : o.wf = true) : ((chunks o).map List.length).sum = Len.binOp o := by
  rw [← List.length_flatten, chunks_flatten, Len.binOp_eq_wOp_length .be o hwf]

/-- every call but `write_field_begin`: its chunks, one after the other. -/
theorem putChunks_ok (w : Win) (o : Op) (hwf : o.wf = true) (h : w.idx + Len.binOp o ≤ w.cap) :
    ∃ w', putAll w (chunks o) = .ok w' ∧ Ext w w' (Binary.wOp .be o) := by
  rw [← chunks_flatten]; exact putAll_ok _ w (by rw [chunks_sum o hwf]; exact h)

theorem uwOp_ok (w : Win) (o : Op) (hwf : o.wf = true) (h : w.idx + Len.binOp o ≤ w.cap) :
    ∃ w', uwOp w o = .ok w' ∧ Ext w w' (Binary.wOp .be o) := by
  cases o with
  | fieldBegin t id => exact fieldBegin_ok w t id h
  | _ => exact putChunks_ok w _ hwf h

theorem uwRun_ok (ops : List Op) (hwf : ∀ o ∈ ops, o.wf = true) (w : Win) (h : w.idx + Len.binLen ops ≤ w.cap) :
    ∃ w', uwRun w ops = .ok w' ∧ Ext w w' (Binary.run .be ops) := by
  induction ops generalizing w with
  | nil => exact ⟨w, rfl, Ext.refl w⟩
  | cons o os ih =>
    rw [Len.binLen, List.map_cons, List.sum_cons, ← Nat.add_assoc] at h
    have ho := hwf o List.mem_cons_self
    obtain ⟨w1, h1, e1⟩ := uwOp_ok w o ho (Nat.le_of_add_right_le h)
    obtain ⟨w2, h2, e2⟩ := ih (fun o ho => hwf o (List.mem_cons_of_mem _ ho)) w1 (by
      rw [e1.idx, ← Len.binOp_eq_wOp_length .be o ho]; exact Nat.le_trans h (Nat.le_of_eq e1.len.symm))
    exact ⟨w2, by rw [uwRun, h1]; exact h2, e1.trans e2⟩

def LW.inv (s : LW) : Prop := s.win.cap ≤ s.spare

def LW.avail (s : LW) : Nat := s.win.cap - s.win.idx

theorem LW.room {s : LW} (hx : s.win.idx ≤ s.win.cap) {n : Nat} (h : n ≤ s.avail) : s.win.idx + n ≤ s.win.cap :=
  Nat.add_le_of_le_sub' hx h

theorem resize_length (mem : Bytes) (n : Nat) : (resize mem n).length = n := by
  simp [resize]; omega

/-- what one step of the LinkedBytes-backed writer guarantees; `copied` bounds the room it takes in the window
(zero-copied payloads take none), `z` is the growth of `zero_copy_len`. -/
structure LStep (s s' : LW) (out : Bytes) (copied z : Nat) : Prop where
  out : s'.out = s.out ++ out
  inv : s'.inv
  ok : s'.win.idx ≤ s'.win.cap
  avail : s.avail ≤ s'.avail + copied
  zlen : s'.zlen = s.zlen + z

theorem LStep.refl (s : LW) (hi : s.inv) (hx : s.win.idx ≤ s.win.cap) : LStep s s [] 0 0 :=
  ⟨(List.append_nil _).symm, hi, hx, Nat.le_refl _, rfl⟩

theorem LStep.trans {s s' s'' : LW} {a b : Bytes} {c1 c2 z1 z2 : Nat}
    (h1 : LStep s s' a c1 z1) (h2 : LStep s' s'' b c2 z2) : LStep s s'' (a ++ b) (c1 + c2) (z1 + z2) :=
  ⟨by rw [h2.out, h1.out, List.append_assoc], h2.inv, h2.ok,
   Nat.le_trans h1.avail (by rw [Nat.add_comm c1, ← Nat.add_assoc]; exact Nat.add_le_add_right h2.avail c1),
   by rw [h2.zlen, h1.zlen, Nat.add_assoc]⟩

theorem setWin_step (s : LW) (hi : s.inv) (w' : Win) (out : Bytes) (e : Ext s.win w' out)
    (hroom : s.win.idx + out.length ≤ s.win.cap) (z : Nat) :
    LStep s { s with win := w', zlen := s.zlen + z } out out.length z := by
  refine ⟨?_, ?_, ?_, ?_, rfl⟩
  · simp only [LW.out, Win.written, e.wr, List.append_assoc]
  · simp only [LW.inv, Win.cap, e.len]; exact hi
  · simp only [Win.cap, e.len, e.idx]; exact hroom
  · simp only [LW.avail, Win.cap, e.len, e.idx]; omega

/-- `advance_mut(index)`: the copied bytes join the current buffer, the window starts again at 0. -/
theorem adv_step (s : LW) (hi : s.inv) (hx : s.win.idx ≤ s.win.cap) :
    ∃ s', advanceMut s s.win.idx = .ok s' ∧ LStep s s' [] 0 0 ∧ s'.win.idx = 0 := by
  unfold LW.inv at hi
  unfold Win.cap at hi hx
  have hinv : (s.win.mem.drop s.win.idx).length ≤ s.spare - s.win.idx := by
    rw [List.length_drop]; exact Nat.sub_le_sub_right hi _
  refine ⟨{ s with cur := s.cur ++ s.win.mem.take s.win.idx, spare := s.spare - s.win.idx,
                    win := { mem := s.win.mem.drop s.win.idx, idx := s.win.idx - s.win.idx } },
    by rw [advanceMut, if_neg (Nat.not_lt.mpr (Nat.le_trans hx hi)), if_neg (Nat.not_lt.mpr hx), if_neg (Nat.lt_irrefl _)],
    ⟨?_, hinv, ?_, ?_, rfl⟩, Nat.sub_self _⟩
  · simp only [LW.out, Win.written, Nat.sub_self, List.take_zero, List.append_nil, List.append_assoc]
  · simp only [Nat.sub_self]; exact Nat.zero_le _
  · simp only [LW.avail, Win.cap, List.length_drop, Nat.sub_self, Nat.sub_zero, Nat.add_zero, Nat.le_refl]

theorem insertZc_step (s : LW) (hi : s.inv) (h0 : s.win.idx = 0) (payload : Bytes) :
    LStep s (insertZc s payload) payload 0 0 := by
  refine ⟨?_, ?_, ?_, ?_, rfl⟩
  · simp [insertZc, LW.out, Win.written, h0]
  · simp only [insertZc, LW.inv, Win.cap, resize_length, Nat.le_refl]
  · simp only [insertZc, h0]; exact Nat.zero_le _
  · simp only [insertZc, LW.avail, Win.cap, resize_length, h0, Nat.sub_zero, Nat.add_zero]; exact hi

theorem put_step (s : LW) (hi : s.inv) (hx : s.win.idx ≤ s.win.cap) (bs : Bytes) (h : bs.length ≤ s.avail) :
    ∃ s', liftW s (put s.win bs) = .ok s' ∧ LStep s s' bs bs.length 0 := by
  obtain ⟨w, hw, e⟩ := put_ok s.win bs (LW.room hx h)
  exact ⟨{ s with win := w }, by rw [hw]; rfl, setWin_step s hi w _ e (LW.room hx h) 0⟩

theorem strWrite_ok (takes : Bool) (s : LW) (bs : Bytes) (hi : s.inv) (hx : s.win.idx ≤ s.win.cap)
    (h : (if takes then 4 else 4 + bs.length) ≤ s.avail) :
    ∃ s', strWrite takes s bs = .ok s' ∧
      LStep s s' (be 4 (toS 4 bs.length) ++ bs) (if takes then 4 else 4 + bs.length) (if takes then bs.length else 0) := by
  have hpre : (be 4 (toS 4 bs.length)).length = 4 := be_length _ _
  cases takes with
  | true =>
    have h4 : s.win.idx + (be 4 (toS 4 bs.length)).length ≤ s.win.cap := by rw [hpre]; exact LW.room hx h
    obtain ⟨w, hw, e⟩ := put_ok s.win _ h4
    have st1 := setWin_step s hi w _ e h4 bs.length
    obtain ⟨s2, h2, st2, h20⟩ := adv_step { s with win := w, zlen := s.zlen + bs.length } st1.inv st1.ok
    refine ⟨insertZc s2 bs, by rw [strWrite, hw]; dsimp only; rw [if_pos rfl, h2], ?_⟩
    have := (st1.trans st2).trans (insertZc_step s2 st2.inv h20 bs)
    simp only [hpre, List.append_nil, Nat.add_zero] at this
    exact this
  | false =>
    have h4 : s.win.idx + (be 4 (toS 4 bs.length)).length ≤ s.win.cap := by
      rw [hpre]; exact Nat.le_trans (Nat.add_le_add_left (Nat.le_add_right 4 _) _) (LW.room hx h)
    obtain ⟨w, hw, e⟩ := put_ok s.win _ h4
    have st1 := setWin_step s hi w _ e h4 0
    have hav1 : bs.length ≤ ({ s with win := w, zlen := s.zlen + 0 } : LW).avail := by
      have h : 4 + bs.length ≤ s.avail := h
      simp only [LW.avail, Win.cap, e.len, e.idx, hpre] at h ⊢
      omega
    obtain ⟨s2, h2, st2⟩ := put_step { s with win := w, zlen := s.zlen + 0 } st1.inv st1.ok bs hav1
    refine ⟨s2, by rw [strWrite, hw]; exact h2, ?_⟩
    have := st1.trans st2
    simp only [hpre, Nat.add_zero] at this
    exact this

open Linked in
/-- a call that neither re-anchors nor zero-copies: its chunks go into the window.  `hu`, `hc`, `hz` hold by
`rfl` for every op except `fieldBegin`, `msgBegin` and `bytes`. -/
theorem liftChunks_ok (zc : Bool) (thr : Nat) (api : StrApi) (s : LW) (o : Op) (hwf : o.wf = true) (hi : s.inv)
    (hx : s.win.idx ≤ s.win.cap) (hu : ulwOp zc thr api s o = liftW s (putAll s.win (chunks o)))
    (hc : copyLen zc thr api o = Len.binOp o) (hz : zcLen zc thr api o = 0) (h : copyLen zc thr api o ≤ s.avail) :
    ∃ s', ulwOp zc thr api s o = .ok s' ∧ LStep s s' (Binary.wOp .be o) (copyLen zc thr api o) (zcLen zc thr api o) := by
  rw [hc] at h ⊢
  have hroom := LW.room hx h
  obtain ⟨w, hw, e⟩ := putChunks_ok s.win o hwf hroom
  have hl := Len.binOp_eq_wOp_length .be o hwf
  refine ⟨{ s with win := w }, by rw [hu, hw]; rfl, ?_⟩
  rw [hz]; rw [hl] at hroom ⊢
  exact setWin_step s hi w _ e hroom 0

open Linked in
theorem ulwOp_ok (zc : Bool) (thr : Nat) (api : StrApi) (s : LW) (o : Op) (hwf : o.wf = true)
    (hi : s.inv) (hx : s.win.idx ≤ s.win.cap) (h : copyLen zc thr api o ≤ s.avail) :
    ∃ s', ulwOp zc thr api s o = .ok s' ∧ LStep s s' (Binary.wOp .be o) (copyLen zc thr api o) (zcLen zc thr api o) := by
  have hroom : ∀ n, n ≤ s.avail → s.win.idx + n ≤ s.win.cap := fun _ => LW.room hx
  cases o with
  | fieldBegin t id =>
    obtain ⟨w, hw, e⟩ := fieldBegin_ok s.win t id (hroom _ h)
    have st1 := setWin_step s hi w _ e (by rw [List.length_cons, be_length]; exact hroom 3 h) 0
    obtain ⟨s2, h2, st2, _⟩ := adv_step { s with win := w, zlen := s.zlen + 0 } st1.inv st1.ok
    refine ⟨s2, by rw [ulwOp, hw]; exact h2, ?_⟩
    have := st1.trans st2
    rw [List.append_nil, List.length_cons, be_length] at this
    exact this
  | msgBegin name mt seq =>
    simp only [copyLen] at h
    generalize htk : takesZc false zc thr StrApi.faststr name.length = takes at h
    have hv : (encFixed .be 4 ((0x80010000 ||| mt) % 2 ^ 32)).length = 4 := encFixed_length _ _ _
    obtain ⟨s1, h1, st1⟩ := put_step s hi hx (encFixed .be 4 ((0x80010000 ||| mt) % 2 ^ 32)) (by rw [hv]; omega)
    obtain ⟨s2, h2, st2⟩ := strWrite_ok takes s1 name st1.inv st1.ok (by have := st1.avail; rw [hv] at this; omega)
    obtain ⟨s3, h3, st3⟩ := put_step s2 st2.inv st2.ok (be 4 seq) (by
      have a := st1.avail; have b := st2.avail; rw [hv] at a; rw [be_length]; omega)
    obtain ⟨s4, h4, st4, _⟩ := adv_step s3 st3.inv st3.ok
    refine ⟨s4, ?_, ?_⟩
    · simp only [ulwOp, htk, h1, h2, h3]; exact h4
    · have := ((st1.trans st2).trans st3).trans st4
      simp only [hv, be_length] at this
      simpa [Binary.wOp, be, copyLen, zcLen, htk, List.append_assoc] using this
  | bytes bs => exact strWrite_ok _ s bs hi hx h
  | _ => exact liftChunks_ok zc thr api s _ hwf hi hx rfl rfl rfl h

open Linked in
theorem ulwRun_ok (zc : Bool) (thr : Nat) (api : StrApi) (ops : List Op) (hwf : ∀ o ∈ ops, o.wf = true) (s : LW)
    (hi : s.inv) (hx : s.win.idx ≤ s.win.cap) (h : copyLenAll zc thr api ops ≤ s.avail) :
    ∃ s', ulwRun zc thr api s ops = .ok s' ∧
      LStep s s' (Binary.run .be ops) (copyLenAll zc thr api ops) ((ops.map (zcLen zc thr api)).sum) := by
  induction ops generalizing s with
  | nil => exact ⟨s, rfl, LStep.refl s hi hx⟩
  | cons o os ih =>
    rw [copyLenAll, List.map_cons, List.sum_cons] at h
    obtain ⟨s1, h1, st1⟩ := ulwOp_ok zc thr api s o (hwf o List.mem_cons_self) hi hx (Nat.le_of_add_right_le h)
    obtain ⟨s2, h2, st2⟩ := ih (fun o ho => hwf o (List.mem_cons_of_mem _ ho)) s1 st1.inv st1.ok
      (Nat.le_of_add_le_add_right (Nat.le_trans (Nat.add_comm _ _ ▸ h) st1.avail))
    exact ⟨s2, by rw [ulwRun, h1]; exact h2, st1.trans st2⟩

end Pilota.Thrift.Unsafe
