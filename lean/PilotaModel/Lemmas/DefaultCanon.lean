import PilotaModel.Lemmas.Finish
/-  `finish` on an empty slot table; lists with distinct keys; what `dfltEntry` returns. -/
namespace Pilota.TGen
open Pilota Pilota.Thrift

theorem finish_empty_ok_iff (fs : List Field) :
    (∃ out, finish fs [] = .ok out) ↔ ∀ fl ∈ fs, fl.required = true → fl.dflt.isSome = true := by
  have : ∀ fl, (slotOrDflt [] fl).isSome = fl.dflt.isSome := fun fl => by unfold slotOrDflt; cases fl.dflt <;> rfl
  simp only [finish_ok_iff, exists_and_left, exists_eq', and_true, this]

theorem same_key {α : Type} (key : α → Int) (l : List α) (hpw : l.Pairwise (fun a b => key a ≠ key b)) (a b : α) (ha : a ∈ l) (hb : b ∈ l)
    (h : key a = key b) : a = b :=
  List.Pairwise.forall_of_forall_of_flip (R := fun a b => key a = key b → a = b) (fun _ _ _ => rfl)
    (hpw.imp fun hne he => absurd he hne) (hpw.imp fun hne he => absurd he.symm hne) ha hb h

/-- with distinct keys, a search that can only stop at the key of `x` finds `x` -/
theorem find_unique_key {α : Type} (key : α → Int) (l : List α) (hpw : l.Pairwise (fun a b => key a ≠ key b)) (x : α) (hm : x ∈ l)
    (q : α → Bool) (hq : q x = true) (hqid : ∀ y, q y = true → key y = key x) : l.find? q = some x := by
  cases h : l.find? q with
  | none => exact absurd hq (List.find?_eq_none.mp h x hm)
  | some y => rw [same_key key l hpw y x (List.mem_of_find?_eq_some h) hm (hqid y (List.find?_some h))]

theorem find_filter_key {α : Type} (key : α → Int) (l : List α) (hpw : l.Pairwise (fun a b => key a ≠ key b)) (x : α) (hm : x ∈ l)
    (q : α → Bool) (hq : q x = true) (hqid : ∀ y, q y = true → key y = key x) (kp : α → Bool) :
    (l.filter kp).find? q = if kp x = true then some x else none := by
  split
  · rename_i hk
    exact find_unique_key key _ (hpw.filter kp) x (List.mem_filter.mpr ⟨hm, hk⟩) q hq hqid
  · rename_i hk
    refine List.find?_eq_none.mpr fun y hy hqy => hk ?_
    obtain ⟨hyl, hky⟩ := List.mem_filter.mp hy
    rwa [← same_key key l hpw y x hyl hm (hqid y hqy)]

theorem Doc.mem_of_find {d : Doc} {n : String} {df : Def} (h : d.find n = some df) : (n, df) ∈ d := by
  obtain ⟨p, hf, rfl⟩ := Option.map_eq_some_iff.mp h
  obtain rfl : p.1 = n := by simpa using List.find?_some hf
  exact List.mem_of_find?_eq_some hf

theorem dfltEntry_id {z : STy → TVal} {fl : Field} {p : Int × TVal} (h : dfltEntry z fl = some p) : p.1 = fl.id := by
  unfold dfltEntry at h
  split at h
  · cases h; rfl
  · split at h <;> cases h; rfl

theorem dfltEntry_eq_none {z : STy → TVal} {fl : Field} (h : dfltEntry z fl = none) : fl.required = false ∧ fl.dflt = none := by
  unfold dfltEntry at h
  split at h
  · cases h
  · split at h
    · cases h
    · exact ⟨Bool.eq_false_iff.mpr ‹_›, ‹_›⟩

end Pilota.TGen
