import PilotaModel.Lemmas.IdlNom
/-
  The recursion budget never changes an answer: `Ext p q` says that wherever `p` does not run out
  of budget, `q` returns the same result.  Every combinator is monotone for `Ext`, hence
  `X.parse d` is extended by `X.parse d'` for every `d ≤ d'`.
-/
namespace Pilota.Idl

def Ext {α} (p q : P α) : Prop := ∀ s, p s ≠ .fuel → q s = p s

namespace Ext
variable {α β : Type}

theorem refl (p : P α) : Ext p p := fun _ _ => rfl

theorem trans {p q r : P α} (h1 : Ext p q) (h2 : Ext q r) : Ext p r := by
  intro s hs; have e1 := h1 s hs; rw [h2 s (by rw [e1]; exact hs), e1]

theorem handle_ne {x : PR α} {A : α → List Char → PR β} {B : PR β} (hx : x.handle A B ≠ .fuel) : x ≠ .fuel := by
  intro e; subst e; exact hx rfl

theorem handle_congr {x : PR α} {A A' : α → List Char → PR β} {B B' : PR β} (hA : ∀ a r, A a r ≠ .fuel → A' a r = A a r)
    (hB : B ≠ .fuel → B' = B) (hx : x.handle A B ≠ .fuel) : x.handle A' B' = x.handle A B := by
  cases x with
  | ok a r => exact hA a r hx
  | err => exact hB hx
  | _ => rfl

theorem handle {p p' : P α} (hp : Ext p p') {A A' : List Char → α → List Char → PR β} {B B' : P β}
    (hA : ∀ s a r, A s a r ≠ .fuel → A' s a r = A s a r) (hB : Ext B B') :
    Ext (fun s => (p s).handle (A s) (B s)) (fun s => (p' s).handle (A' s) (B' s)) := fun s hs => by
  show (p' s).handle _ _ = _; rw [hp s (handle_ne hs)]; exact handle_congr (hA s) (hB s) hs

theorem andThen {p p' : P α} {f f' : α → P β} (hp : Ext p p') (hf : ∀ a, Ext (f a) (f' a)) :
    Ext (andThen p f) (andThen p' f') := handle hp (fun _ a r h => hf a r h) (.refl _)

theorem skip {p p' : P α} {q q' : P β} (hp : Ext p p') (hq : Ext q q') : Ext (skip p q) (skip p' q') :=
  andThen hp (fun _ => hq)

theorem pmap (f : α → β) {p p' : P α} (hp : Ext p p') : Ext (pmap f p) (pmap f p') := handle hp (fun _ _ _ _ => rfl) (.refl _)
theorem terminated {p p' : P α} {q q' : P β} (hp : Ext p p') (hq : Ext q q') :
    Ext (terminated p q) (terminated p' q') := andThen hp (fun _ => pmap _ hq)

theorem mapRes (f : α → Option β) {p p' : P α} (hp : Ext p p') : Ext (mapRes p f) (mapRes p' f) :=
  handle hp (fun _ _ _ _ => rfl) (.refl _)
theorem pmapChecked (f : α → Except String β) {p p' : P α} (hp : Ext p p') :
    Ext (pmapChecked f p) (pmapChecked f p') := handle hp (fun _ _ _ _ => rfl) (.refl _)
theorem peek {p p' : P α} (hp : Ext p p') : Ext (peek p) (peek p') := handle hp (fun _ _ _ _ => rfl) (.refl _)
theorem recognize {p p' : P α} (hp : Ext p p') : Ext (recognize p) (recognize p') := handle hp (fun _ _ _ _ => rfl) (.refl _)
theorem opt {p p' : P α} (hp : Ext p p') : Ext (opt p) (opt p') := handle hp (fun _ _ _ _ => rfl) (.refl _)
theorem pnot {p p' : P α} (hp : Ext p p') : Ext (pnot p) (pnot p') := handle hp (fun _ _ _ _ => rfl) (.refl _)

theorem alt_cons {p p' : P α} {ps ps' : List (P α)} (hp : Ext p p') (hps : Ext (alt ps) (alt ps')) :
    Ext (alt (p :: ps)) (alt (p' :: ps')) := fun s hs => by
  simp only [alt_cons_eq] at *; exact handle hp (A := fun _ => .ok) (fun _ _ _ _ => rfl) hps s hs

theorem map_congr {x y : PR α} {f : α → β} (h : x ≠ .fuel → y = x) (hx : x.map f ≠ .fuel) : y.map f = x.map f := by
  rw [h (handle_ne hx)]

theorem many0F {p p' : P α} (hp : Ext p p') : ∀ n, Ext (Idl.many0F p n) (Idl.many0F p' n)
  | 0 => fun s hs => absurd rfl hs
  | n + 1 => handle hp (fun s a r h => by
      split
      · rfl
      · rename_i hne; rw [if_neg hne] at h; exact map_congr (many0F hp n r) h) (.refl _)

theorem many0 {p p' : P α} (hp : Ext p p') : Ext (many0 p) (many0 p') := fun s => many0F hp _ s

theorem many1 {p p' : P α} (hp : Ext p p') : Ext (many1 p) (many1 p') :=
  handle hp (fun _ _ r h => map_congr (many0F hp _ r) h) (.refl _)

theorem sepLoopF {sep sep' : P β} {p p' : P α} (hs : Ext sep sep') (hp : Ext p p') :
    ∀ n, Ext (Idl.sepLoopF sep p n) (Idl.sepLoopF sep' p' n)
  | 0 => fun s hs => absurd rfl hs
  | n + 1 => handle hs (fun i _ i1 h => by
      split
      · rfl
      · rename_i hne; rw [if_neg hne] at h
        exact handle hp (A := fun _ a i2 => (Idl.sepLoopF sep p n i2).map (a :: ·)) (B := fun _ => .ok [] i)
          (fun _ _ i2 h => map_congr (sepLoopF hs hp n i2) h) (.refl _) i1 h) (.refl _)

theorem separatedList1 {sep sep' : P β} {p p' : P α} (hs : Ext sep sep') (hp : Ext p p') :
    Ext (separatedList1 sep p) (separatedList1 sep' p') :=
  handle hp (fun _ _ r h => map_congr (sepLoopF hs hp _ r) h) (.refl _)

theorem manyTillF {p p' : P α} {g g' : P β} (hp : Ext p p') (hg : Ext g g') :
    ∀ n, Ext (Idl.manyTillF p g n) (Idl.manyTillF p' g' n)
  | 0 => fun s hs => absurd rfl hs
  | n + 1 => handle hg (fun _ _ _ _ => rfl) <| handle hp (fun s a r h => by
      split
      · rfl
      · rename_i hne; rw [if_neg hne] at h; exact map_congr (manyTillF hp hg n r) h) (.refl _)

theorem manyTill {p p' : P α} {g g' : P β} (hp : Ext p p') (hg : Ext g g') : Ext (manyTill p g) (manyTill p' g') :=
  fun s => manyTillF hp hg _ s

theorem permutation2 {p p' : P α} {q q' : P β} (hp : Ext p p') (hq : Ext q q') :
    Ext (permutation2 p q) (permutation2 p' q') :=
  handle hp (fun _ _ s1 h => map_congr (hq s1) h) <| handle hq (fun _ _ s1 h => map_congr (hp s1) h) (.refl _)

theorem ite {c : Prop} [Decidable c] {p p' q q' : P α} (hp : Ext p p') (hq : Ext q q') :
    Ext (if c then p else q) (if c then p' else q') := by split <;> assumption

end Ext

theorem ext_of_succ {α} (f : Nat → P α) (h : ∀ d, Ext (f d) (f (d + 1))) : ∀ {d d'}, d ≤ d' → Ext (f d) (f d') := by
  intro d d' hle
  induction hle with
  | refl => exact Ext.refl _
  | step _ ih => exact Ext.trans ih (h _)

end Pilota.Idl
