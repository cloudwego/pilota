import PilotaModel.Lemmas.Base
import PilotaModel.Lemmas.Types
import PilotaModel.Lemmas.Fuel
import PilotaModel.Thrift.Binary
/-  Binary protocol, either byte order.  `Wire e v a`: `a` has the shape `enc e` gives an encoding of `v`, any non-zero
    byte standing for `true`.  Whatever satisfies it is read back as `v` (`read_wire`; the converse is not claimed) within
    three units of budget per byte (`Wire.size`).  It stands beside the reference's `SpecBin.Enc` because little-endian
    has no reference relation, so the compact side's route (the writer's bytes are a legal encoding, the reader reads
    every legal encoding; end of Lemmas/SpecCmp.lean) exists for `.be` only.  `enc e v` is a member (`wire_enc`), and so
    is every legal big-endian encoding (`SpecBin.wire_of_enc`), not conversely: `Wire.list` puts no condition on the
    element type. -/
namespace Pilota.Thrift.Binary
open Pilota Pilota.Thrift

@[simp] theorem i_length (e : Endian) (w : Nat) (n : Int) : (i e w n).length = w := encFixed_length e w _

theorem takeN_append (n : Nat) (a r : Bytes) (h : a.length = n) : takeN n (a ++ r) = .ok (a, r) := by
  subst h; simp [takeN]

theorem readU_enc (e w n) (r : Bytes) : readU e w (encFixed e w n ++ r) = .ok (n % 256 ^ w, r) := by
  simp [readU, takeN_append w _ r (encFixed_length e w n), decFixed_encFixed]

theorem readI_i (e w) (hw : 0 < w) (n : Int) (h : inS w n) (r : Bytes) :
    readI e w (i e w n ++ r) = .ok (n, r) := by
  simp only [readI, i, readU_enc]
  rw [Nat.mod_eq_of_lt (toU_lt w n), toS_toU w hw n h]

theorem readI_i_cons (e w) (hw : 0 < w) (n : Int) (h : inS w n) (r : Bytes) (b : UInt8) :
    readI e w (i e w n ++ b :: r) = .ok (n, b :: r) := readI_i e w hw n h (b :: r)

theorem readTType_cons (t : TType) (r : Bytes) : readTType (UInt8.ofNat t.toByte :: r) = .ok (t, r) := by
  have : (UInt8.ofNat t.toByte).toNat = t.toByte := by
    simp [UInt8.toNat_ofNat']; exact TType.toByte_lt t
  simp [readTType, readByte, this, TType.ofByte_toByte]

theorem readFieldBegin_enc (e : Endian) (t : TType) (hs : t ≠ .stop) (id : Int) (hid : inS 2 id) (r : Bytes) :
    readFieldBegin e (UInt8.ofNat t.toByte :: (i e 2 id ++ r)) = .ok ((t, id), r) := by
  simp only [readFieldBegin, readTType_cons, if_neg hs, readI_i e 2 (by decide) id hid]

theorem readFieldBegin_stop (e : Endian) (r : Bytes) : readFieldBegin e ((0 : UInt8) :: r) = .ok ((.stop, 0), r) := rfl

theorem asUsize_toS4 (n : Nat) (h : n < 2 ^ 31) : asUsize (toS 4 n) = n := by
  rw [asUsize, toS4_eq n h, toU_natCast 8 n (by omega)]

theorem readLen (e) (n : Nat) (r : Bytes) :
    readI e 4 (i e 4 (toS 4 n) ++ r) = .ok (toS 4 n, r) :=
  readI_i e 4 (by decide) _ (inS_toS 4 (by decide) n) r

theorem readBytes_enc (e) (bs r : Bytes) (h : bs.length < 2 ^ 31) :
    readBytes e (i e 4 (toS 4 bs.length) ++ (bs ++ r)) = .ok (bs, r) := by
  simp [readBytes, readLen e bs.length, asUsize_toS4 _ h, splitTo]

theorem checkSize_ok (n : Nat) (r : Bytes) (h : n ≤ r.length) : checkSize (n : Int) r = .ok n := by
  unfold checkSize
  have : ¬ ((n : Int) < 0) := by omega
  simp [this, h]

theorem readListBegin_enc (e) (et : TType) (n : Nat) (h : n < 2 ^ 31) (r : Bytes) (hr : n ≤ r.length) :
    readListBegin e (UInt8.ofNat et.toByte :: (i e 4 (toS 4 n) ++ r)) = .ok ((et, n), r) := by
  have hl := readLen e n r
  rw [toS4_eq n h] at hl ⊢
  simp [readListBegin, readTType_cons, hl, checkSize_ok n r hr]

theorem readMapBegin_enc (e) (kt vt : TType) (n : Nat) (h : n < 2 ^ 31) (r : Bytes) (hr : n ≤ r.length) :
    readMapBegin e (UInt8.ofNat kt.toByte :: UInt8.ofNat vt.toByte :: (i e 4 (toS 4 n) ++ r)) = .ok ((kt, vt, n), r) := by
  have hl := readLen e n r
  rw [toS4_eq n h] at hl ⊢
  simp [readMapBegin, readTType_cons, hl, checkSize_ok n r hr]

theorem readI_byte (e : Endian) (x : UInt8) (r : Bytes) : readI e 1 (x :: r) = .ok (toS 1 x.toNat, r) := by
  cases e <;> simp [readI, readU, takeN, decFixed, beToNat, leToNat]

theorem toS1_ne_zero (x : UInt8) : (toS 1 x.toNat != 0) = (x != 0) := by
  have h2 := x.toNat_lt
  have h1 : x.toNat = 0 ↔ x = 0 := ⟨fun h => UInt8.toNat_inj.mp h, fun h => h ▸ rfl⟩
  unfold toS
  rw [Nat.mod_eq_of_lt (by omega)]
  by_cases h : x = 0
  · subst h; rfl
  · have : x.toNat ≠ 0 := fun h0 => h (h1.mp h0)
    rw [bne_iff_ne.mpr h]
    split <;> simp <;> omega

mutual
inductive Wire (e : Endian) : TVal → Bytes → Prop
  | bool (x : UInt8) : Wire e (.bool (x != 0)) [x]
  | i8 (n : Int) (h : inS 1 n) : Wire e (.i8 n) (i e 1 n)
  | i16 (n : Int) (h : inS 2 n) : Wire e (.i16 n) (i e 2 n)
  | i32 (n : Int) (h : inS 4 n) : Wire e (.i32 n) (i e 4 n)
  | i64 (n : Int) (h : inS 8 n) : Wire e (.i64 n) (i e 8 n)
  | dbl (b : Nat) (h : b < 2 ^ 64) : Wire e (.dbl b) (encFixed e 8 b)
  | bin (p : Bytes) (h : p.length < 2 ^ 31) : Wire e (.bin p) (i e 4 (toS 4 p.length) ++ p)
  | uuid (p : Bytes) (h : p.length = 16) : Wire e (.uuid p) p
  | struct (fs : TFields) (a : Bytes) (h : WireFields e fs a) : Wire e (.struct fs) a
  | list (et : TType) (xs : TVals) (a : Bytes) (hl : xs.length < 2 ^ 31) (h : WireVals e et xs a) :
      Wire e (.list et xs) (UInt8.ofNat et.toByte :: (i e 4 (toS 4 xs.length) ++ a))
  | set (et : TType) (xs : TVals) (a : Bytes) (hl : xs.length < 2 ^ 31) (h : WireVals e et xs a) :
      Wire e (.set et xs) (UInt8.ofNat et.toByte :: (i e 4 (toS 4 xs.length) ++ a))
  | map (kt vt : TType) (kvs : TPairs) (a : Bytes) (hl : kvs.length < 2 ^ 31) (h : WirePairs e kt vt kvs a) :
      Wire e (.map kt vt kvs) (UInt8.ofNat kt.toByte :: UInt8.ofNat vt.toByte :: (i e 4 (toS 4 kvs.length) ++ a))
inductive WireVals (e : Endian) : TType → TVals → Bytes → Prop
  | nil (et : TType) : WireVals e et .nil []
  | cons (et : TType) (v : TVal) (vs : TVals) (a b : Bytes) (ht : v.ttype = et) (hv : Wire e v a) (hr : WireVals e et vs b) :
      WireVals e et (.cons v vs) (a ++ b)
inductive WireFields (e : Endian) : TFields → Bytes → Prop
  | nil : WireFields e .nil [0]
  | cons (id : Int) (v : TVal) (rest : TFields) (a b : Bytes) (hid : inS 2 id) (hv : Wire e v a) (hr : WireFields e rest b) :
      WireFields e (.cons id v rest) (UInt8.ofNat v.ttype.toByte :: (i e 2 id ++ (a ++ b)))
inductive WirePairs (e : Endian) : TType → TType → TPairs → Bytes → Prop
  | nil (kt vt : TType) : WirePairs e kt vt .nil []
  | cons (kt vt : TType) (k v : TVal) (rest : TPairs) (a b c : Bytes) (hk : k.ttype = kt) (hv : v.ttype = vt)
      (ek : Wire e k a) (ev : Wire e v b) (hr : WirePairs e kt vt rest c) : WirePairs e kt vt (.cons k v rest) (a ++ (b ++ c))
end

variable {e : Endian}

mutual
theorem wire_enc (e : Endian) (v : TVal) (hw : v.wt = true) : Wire e v (enc e v) := by
  cases v with
  | bool b => cases b <;> first | exact Wire.bool 0 | exact Wire.bool 1
  | i8 n | i16 n | i32 n | i64 n | dbl n | bin n | uuid n => constructor; exact of_decide_eq_true hw
  | struct fs => exact .struct fs _ (wire_encFields e fs hw)
  | list et xs => exact .list et xs _ (TVal.wt_list.mp hw).2.1 (wire_encVals e et xs (TVal.wt_list.mp hw).2.2)
  | set et xs => exact .set et xs _ (TVal.wt_set.mp hw).2.1 (wire_encVals e et xs (TVal.wt_set.mp hw).2.2)
  | map kt vt kvs => exact .map kt vt kvs _ (TVal.wt_map.mp hw).2.2.1 (wire_encPairs e kt vt kvs (TVal.wt_map.mp hw).2.2.2)
theorem wire_encVals (e : Endian) (et : TType) (xs : TVals) (hw : xs.wt et = true) : WireVals e et xs (encVals e xs) := by
  cases xs with
  | nil => exact .nil et
  | cons v vs =>
    obtain ⟨ht, hv, hr⟩ := TVals.wt_cons.mp hw
    exact .cons et v vs _ _ ht (wire_enc e v hv) (wire_encVals e et vs hr)
theorem wire_encFields (e : Endian) (fs : TFields) (hw : fs.wt = true) : WireFields e fs (encFields e fs) := by
  cases fs with
  | nil => exact .nil
  | cons id v rest =>
    obtain ⟨hid, hv, hr⟩ := TFields.wt_cons.mp hw
    exact .cons id v rest _ _ hid (wire_enc e v hv) (wire_encFields e rest hr)
theorem wire_encPairs (e : Endian) (kt vt : TType) (kvs : TPairs) (hw : kvs.wt kt vt = true) : WirePairs e kt vt kvs (encPairs e kvs) := by
  cases kvs with
  | nil => exact .nil kt vt
  | cons k v rest =>
    obtain ⟨hk, hv, hkw, hvw, hr⟩ := TPairs.wt_cons.mp hw
    exact .cons kt vt k v rest _ _ _ hk hv (wire_enc e k hkw) (wire_enc e v hvw) (wire_encPairs e kt vt rest hr)
end

/-! beside the budget bound (Lemmas/Fuel.lean): a collection has at most one element per byte, which is what `checkSize` tests -/
mutual
theorem Wire.size (v : TVal) (a : Bytes) (h : Wire e v a) : v.size + 1 ≤ 3 * a.length := by
  cases h with
  | bool => exact leaf_size (Nat.succ_pos _)
  | i8 | i16 | i32 | i64 => exact leaf_size (i_length e _ _ ▸ Nat.succ_pos _)
  | dbl b => exact leaf_size ((encFixed_length e 8 b).symm ▸ Nat.succ_pos 7)
  | bin p => exact leaf_size (by rw [List.length_append, i_length]; exact Nat.lt_add_right _ (Nat.succ_pos 3))
  | uuid p hp => exact leaf_size (hp ▸ Nat.succ_pos _)
  | struct fs a hf => exact WireFields.size fs a hf
  | list et xs b hl hx | set et xs b hl hx => exact coll_size (p := _ :: i e 4 _) (WireVals.size et xs b hx).1 (Nat.succ_pos _)
  | map kt vt kvs b hl hx => exact coll_size (p := _ :: _ :: i e 4 _) (WirePairs.size kt vt kvs b hx).1 (Nat.succ_pos _)
theorem WireVals.size (et : TType) (xs : TVals) (a : Bytes) (h : WireVals e et xs a) :
    xs.size ≤ 3 * a.length + 1 ∧ xs.length ≤ a.length := by
  cases h with
  | nil => exact ⟨Nat.le_refl 1, Nat.le_refl 0⟩
  | cons _ v vs a b ht hv hr => exact vals_size (Wire.size v a hv) (WireVals.size et vs b hr)
theorem WireFields.size (fs : TFields) (a : Bytes) (h : WireFields e fs a) : fs.size + 2 ≤ 3 * a.length := by
  cases h with
  | nil => exact Nat.le_refl 3
  | cons id v rest a b hid hv hr => exact field_size (p := _ :: i e 2 _) (Wire.size v a hv) (WireFields.size rest b hr)
theorem WirePairs.size (kt vt : TType) (kvs : TPairs) (a : Bytes) (h : WirePairs e kt vt kvs a) :
    kvs.size ≤ 3 * a.length + 1 ∧ kvs.length ≤ a.length := by
  cases h with
  | nil => exact ⟨Nat.le_refl 1, Nat.le_refl 0⟩
  | cons _ _ k v rest a b c hk hv ek ev hr =>
    exact pairs_size (Wire.size k a ek) (Wire.size v b ev) (WirePairs.size kt vt rest c hr)
end

theorem read_wire (e : Endian) (f : Nat) :
    (∀ v a, Wire e v a → v.size ≤ f → ∀ r, readVal e f v.ttype (a ++ r) = .ok (v, r)) ∧
    (∀ fs a, WireFields e fs a → fs.size ≤ f → ∀ r, readFields e f (a ++ r) = .ok (fs, r)) ∧
    (∀ et xs a, WireVals e et xs a → xs.size ≤ f → ∀ r, readN e f et xs.length (a ++ r) = .ok (xs, r)) ∧
    (∀ kt vt kvs a, WirePairs e kt vt kvs a → kvs.size ≤ f → ∀ r, readPairs e f kt vt kvs.length (a ++ r) = .ok (kvs, r)) := by
  induction f with
  | zero =>
    exact ⟨fun v _ _ hf => absurd v.size_pos (Nat.not_lt.mpr hf), fun fs _ _ hf => absurd fs.size_pos (Nat.not_lt.mpr hf),
      fun _ xs _ _ hf => absurd xs.size_pos (Nat.not_lt.mpr hf), fun _ _ kvs _ _ hf => absurd kvs.size_pos (Nat.not_lt.mpr hf)⟩
  | succ f ih =>
    obtain ⟨ihV, ihF, ihN, ihP⟩ := ih
    refine ⟨fun v a h hf r => ?_, fun fs a h hf r => ?_, fun et xs a h hf r => ?_, fun kt vt kvs a h hf r => ?_⟩
    · cases h with
      | bool x => simp only [TVal.ttype, readVal, List.cons_append, List.nil_append, readI_byte, toS1_ne_zero]
      | i8 n hn | i16 n hn | i32 n hn | i64 n hn => simp only [TVal.ttype, readVal, readI_i e _ (by decide) n hn]
      | dbl b hb => simp only [TVal.ttype, readVal, readU_enc, Nat.mod_eq_of_lt (show b < 256 ^ 8 from hb)]
      | bin p hp => simp only [TVal.ttype, readVal, List.append_assoc, readBytes_enc e p r hp]
      | uuid p hp => simp only [TVal.ttype, readVal, takeN_append 16 _ r hp]
      | struct fs a hfs => simp only [TVal.ttype, readVal, ihF fs a hfs (Nat.le_of_succ_le_succ hf) r]
      | list et xs b hl hx | set et xs b hl hx =>
        simp only [TVal.ttype, readVal, List.cons_append, List.append_assoc,
          readListBegin_enc e et _ hl _ (le_length_append (WireVals.size et xs b hx).2 r), ihN et xs b hx (Nat.le_of_succ_le_succ hf) r]
      | map kt vt kvs b hl hx =>
        simp only [TVal.ttype, readVal, List.cons_append, List.append_assoc,
          readMapBegin_enc e kt vt _ hl _ (le_length_append (WirePairs.size kt vt kvs b hx).2 r),
          ihP kt vt kvs b hx (Nat.le_of_succ_le_succ hf) r]
    · cases h with
      | nil => rfl
      | cons id v rest a b hid hv hr =>
        obtain ⟨h1, h2⟩ := le_le_of_add_succ_le_succ hf
        have hns := TType.isValue_ne_stop _ (TVal.ttype_isValue v)
        simp only [readFields, List.cons_append, List.append_assoc, readFieldBegin_enc e _ hns id hid, if_neg hns, ihV v a hv h1, ihF rest b hr h2]
    · cases h with
      | nil => rfl
      | cons _ v vs a b ht hv hr =>
        obtain ⟨h1, h2⟩ := le_le_of_add_succ_le_succ hf
        subst ht
        simp only [TVals.length, readN, List.append_assoc, ihV v a hv h1, ihN _ vs b hr h2]
    · cases h with
      | nil => rfl
      | cons _ _ k v rest a b c hk hv ek ev hr =>
        obtain ⟨h1, h2, h3⟩ := le_le_le_of_add_succ_le_succ hf
        subst hk hv
        simp only [TPairs.length, readPairs, List.append_assoc, ihV k a ek h1, ihV v b ev h2, ihP _ _ rest c hr h3]

theorem size_le (e : Endian) (v : TVal) (hw : v.wt = true) : v.size + 1 ≤ 3 * (enc e v).length :=
  (wire_enc e v hw).size
theorem sizeL_le (e : Endian) (xs : TVals) (et : TType) (hw : xs.wt et = true) : xs.size ≤ 3 * (encVals e xs).length + 1 :=
  (wire_encVals e et xs hw).size.1
theorem sizeF_le (e : Endian) (fs : TFields) (hw : fs.wt = true) : fs.size + 2 ≤ 3 * (encFields e fs).length :=
  (wire_encFields e fs hw).size
theorem sizeP_le (e : Endian) (kvs : TPairs) (kt vt : TType) (hw : kvs.wt kt vt = true) : kvs.size ≤ 3 * (encPairs e kvs).length + 1 :=
  (wire_encPairs e kt vt kvs hw).size.1

theorem vals_length_le (e : Endian) (xs : TVals) (et : TType) (hw : xs.wt et = true) : xs.length ≤ (encVals e xs).length :=
  (wire_encVals e et xs hw).size.2
theorem pairs_length_le (e : Endian) (kvs : TPairs) (kt vt : TType) (hw : kvs.wt kt vt = true) : kvs.length ≤ (encPairs e kvs).length :=
  (wire_encPairs e kt vt kvs hw).size.2

theorem readVal_enc (e : Endian) (v : TVal) (hw : v.wt = true) (f : Nat) (hf : v.size ≤ f) (r : Bytes) :
    readVal e f v.ttype (enc e v ++ r) = .ok (v, r) :=
  (read_wire e f).1 v _ (wire_enc e v hw) hf r
theorem readFields_enc (e : Endian) (fs : TFields) (hw : fs.wt = true) (f : Nat) (hf : fs.size ≤ f) (r : Bytes) :
    readFields e f (encFields e fs ++ r) = .ok (fs, r) :=
  (read_wire e f).2.1 fs _ (wire_encFields e fs hw) hf r
theorem readN_enc (e : Endian) (et : TType) (xs : TVals) (hw : xs.wt et = true) (f : Nat) (hf : xs.size ≤ f) (r : Bytes) :
    readN e f et xs.length (encVals e xs ++ r) = .ok (xs, r) :=
  (read_wire e f).2.2.1 et xs _ (wire_encVals e et xs hw) hf r
theorem readPairs_enc (e : Endian) (kt vt : TType) (kvs : TPairs) (hw : kvs.wt kt vt = true) (f : Nat) (hf : kvs.size ≤ f) (r : Bytes) :
    readPairs e f kt vt kvs.length (encPairs e kvs ++ r) = .ok (kvs, r) :=
  (read_wire e f).2.2.2 kt vt kvs _ (wire_encPairs e kt vt kvs hw) hf r

end Pilota.Thrift.Binary
