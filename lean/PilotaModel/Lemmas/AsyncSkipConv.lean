import PilotaModel.Lemmas.AsyncSkipSim
import PilotaModel.Lemmas.SkipTotal
/-
  Converse of `askip_sim`: whatever the asynchronous skipper accepts, the in-memory skipper of the binary family
  accepts too and stops at the same place (given fuel: it either runs out of fuel or agrees) — every skipped value
  occupies at least one byte, so a container count the async skipper got through is within the remaining input.
  An induction of its own, where the readers' converse (`to_sync`) is `Walk.simV`: `Skip.rdSkip_sim` has no condition on
  counts, and the conclusion here is for every budget `g` of the in-memory skipper, not for one at least as large.
-/
namespace Pilota.Thrift.Async.ABin
open Pilota Pilota.Thrift Pilota.Thrift.Skip

theorem leafI_ok (e : Endian) (w : Nat) (hw : 0 < w) (bs r : Bytes) (h : runF ((readI e w).bind fun _ => Prog.ret ()) bs = .ok ((), r)) :
    advance w bs = .ok (w, r) ∧ r.length < bs.length := by
  simp only [readI, Prog.bind] at h
  obtain ⟨hle, h2⟩ := need_ok w _ bs _ h
  simp only [runF, Out.ok.injEq, Prod.mk.injEq, true_and] at h2
  subst h2
  exact ⟨by simp [advance, hle], by simp; omega⟩

theorem skipBinary_of_async (e : Endian) (bs : Bytes) (hb : bs.length < 2 ^ 63) (r : Bytes)
    (h : runF ((readBytes e).bind fun _ => Prog.ret ()) bs = .ok ((), r)) :
    (∃ k, skipBinary e bs = .ok (k, r)) ∧ r.length < bs.length := by
  simp only [runF_bind_ok, runF_ret, Out.ok.injEq] at h
  obtain ⟨_, _, h1, ⟨⟩⟩ := h
  refine ⟨?_, by have := (readBytes_paid e bs (F := True)).ok h1; omega⟩
  have hs := (readBytes_iff e bs hb _).mp h1
  unfold Binary.readBytes at hs
  ok_step hs; rename_i hx
  dsimp only at hs
  split at hs
  · unfold Binary.splitTo at hs
    rw [if_pos ‹_›] at hs; cases hs
    exact ⟨_, by unfold skipBinary; rw [hx]; exact if_pos ‹_›⟩
  · cases hs

def Agrees (x : Out (Nat × Bytes)) (r : Bytes) : Prop := x = .fuel ∨ ∃ k, x = .ok (k, r)

theorem Agrees.fuel (r : Bytes) : Agrees .fuel r := Or.inl rfl
theorem Agrees.ok (k : Nat) (r : Bytes) : Agrees (.ok (k, r)) r := Or.inr ⟨k, rfl⟩

theorem agrees_step {x : Out (Nat × Bytes)} {r1 r : Bytes} (F : Nat → Bytes → Out (Nat × Bytes))
    (h1 : Agrees x r1) (h2 : ∀ k, Agrees (F k r1) r) :
    Agrees (match x with | .ok (k, q) => F k q | .err e => .err e | .panic m => .panic m | .fuel => .fuel) r := by
  rcases h1 with rfl | ⟨k, rfl⟩
  · left; rfl
  · exact h2 k

/-- One sequencing step of the in-memory skipper: if `x` agrees up to `r1` and what follows from `r1` agrees up to `r`, the model's
`match` on `x` agrees up to `r`.  The hypotheses stand behind the colon: in front of it the first would become a second
discriminant of the `match`, which then does not unify with the model's. -/
theorem Agrees.step {x : Out (Nat × Bytes)} {r1 r : Bytes} {F : Nat → Bytes → Out (Nat × Bytes)} :
    Agrees x r1 → (∀ k, Agrees (F k r1) r) →
    Agrees (match x with | .ok (k, q) => F k q | .err e => .err e | .panic m => .panic m | .fuel => .fuel) r := by
  rintro (rfl | ⟨k, rfl⟩) h2
  · exact .fuel r
  · exact h2 k

theorem askip_conv (e : Endian) : ∀ f : Nat,
    (∀ (d : Nat) t bs r, bs.length < 2 ^ 63 → runF (skip e f d t) bs = .ok ((), r) →
      r.length < bs.length ∧ ∀ g, Agrees (Skip.skipVal e g (d : Int) t bs) r) ∧
    (∀ (d : Nat) bs r, bs.length < 2 ^ 63 → runF (skipFields e f d) bs = .ok ((), r) →
      r.length < bs.length ∧ ∀ g, Agrees (Skip.skipFields e g ((d + 1 : Nat) : Int) bs) r) ∧
    (∀ (d : Nat) et n bs r, bs.length < 2 ^ 63 → runF (skipN e f d et n) bs = .ok ((), r) →
      n + r.length ≤ bs.length ∧ ∀ g, Agrees (Skip.skipN e g ((d + 1 : Nat) : Int) et n bs) r) ∧
    (∀ (d : Nat) kt vt n bs r, bs.length < 2 ^ 63 → runF (skipPairs e f d kt vt n) bs = .ok ((), r) →
      n + r.length ≤ bs.length ∧ ∀ g, Agrees (Skip.skipPairs e g ((d + 1 : Nat) : Int) kt vt n bs) r) := by
  intro f
  induction f with
  | zero =>
    refine ⟨?_, ?_, ?_, ?_⟩
    · intro _ _ _ _ _ h; unfold skip at h; cases h
    · intro _ _ _ _ h; unfold skipFields at h; cases h
    · intro _ _ _ _ _ _ h; unfold skipN at h; cases h
    · intro _ _ _ _ _ _ _ h; unfold skipPairs at h; cases h
  | succ f ih =>
    obtain ⟨ihV, ihF, ihN, ihP⟩ := ih
    refine ⟨?_, ?_, ?_, ?_⟩
    · intro d t bs r hb h
      cases d with
      | zero => unfold skip at h; cases h
      | succ d =>
        have hd0 : ¬ (((d + 1 : Nat) : Int) = 0) := by omega
        -- the in-memory skipper with budget `g + 1`, at a depth that is not exhausted
        have step : ∀ {X : Out (Nat × Bytes)}, Agrees X r → (∀ g, Skip.skipVal e (g + 1) ((d + 1 : Nat) : Int) t bs = X) →
            ∀ g, Agrees (Skip.skipVal e g ((d + 1 : Nat) : Int) t bs) r := by
          intro X hX hdef g
          cases g with
          | zero => exact .fuel r
          | succ g => rw [hdef]; exact hX
        unfold skip at h
        cases t with
        | stop | void => cases h
        | bool | i8 | i16 | i32 | i64 | double | uuid =>
          obtain ⟨ha, hl⟩ := leafI_ok e _ (by decide) bs r h
          exact ⟨hl, step (.inr ⟨_, ha⟩) fun g => by unfold Skip.skipVal; exact if_neg hd0⟩
        | binary =>
          obtain ⟨hk, hl⟩ := skipBinary_of_async e bs hb r h
          exact ⟨hl, step (.inr hk) fun g => by unfold Skip.skipVal; exact if_neg hd0⟩
        | struct =>
          obtain ⟨hl, hg⟩ := ihF d bs r hb h
          refine ⟨hl, fun g => ?_⟩
          cases g with
          | zero => exact .fuel r
          | succ g => unfold Skip.skipVal; rw [if_neg hd0]; exact hg g
        | list | set =>
          obtain ⟨⟨et, n⟩, r0, h1, h2⟩ := runF_bind_ok.mp h
          have hlt := (readListBegin_sat e bs (F := True)).ok h1
          obtain ⟨hn, hg⟩ := ihN d et n r0 r (runF_lt_of_lt h1 hb) h2
          have hs := sync_of_readListBegin hb h1 (by omega)
          refine ⟨by omega, fun g => ?_⟩
          cases g with
          | zero => exact .fuel r
          | succ g =>
            unfold Skip.skipVal
            simp only [if_neg hd0, hs]
            exact (hg g).step fun k => .ok _ r
        | map =>
          obtain ⟨⟨kt, vt, n⟩, r0, h1, h2⟩ := runF_bind_ok.mp h
          have hlt := (readMapBegin_sat e bs (F := True)).ok h1
          obtain ⟨hn, hg⟩ := ihP d kt vt n r0 r (runF_lt_of_lt h1 hb) h2
          have hs := sync_of_readMapBegin hb h1 (by omega)
          refine ⟨by omega, fun g => ?_⟩
          cases g with
          | zero => exact .fuel r
          | succ g =>
            unfold Skip.skipVal
            simp only [if_neg hd0, hs]
            exact (hg g).step fun k => .ok _ r
    · intro d bs r hb h
      unfold skipFields at h
      obtain ⟨⟨t, id⟩, r0, h1, h2⟩ := runF_bind_ok.mp h
      have hlt0 := (readFieldBegin_sat e bs (F := True)).ok h1
      have hb0 := runF_lt_of_lt h1 hb
      rw [runF_readFieldBegin] at h1
      dsimp only at h2
      by_cases hs : t = .stop
      · rw [if_pos hs] at h2; cases h2
        refine ⟨hlt0, fun g => ?_⟩
        cases g with
        | zero => exact .fuel r
        | succ g => unfold Skip.skipFields; simp only [h1, if_pos hs]; exact .ok _ r
      · rw [if_neg hs] at h2
        obtain ⟨_, r1, h3, h4⟩ := runF_bind_ok.mp h2
        obtain ⟨hl1, hg1⟩ := ihV d t r0 r1 hb0 h3
        obtain ⟨hl2, hg2⟩ := ihF d r1 r (runF_lt_of_lt h3 hb0) h4
        refine ⟨by omega, fun g => ?_⟩
        cases g with
        | zero => exact .fuel r
        | succ g =>
          unfold Skip.skipFields
          simp only [h1, if_neg hs, if_neg (depth_ne_min d), depth_pred d]
          refine (hg1 g).step fun k => ?_
          exact (hg2 g).step fun k2 => .ok _ r
    · intro d et n bs r hb h
      cases n with
      | zero =>
        unfold skipN at h; cases h
        refine ⟨Nat.le_of_eq (Nat.zero_add _), fun g => ?_⟩
        cases g with
        | zero => exact .fuel _
        | succ g => exact .ok 0 _
      | succ n =>
        unfold skipN at h
        obtain ⟨_, r1, h3, h4⟩ := runF_bind_ok.mp h
        obtain ⟨hl1, hg1⟩ := ihV d et bs r1 hb h3
        obtain ⟨hl2, hg2⟩ := ihN d et n r1 r (runF_lt_of_lt h3 hb) h4
        refine ⟨by omega, fun g => ?_⟩
        cases g with
        | zero => exact .fuel r
        | succ g =>
          unfold Skip.skipN
          simp only [if_neg (depth_ne_min d), depth_pred d]
          refine (hg1 g).step fun k => ?_
          exact (hg2 g).step fun k2 => .ok _ r
    · intro d kt vt n bs r hb h
      cases n with
      | zero =>
        unfold skipPairs at h; cases h
        refine ⟨Nat.le_of_eq (Nat.zero_add _), fun g => ?_⟩
        cases g with
        | zero => exact .fuel _
        | succ g => exact .ok 0 _
      | succ n =>
        unfold skipPairs at h
        obtain ⟨_, r1, h3, h4⟩ := runF_bind_ok.mp h
        obtain ⟨_, r2, h5, h6⟩ := runF_bind_ok.mp h4
        have hb1 := runF_lt_of_lt h3 hb
        obtain ⟨hl1, hg1⟩ := ihV d kt bs r1 hb h3
        obtain ⟨hl2, hg2⟩ := ihV d vt r1 r2 hb1 h5
        obtain ⟨hl3, hg3⟩ := ihP d kt vt n r2 r (runF_lt_of_lt h5 hb1) h6
        refine ⟨by omega, fun g => ?_⟩
        cases g with
        | zero => exact .fuel r
        | succ g =>
          unfold Skip.skipPairs
          simp only [if_neg (depth_ne_min d), depth_pred d]
          refine (hg1 g).step fun k1 => ?_
          refine (hg2 g).step fun k2 => ?_
          exact (hg3 g).step fun k3 => .ok _ r

/-- with the budget the in-memory skipper really uses it cannot run out of fuel: it accepts, and stops at the same place -/
theorem skip_of_async (e : Endian) (f : Nat) (d : Nat) (t : TType) (bs r : Bytes) (hb : bs.length < 2 ^ 63)
    (h : runF (skip e f d t) bs = .ok ((), r)) : ∃ k, Skip.skip e (d : Int) t bs = .ok (k, r) := by
  have := ((askip_conv e f).1 d t bs r hb h).2 (3 * bs.length + 3)
  rcases this with hf | hk
  · exact absurd hf ((Skip.skipVal_nofuel e _).1 _ t bs (by omega))
  · exact hk

end Pilota.Thrift.Async.ABin
