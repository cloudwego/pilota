import PilotaModel.Lemmas.PbScalar
/-
  Recursion budget: groups nested `n` deep inside a group need a budget of `n + 1`.
-/
namespace Pilota.Proto
open Pilota

/-- what follows the start-group key of a group that contains `n` nested groups of the same
field number and nothing else: `n` start keys, then `n + 1` end keys. -/
def groupBody (tag : Nat) : Nat → Bytes
  | 0 => keyBytes tag .egroup
  | n + 1 => keyBytes tag .sgroup ++ groupBody tag n ++ keyBytes tag .egroup

theorem groupBody_pos (tag n : Nat) : 0 < (groupBody tag n).length := by
  cases n <;> simp only [groupBody, List.length_append] <;> have := keyBytes_pos tag .egroup <;> omega

theorem skip_group_ladder (tag : Nat) (h1 : minTag ≤ tag) (h2 : tag ≤ maxTag) :
    ∀ (n ctx : Nat) (rest : Bytes),
      skipField ctx .sgroup tag (groupBody tag n ++ rest) = if n < ctx then .ok rest else .err .depth := by
  intro n
  induction n with
  | zero =>
    intro ctx rest
    cases ctx with
    | zero => simp [skipField]
    | succ c =>
      have hp := keyBytes_pos tag .egroup
      simp only [skipField, groupBody, Nat.zero_lt_succ, if_true]
      rw [show (keyBytes tag .egroup ++ rest).length + 1 = ((keyBytes tag .egroup ++ rest).length - 1) + 1 + 1 by
        simp only [List.length_append]; omega]
      simp [groupLoop, decodeKey_keyBytes tag .egroup h1 h2, advance]
  | succ n ih =>
    intro ctx rest
    cases ctx with
    | zero => simp [skipField]
    | succ c =>
      have hp := keyBytes_pos tag .sgroup
      have hb := groupBody_pos tag n
      have he := keyBytes_pos tag .egroup
      simp only [skipField, groupBody, List.append_assoc]
      have hfuel : (keyBytes tag .sgroup ++ (groupBody tag n ++ (keyBytes tag .egroup ++ rest))).length + 1
          = ((keyBytes tag .sgroup ++ (groupBody tag n ++ (keyBytes tag .egroup ++ rest))).length - 2) + 1 + 1 + 1 := by
        simp only [List.length_append]; omega
      rw [hfuel]
      simp only [groupLoop, decodeKey_keyBytes tag .sgroup h1 h2]
      have hne : ¬ (WireType.sgroup = WireType.egroup) := by decide
      simp only [hne, if_false]
      rw [ih c (keyBytes tag .egroup ++ rest)]
      by_cases hn : n < c
      · have : n + 1 < c + 1 := by omega
        simp only [hn, this, if_true, decodeKey_keyBytes tag .egroup h1 h2]
        simp [advance]
      · have : ¬ n + 1 < c + 1 := by omega
        simp [hn, this]

end Pilota.Proto
