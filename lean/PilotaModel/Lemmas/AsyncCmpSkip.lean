import PilotaModel.Lemmas.AsyncCmpSkipSim
/-
  The async skipper over the compact protocol consumes exactly what the in-memory reading interpreter consumes: it is the
  read-and-discard skipper over the async compact primitives (`skip_eq_rdSkip`), each of which returns what the reader's
  primitive returns with the value dropped (`Walk.skips` at `Skip.asyncCompact_skips`).
-/
namespace Pilota.Thrift.Async
open Pilota Pilota.Thrift Pilota.Thrift.Compact

namespace ACmp

theorem skip_of_sync (f : Nat) (t : TType) (s : CR) (bs : Bytes) (v : TVal) (s' : CR) (r : Bytes)
    (h : Compact.readVal f t s bs = .ok (v, s', r)) (d : Nat) (hd : v.need ≤ d) : runF (skip f d t s) bs = .ok (s', r) :=
  ((skip_eq_rdSkip f).1 d t s bs).trans ((Skip.rdSkip_of_read Skip.asyncCompact_skips (Int.natCast_nonneg d) h).trans
    (if_pos (Int.ofNat_le.mpr hd)))
theorem skipFields_of_sync (f : Nat) (s : CR) (bs : Bytes) (fs : TFields) (s' : CR) (r : Bytes)
    (h : Compact.readFields f s bs = .ok (fs, s', r)) (d : Nat) (hd : fs.need ≤ d) : runF (skipFields f d s) bs = .ok (s', r) :=
  ((skip_eq_rdSkip f).2.1 d s bs).trans (((Walk.skips Skip.asyncCompact_skips (fun _ _ => trivial) f).2.1 (x := (fs, s', r)) (by omega) trivial
    ((Compact.readVal_eq_walk f).2.1 s bs ▸ h)).trans (if_pos (by dsimp only; omega)))
theorem skipN_of_sync (f : Nat) (et : TType) (n : Nat) (s : CR) (bs : Bytes) (xs : TVals) (s' : CR) (r : Bytes)
    (h : Compact.readN f et n s bs = .ok (xs, s', r)) (d : Nat) (hd : xs.need ≤ d) : runF (skipN f d et n s) bs = .ok (s', r) :=
  ((skip_eq_rdSkip f).2.2.1 d et n s bs).trans (((Walk.skips Skip.asyncCompact_skips (fun _ _ => trivial) f).2.2.1 (x := (xs, s', r)) (by omega)
    trivial ((Compact.readVal_eq_walk f).2.2.1 et n s bs ▸ h)).trans (if_pos (by dsimp only; omega)))
theorem skipPairs_of_sync (f : Nat) (kt vt : TType) (n : Nat) (s : CR) (bs : Bytes) (xs : TPairs) (s' : CR) (r : Bytes)
    (h : Compact.readPairs f kt vt n s bs = .ok (xs, s', r)) (d : Nat) (hd : xs.need ≤ d) :
    runF (skipPairs f d kt vt n s) bs = .ok (s', r) :=
  ((skip_eq_rdSkip f).2.2.2 d kt vt n s bs).trans (((Walk.skips Skip.asyncCompact_skips (fun _ _ => trivial) f).2.2.2 (x := (xs, s', r))
    (by omega) trivial ((Compact.readVal_eq_walk f).2.2.2 kt vt n s bs ▸ h)).trans (if_pos (by dsimp only; omega)))

end ACmp
end Pilota.Thrift.Async
