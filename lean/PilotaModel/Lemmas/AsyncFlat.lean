import PilotaModel.Lemmas.BinaryRT
import PilotaModel.Lemmas.ReadBasics
import PilotaModel.Thrift.Async
/-  Chunk boundaries and pending polls are unobservable: running an async program on a stream is
    running it on the flattened bytes (`runS_flat`).  On flat bytes, `Sat` is the logic in which the facts about the async
    primitives are stated. -/
namespace Pilota.Thrift.Async
open Pilota Pilota.Thrift

theorem flat_pushBack (c : Bytes) (s : Stream) : flat (pushBack c s) = c ++ flat s := by
  cases c <;> simp [pushBack, flat]

theorem takeN_zero (bs : Bytes) : Binary.takeN 0 bs = .ok ([], bs) := by simp [Binary.takeN]

theorem readExact_flat (n : Nat) (s : Stream) : flatOut (readExact n s) = Binary.takeN n (flat s) := by
  induction s generalizing n with
  | nil => cases n <;> simp [readExact, flatOut, flat, Binary.takeN]
  | cons ev s ih =>
    cases n with
    | zero => simp [readExact, flatOut, Binary.takeN]
    | succ n =>
      cases ev with
      | pending => simpa [readExact, flat] using ih (n + 1)
      | data b bs =>
        simp only [readExact, flat]
        by_cases hfit : bs.length + 1 ≤ n + 1
        · simp only [hfit, if_true]
          have hi := ih (n - bs.length)
          have hlen : (b :: bs).length = bs.length + 1 := rfl
          cases hx : readExact (n - bs.length) s with
          | ok p =>
            obtain ⟨a, s'⟩ := p
            simp only [hx, flatOut] at hi ⊢
            unfold Binary.takeN at hi ⊢
            split at hi
            · rename_i hle
              simp only [Out.ok.injEq, Prod.mk.injEq] at hi
              have hle2 : n + 1 ≤ (b :: bs ++ flat s).length := by simp; omega
              simp only [hle2, if_true, Out.ok.injEq, Prod.mk.injEq]
              have e1 : n + 1 = (b :: bs).length + (n - bs.length) := by simp; omega
              constructor
              · rw [e1, List.take_length_add_append, hi.1]
              · rw [e1, List.drop_length_add_append, hi.2]
            · cases hi
          | err k =>
            simp only [hx, flatOut] at hi ⊢
            unfold Binary.takeN at hi ⊢
            split at hi
            · cases hi
            · rename_i hnle
              have : ¬ (n + 1 ≤ (b :: bs ++ flat s).length) := by simp; omega
              simp only [this, if_false]; exact hi
          | panic m =>
            simp only [hx, flatOut] at hi
            unfold Binary.takeN at hi; split at hi <;> cases hi
          | fuel =>
            simp only [hx, flatOut] at hi
            unfold Binary.takeN at hi; split at hi <;> cases hi
        · simp only [hfit, if_false, flatOut, flat_pushBack]
          have hle : n + 1 ≤ (b :: bs).length := by simp; omega
          have hle2 : n + 1 ≤ (b :: bs ++ flat s).length := by simp; omega
          simp only [Binary.takeN, hle2, if_true, Out.ok.injEq, Prod.mk.injEq]
          constructor
          · rw [List.take_append_of_le_length hle]
          · rw [List.drop_append_of_le_length hle]

theorem readExactToVec_eq (n : Nat) (s : Stream) : readExactToVec n s = readExact n s := by
  induction s generalizing n with
  | nil => cases n <;> simp [readExactToVec, takeReadToEnd, readExact]
  | cons ev s ih =>
    cases n with
    | zero => simp [readExactToVec, takeReadToEnd, readExact]
    | succ n =>
      cases ev with
      | pending =>
        have := ih (n + 1)
        simp only [readExactToVec, takeReadToEnd, readExact] at this ⊢
        exact this
      | data b bs =>
        by_cases hfit : bs.length + 1 ≤ n + 1
        · have hi := ih (n - bs.length)
          simp only [readExactToVec] at hi
          simp only [readExactToVec, takeReadToEnd, readExact, hfit, if_true]
          rw [← hi]
          have hiff : ∀ a : Bytes, ((b :: bs ++ a).length = n + 1) ↔ (a.length = n - bs.length) := by
            intro a; simp; omega
          by_cases hl : (takeReadToEnd (n - bs.length) s).1.length = n - bs.length
          · have hl' := (hiff _).mpr hl
            simp only [hl, hl', if_true]
          · have hl' : ¬ ((b :: bs ++ (takeReadToEnd (n - bs.length) s).1).length = n + 1) := fun h => hl ((hiff _).mp h)
            simp only [hl, hl', if_false]
        · have hlen : ((b :: bs).take (n + 1)).length = n + 1 := by
            rw [List.length_take]; simp; omega
          simp only [readExactToVec, takeReadToEnd, readExact, hfit, if_false, hlen, if_true]

theorem runS_flat {α} (p : Prog α) (s : Stream) : flatOut (runS p s) = runF p (flat s) := by
  induction p generalizing s with
  | ret a => rfl
  | fail k => rfl
  | fuelOut => rfl
  | need n k ih =>
    simp only [runS, runF]
    have h := readExact_flat n s
    cases hx : readExact n s with
    | ok q =>
      obtain ⟨b, s'⟩ := q
      simp only [hx, flatOut] at h
      simp only [← h]
      exact ih b s'
    | err e => simp only [hx, flatOut] at h; simp [← h, flatOut]
    | panic m => simp only [hx, flatOut] at h; simp [← h, flatOut]
    | fuel => simp only [hx, flatOut] at h; simp [← h, flatOut]

theorem pulled_flat {α} (p : Prog α) (s : Stream) : pulled s (runS p s) = pulledF (flat s) (runF p (flat s)) := by
  rw [← runS_flat]
  cases runS p s <;> rfl

theorem pulledF_ok {α} {bs : Bytes} {x : Out (α × Bytes)} {a : α} {n : Nat} :
    pulledF bs x = .ok (a, n) ↔ ∃ r, x = .ok (a, r) ∧ n = bs.length - r.length := by
  cases x with
  | ok q => exact ⟨fun h => by cases h; exact ⟨_, rfl, rfl⟩, fun ⟨_, h, hn⟩ => by cases h; rw [hn]; rfl⟩
  | _ => exact ⟨nofun, fun ⟨_, h, _⟩ => nomatch h⟩

/-- `Out.bind` on a curried continuation, the form to which `runF` of a `need` reduces; `runF_bind'` is `runF_bind` with `Out.bind` -/
def bindP {α β} (x : Out (α × Bytes)) (F : α → Bytes → Out (β × Bytes)) : Out (β × Bytes) :=
  match x with
  | .ok (a, r) => F a r
  | .err k => .err k | .panic m => .panic m | .fuel => .fuel

theorem bindP_ok {α β} (x : Out (α × Bytes)) (F : α → Bytes → Out (β × Bytes)) (q : β × Bytes) :
    bindP x F = .ok q ↔ ∃ a r, x = .ok (a, r) ∧ F a r = .ok q := by
  cases x with
  | ok p => exact ⟨fun h => ⟨p.1, p.2, rfl, h⟩, fun ⟨_, _, e, h⟩ => by cases e; exact h⟩
  | _ => exact ⟨nofun, fun ⟨_, _, e, _⟩ => nomatch e⟩

theorem runF_need {α} (n : Nat) (k : Bytes → Prog α) (bs : Bytes) :
    runF (.need n k) bs = bindP (Binary.takeN n bs) fun b r => runF (k b) r := by
  simp only [runF]; cases Binary.takeN n bs <;> rfl

theorem need_ok {α} (w : Nat) (c : Bytes → Prog α) (bs : Bytes) (x : α × Bytes) (h : runF (.need w c) bs = .ok x) :
    w ≤ bs.length ∧ runF (c (bs.take w)) (bs.drop w) = .ok x := by
  by_cases hle : w ≤ bs.length
  · simp only [runF, Binary.takeN, hle, if_true] at h
    exact ⟨hle, h⟩
  · simp [runF, Binary.takeN, hle] at h

theorem runF_bind {α β} (p : Prog α) (f : α → Prog β) (bs : Bytes) :
    runF (p.bind f) bs = bindP (runF p bs) (fun a r => runF (f a) r) := by
  induction p generalizing bs with
  | need n k ih =>
    rw [Prog.bind, runF_need, runF_need]
    cases Binary.takeN n bs with
    | ok q => exact ih q.1 q.2
    | _ => rfl
  | _ => rfl

/-- for the model's pair-pattern `match` -/
theorem runF_bind' {α β} (p : Prog α) (k : α → Prog β) (bs : Bytes) :
    runF (p.bind k) bs = (runF p bs).bind fun x => runF (k x.1) x.2 := by
  rw [runF_bind]; cases runF p bs <;> rfl

theorem runF_bind_ne_fuel {α β} {p : Prog α} {k : α → Prog β} {bs : Bytes} (hp : runF p bs ≠ .fuel)
    (hk : ∀ a r, runF (k a) r ≠ .fuel) : runF (p.bind k) bs ≠ .fuel := by
  rw [runF_bind']
  cases h : runF p bs with
  | ok x => exact hk x.1 x.2
  | fuel => exact absurd h hp
  | _ => exact nofun

theorem runF_bind_ok {α β} {p : Prog α} {f : α → Prog β} {bs : Bytes} {q : β × Bytes} :
    runF (p.bind f) bs = .ok q ↔ ∃ a r, runF p bs = .ok (a, r) ∧ runF (f a) r = .ok q := by
  rw [runF_bind, bindP_ok]

/-- an async program has no panic site: a short read is an error. -/
theorem runF_not_panic {α} (p : Prog α) (bs : Bytes) : (runF p bs).isPanic = false := by
  induction p generalizing bs with
  | need n k ih =>
    rw [runF_need]
    unfold Binary.takeN
    split
    · exact ih _ _
    · rfl
  | _ => rfl

/-- `Out.Safe` for a program run on `bs`: no panic, out of budget only if `F`, and a result `a` with rest `r`
satisfies `P a r`.  One rule per constructor of `Prog` and one for `bind`: the logic of the async primitives. -/
def Sat {α} (p : Prog α) (bs : Bytes) (F : Prop) (P : α → Bytes → Prop) : Prop :=
  (runF p bs).Safe False F fun x => P x.1 x.2

namespace Sat
variable {α β : Type} {bs : Bytes} {F : Prop} {P : α → Bytes → Prop}

theorem ok {p : Prog α} {a : α} {r : Bytes} (hp : Sat p bs F P) (h : runF p bs = .ok (a, r)) : P a r :=
  Out.Safe.ok (P := fun x : α × Bytes => P x.1 x.2) hp h

theorem bind {p : Prog α} {f : α → Prog β} {Q : β → Bytes → Prop} (hp : Sat p bs F P)
    (hf : ∀ a r, P a r → Sat (f a) r F Q) : Sat (p.bind f) bs F Q := by
  unfold Sat at hp ⊢
  rw [runF_bind']
  exact hp.bind fun x _ hx => hf x.1 x.2 hx

theorem ret {a : α} (h : P a bs) : Sat (.ret a) bs F P := h
theorem fail {k : ErrKind} : Sat (.fail k : Prog α) bs F P := trivial
theorem fuelOut (h : F) : Sat (.fuelOut : Prog α) bs F P := h

/-- the rule for `need` with the bytes pulled (`need` below keeps only their number) -/
theorem need' {n : Nat} {k : Bytes → Prog α} (h : ∀ b r, bs = b ++ r → b.length = n → Sat (k b) r F P) :
    Sat (.need n k) bs F P := by
  unfold Sat
  rw [runF_need]
  cases hx : Binary.takeN n bs with
  | ok x =>
    obtain ⟨hn, ha, hr⟩ := Binary.takeN_ok (a := x.1) (r := x.2) hx
    exact h x.1 x.2 (by rw [ha, hr, List.take_append_drop]) (by rw [ha, List.length_take]; omega)
  | err e => trivial
  | _ => unfold Binary.takeN at hx; split at hx <;> cases hx

theorem need {n : Nat} {k : Bytes → Prog α} (h : ∀ b r, r.length + n = bs.length → Sat (k b) r F P) :
    Sat (.need n k) bs F P :=
  need' fun b r hb hl => h b r (by rw [hb, List.length_append, hl, Nat.add_comm])

theorem mono {p : Prog α} {P' : α → Bytes → Prop} (hp : Sat p bs F P) (h : ∀ a r, P a r → P' a r) : Sat p bs F P' :=
  Out.Safe.mono hp id id fun x => h x.1 x.2
end Sat

theorem runF_suffix {α} (p : Prog α) (bs : Bytes) (a : α) (r : Bytes) (h : runF p bs = .ok (a, r)) : ∃ pre, bs = pre ++ r := by
  suffices hs : ∀ bs, Sat p bs True fun _ r => ∃ pre, bs = pre ++ r from (hs bs).ok h
  clear h
  induction p with
  | ret a => exact fun _ => .ret ⟨[], rfl⟩
  | fail k => exact fun _ => .fail
  | fuelOut => exact fun _ => .fuelOut trivial
  | need n k ih =>
    exact fun bs => .need' fun b r hb _ => (ih b r).mono fun _ _ ⟨pre, hp⟩ => ⟨b ++ pre, by rw [hb, hp, List.append_assoc]⟩

theorem runF_le {α} {p : Prog α} {bs : Bytes} {a : α} {r : Bytes} (h : runF p bs = .ok (a, r)) : r.length ≤ bs.length := by
  obtain ⟨pre, rfl⟩ := runF_suffix p bs a r h
  rw [List.length_append]; exact Nat.le_add_left _ _

theorem runF_lt_of_lt {α} {p : Prog α} {bs : Bytes} {a : α} {r : Bytes} {n : Nat} (h : runF p bs = .ok (a, r)) (hb : bs.length < n) :
    r.length < n := Nat.lt_of_le_of_lt (runF_le h) hb

end Pilota.Thrift.Async
