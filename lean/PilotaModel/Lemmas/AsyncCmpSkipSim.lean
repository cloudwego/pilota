import PilotaModel.Thrift.Skip
import PilotaModel.Lemmas.AsyncCmp
import PilotaModel.Lemmas.AsyncFlat
/-
  Compact: the asynchronous skipper, run on flat bytes, is the read-and-discard skipper over the async compact primitives
  (`skip_eq_rdSkip`, an equation of all outcomes).  So it accepts whatever the in-memory skipper accepts and stops in the same
  reader state at the same place — on arbitrary bytes, for every fuel at least as large (`acskip_sim`): the in-memory skipper's
  primitives are carried over by the async ones.
  Depths: see `depth_pred` (Lemmas/AsyncBin) for why a value is compared at `d` and the loops at `d + 1`.
-/
namespace Pilota.Thrift.Async.ACmp
open Pilota Pilota.Thrift Pilota.Thrift.Skip Pilota.Thrift.Compact

theorem cp_leaf (t s bs) : compactPrims.leaf t s bs = compactLeaf t s bs := rfl
theorem cp_sb (s) : compactPrims.structBegin s = Compact.readStructBegin s := rfl
theorem cp_se (s) : compactPrims.structEnd s = Compact.readStructEnd s := rfl
theorem cp_fb (s bs) : compactPrims.fieldBegin s bs = Compact.readFieldBegin s bs := rfl
theorem cp_lb (bs) : compactPrims.listBegin bs = Compact.readCollBegin bs := rfl
theorem cp_mb (bs) : compactPrims.mapBegin bs = Compact.readMapBegin bs := rfl

theorem acp_se (s) : asyncCompactPrims.structEnd s = Compact.readStructEnd s := rfl
theorem acp_fb (s bs) : asyncCompactPrims.fieldBegin s bs = Compact.readFieldBegin s bs := rfl

theorem skip_eq_rdSkip : ∀ f,
    (∀ (d : Nat) t s bs, runF (skip f d t s) bs = rdSkip asyncCompactPrims f (d : Int) t s bs) ∧
    (∀ (d : Nat) s bs, runF (skipFields f d s) bs = rdFields asyncCompactPrims f ((d + 1 : Nat) : Int) s bs) ∧
    (∀ (d : Nat) et n s bs, runF (skipN f d et n s) bs = rdN asyncCompactPrims f ((d + 1 : Nat) : Int) et n s bs) ∧
    (∀ (d : Nat) kt vt n s bs, runF (skipPairs f d kt vt n s) bs = rdPairs asyncCompactPrims f ((d + 1 : Nat) : Int) kt vt n s bs) := by
  intro f
  induction f with
  | zero => exact ⟨fun _ _ _ _ => by unfold skip; rfl, fun _ _ _ => by unfold skipFields; rfl, fun _ _ _ _ _ => by unfold skipN; rfl,
      fun _ _ _ _ _ _ => by unfold skipPairs; rfl⟩
  | succ f ih =>
    obtain ⟨ih1, ih2, ih3, ih4⟩ := ih
    refine ⟨fun d t s bs => ?_, fun d s bs => ?_, fun d et n s bs => ?_, fun d kt vt n s bs => ?_⟩
    · unfold rdSkip
      cases d with
      | zero => unfold skip; rfl
      | succ d =>
        rw [if_neg (by omega)]
        unfold skip
        cases t <;> dsimp only
        case struct =>
          rw [runF_bind', ih2]
          show Out.bind (rdFields asyncCompactPrims f _ (asyncCompactPrims.structBegin s) bs) _ = _
          cases rdFields asyncCompactPrims f ((d + 1 : Nat) : Int) (asyncCompactPrims.structBegin s) bs with
          | ok a => dsimp only [Out.bind]; rw [runF_readStructEnd, acp_se]; cases Compact.readStructEnd a.1 <;> rfl
          | _ => rfl
        case list | set =>
          rw [runF_bind', runF_readCollBegin]; simp only [ih3]
          show Out.bind (rawCollBegin bs) _ = match rawCollBegin bs with | .ok ((et, n), r) => _ | .err k => _ | .panic m => _ | .fuel => _
          cases rawCollBegin bs <;> rfl
        case map =>
          rw [runF_bind', runF_readMapBegin]; simp only [ih4]
          show Out.bind (rawCMapBegin bs) _ = match rawCMapBegin bs with | .ok ((kt, vt, n), r) => _ | .err k => _ | .panic m => _ | .fuel => _
          cases rawCMapBegin bs <;> rfl
        case stop | void => rfl
        all_goals dsimp only [asyncCompactPrims, asyncCompactLeaf, compactLeaf, dropS]
        case bool => rw [runF_bind, runF_readBool]; cases Compact.readBool s bs <;> rfl
        case i8 => rw [runF_bind, ABin.runF_readI]; cases Binary.readI .be 1 bs <;> rfl
        case i16 | i32 | i64 => rw [runF_bind, runF_readVarS]; cases Pilota.readVarS _ bs <;> rfl
        case double => rw [runF_bind, ABin.runF_readU]; cases Binary.readU .le 8 bs <;> rfl
        case binary => rw [runF_bind, runF_readBytes, asyncCompactString_eq]; cases Compact.readBytes bs <;> rfl
        case uuid => rw [runF_need]; cases Binary.takeN 16 bs <;> rfl
    · unfold skipFields rdFields
      rw [runF_bind', runF_readFieldBegin, acp_fb]
      cases Compact.readFieldBegin s bs with
      | ok a =>
        obtain ⟨⟨t, id⟩, s1, r⟩ := a
        dsimp only [Out.bind, pack]
        split
        · rfl
        · rw [if_neg (depth_ne_min d), depth_pred d, runF_bind', ih1]
          cases rdSkip asyncCompactPrims f (d : Int) t s1 r with
          | ok b => exact ih2 d b.1 b.2
          | _ => rfl
      | _ => rfl
    · cases n <;> unfold skipN rdN
      · rfl
      · rw [if_neg (depth_ne_min d), depth_pred d, runF_bind', ih1]
        cases rdSkip asyncCompactPrims f (d : Int) et s bs with
        | ok b => exact ih3 d et _ b.1 b.2
        | _ => rfl
    · cases n <;> unfold skipPairs rdPairs
      · rfl
      · rw [if_neg (depth_ne_min d), depth_pred d, runF_bind', ih1]
        cases rdSkip asyncCompactPrims f (d : Int) kt s bs with
        | ok b =>
          dsimp only [Out.bind]
          rw [runF_bind', ih1]
          cases rdSkip asyncCompactPrims f (d : Int) vt b.1 b.2 with
          | ok c => exact ih4 d kt vt _ c.1 c.2
          | _ => rfl
        | _ => rfl

theorem asyncCompactPrims_of_sync : compactPrims.Sim asyncCompactPrims fun x x' => x' = x where
  leaf t _ _ _ _ hr x e := by cases hr; exact ⟨x, (congrFun (congrFun (congrFun asyncCompactLeaf_eq t) _) _).trans e, rfl⟩
  structBegin hr := by cases hr; rfl
  structEnd hr s1 e := by cases hr; exact ⟨_, e, rfl⟩
  fieldBegin hr := by cases hr; exact .of_app fun _ _ e => e
  listBegin hr x r e := by cases hr; exact ⟨_, rawCollBegin_of_read e, rfl⟩
  mapBegin hr x r e := by cases hr; exact ⟨_, rawCMapBegin_of_read e, rfl⟩

theorem acskip_sim : ∀ f : Nat,
    (∀ f' (d : Nat) t s bs s' r, f ≤ f' → rdSkip compactPrims f (d : Int) t s bs = .ok (s', r) →
      runF (skip f' d t s) bs = .ok (s', r)) ∧
    (∀ f' (d : Nat) s bs s' r, f ≤ f' → rdFields compactPrims f ((d + 1 : Nat) : Int) s bs = .ok (s', r) →
      runF (skipFields f' d s) bs = .ok (s', r)) ∧
    (∀ f' (d : Nat) et n s bs s' r, f ≤ f' → rdN compactPrims f ((d + 1 : Nat) : Int) et n s bs = .ok (s', r) →
      runF (skipN f' d et n s) bs = .ok (s', r)) ∧
    (∀ f' (d : Nat) kt vt n s bs s' r, f ≤ f' → rdPairs compactPrims f ((d + 1 : Nat) : Int) kt vt n s bs = .ok (s', r) →
      runF (skipPairs f' d kt vt n s) bs = .ok (s', r)) := by
  intro f
  refine ⟨fun f' d t s bs s' r hf h => ?_, fun f' d s bs s' r hf h => ?_, fun f' d et n s bs s' r hf h => ?_,
    fun f' d kt vt n s bs s' r hf h => ?_⟩ <;>
    have hs := rdSkip_sim asyncCompactPrims_of_sync f f' hf
  · rw [(skip_eq_rdSkip f').1]; obtain ⟨_, e, rfl⟩ := hs.1 d t rfl _ h; exact e
  · rw [(skip_eq_rdSkip f').2.1]; obtain ⟨_, e, rfl⟩ := hs.2.1 _ rfl _ h; exact e
  · rw [(skip_eq_rdSkip f').2.2.1]; obtain ⟨_, e, rfl⟩ := hs.2.2.1 _ et n rfl _ h; exact e
  · rw [(skip_eq_rdSkip f').2.2.2]; obtain ⟨_, e, rfl⟩ := hs.2.2.2 _ kt vt n rfl _ h; exact e

end Pilota.Thrift.Async.ACmp
