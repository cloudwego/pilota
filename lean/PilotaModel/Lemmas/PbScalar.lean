import PilotaModel.Lemmas.PbVarint
import PilotaModel.Proto.Scalar
/-
  Keys and scalar codec modules: round trip, exact consumption, encoded_len = bytes written.
-/
namespace Pilota.Proto
open Pilota

theorem e32 : (2:Nat) ^ 32 = 4294967296 := by decide
theorem e64 : (2:Nat) ^ 64 = 18446744073709551616 := by decide
theorem e29 : (2:Nat) ^ 29 = 536870912 := by decide
theorem p4 : (256:Nat) ^ 4 = 4294967296 := by decide
theorem p8 : (256:Nat) ^ 8 = 18446744073709551616 := by decide

theorem WireType.code_lt (wt : WireType) : wt.code < 6 := by cases wt <;> decide
theorem WireType.ofCode_code (wt : WireType) : WireType.ofCode wt.code = some wt := by cases wt <;> rfl

theorem key_lt (tag : Nat) (wt : WireType) (h : tag ≤ maxTag) : tag * 8 + wt.code < 2 ^ 32 := by
  have := wt.code_lt
  unfold maxTag at h; rw [e29] at h; rw [e32]; omega

theorem decodeKey_keyBytes (tag : Nat) (wt : WireType) (h1 : minTag ≤ tag) (h2 : tag ≤ maxTag) (r : Bytes) :
    decodeKey (keyBytes tag wt ++ r) = .ok ((tag, wt), r) := by
  have hk := key_lt tag wt h2
  have hc := wt.code_lt
  unfold decodeKey keyBytes
  rw [decodeVarint_encode _ (Nat.lt_trans hk (by decide)) r]
  have h3 : ¬ tag * 8 + wt.code > 2 ^ 32 - 1 := by omega
  have h4 : (tag * 8 + wt.code) % 8 = wt.code := by omega
  have h5 : (tag * 8 + wt.code) / 8 = tag := by omega
  simp only [h3, if_false, h4, WireType.ofCode_code, h5]
  have : ¬ tag < minTag := by omega
  simp [this]

theorem keyBytes_pos (tag : Nat) (wt : WireType) : 0 < (keyBytes tag wt).length := encVar_pos _

theorem encodeKey_ok (tag : Nat) (wt : WireType) (h1 : minTag ≤ tag) (h2 : tag ≤ maxTag) :
    encodeKey tag wt = .ok (keyBytes tag wt) := by
  simp [encodeKey, keyBytes, h1, h2]

/-- the three bits of the wire type do not change the number of base-128 digits of a key. -/
theorem varLen_key (t c : Nat) (hc : c < 8) : varLen (t * 8 + c) = varLen (t * 8) := by
  rw [varLen.eq_1 (t * 8 + c), varLen.eq_1 (t * 8), show (t * 8 + c) / 128 = t * 8 / 128 by omega]
  by_cases h : t * 8 < 128
  · rw [dif_pos h, dif_pos (by omega)]
  · rw [dif_neg h, dif_neg (by omega)]

theorem keyLen_eq (tag : Nat) (wt : WireType) (h2 : tag ≤ maxTag) :
    keyLen tag = (keyBytes tag wt).length := by
  have hk := key_lt tag .varint h2
  have hc := wt.code_lt
  simp only [WireType.code, Nat.add_zero] at hk
  unfold keyLen keyBytes encodeVarint
  rw [Nat.mod_eq_of_lt hk, encVar_length, encodedLenVarint_eq _ (Nat.lt_trans hk (by decide)), varLen_key _ _ (by omega)]

theorem toS4_toU8 (n : Int) (h : inS 4 n) : toS 4 (toU 8 n) = n := by
  unfold toS toU inS at *
  rw [p4] at *; rw [p8]
  omega

theorem toU8_lt (n : Int) : toU 8 n < 2 ^ 64 := by have := toU_lt 8 n; rw [p8] at this; rw [e64]; exact this
theorem toU4_lt (n : Int) : toU 4 n < 2 ^ 32 := by have := toU_lt 4 n; rw [p4] at this; rw [e32]; exact this

theorem toU_of_nonneg (w : Nat) (n : Int) (h0 : 0 ≤ n) (h : n < ((256 ^ w : Nat) : Int)) : ((toU w n : Nat) : Int) = n := by
  unfold toU; rw [Int.emod_eq_of_lt h0 h, Int.toNat_of_nonneg h0]

theorem toU4_nonneg (n : Int) (h0 : 0 ≤ n) (h : n < 2 ^ 32) : ((toU 4 n : Nat) : Int) = n :=
  toU_of_nonneg 4 n h0 h

theorem toU8_nonneg (n : Int) (h0 : 0 ≤ n) (h : n < 2 ^ 64) : ((toU 8 n : Nat) : Int) = n :=
  toU_of_nonneg 8 n h0 h

theorem zigzag4_lt (n : Int) (h : inS 4 n) : zigzag n < 2 ^ 32 := by
  have := zigzag_lt 4 (by decide) n h; rw [p4] at this; rw [e32]; exact this
theorem zigzag8_lt (n : Int) (h : inS 8 n) : zigzag n < 2 ^ 64 := by
  have := zigzag_lt 8 (by decide) n h; rw [p8] at this; rw [e64]; exact this

namespace Codec

/-- every varint module sends a `u64` to `encode_varint`. -/
theorem toU64_lt (c : Codec) (v : SVal) : c.toU64 v < 2 ^ 64 := by
  cases c <;> simp only [toU64]
  case bool => split <;> decide
  case int32 => exact toU8_lt _
  case int64 => exact toU8_lt _
  case uint32 => exact Nat.lt_trans (toU4_lt _) (by decide)
  case uint64 => exact toU8_lt _
  case sint32 => exact Nat.lt_trans (Nat.mod_lt _ (by decide)) (by decide)
  case sint64 => exact Nat.mod_lt _ (by decide)
  all_goals decide

theorem fromU64_toU64 (c : Codec) (v : SVal) (hs : c.shape = .varint) (hv : c.ok v = true) : c.fromU64 (c.toU64 v) = v := by
  cases c <;> simp [shape] at hs <;> cases v <;> simp [ok] at hv <;> simp only [toU64, fromU64, SVal.asInt, SVal.asBool]
  case bool.bool b => cases b <;> rfl
  case int32.int n => rw [toS4_toU8 n hv]
  case int64.int n => rw [toS_toU 8 (by decide) n hv]
  case uint32.int n =>
    have := toU4_lt n
    rw [Nat.mod_eq_of_lt this, toU4_nonneg n hv.1 hv.2]
  case uint64.int n =>
    have := toU8_lt n
    rw [Nat.mod_eq_of_lt this, toU8_nonneg n hv.1 hv.2]
  case sint32.int n =>
    have := zigzag4_lt n hv
    rw [Nat.mod_eq_of_lt this, Nat.mod_eq_of_lt this, unzigzag_zigzag]
  case sint64.int n =>
    have := zigzag8_lt n hv
    rw [Nat.mod_eq_of_lt this, Nat.mod_eq_of_lt this, unzigzag_zigzag]

theorem fromFixed_toFixed (c : Codec) (w : Nat) (v : SVal) (hs : c.shape = .fixed w) (hv : c.ok v = true) :
    c.fromFixed (c.toFixed v % 256 ^ w) = v := by
  cases c <;> simp [shape] at hs <;> subst hs <;> cases v <;> simp [ok] at hv <;>
    simp only [toFixed, fromFixed, SVal.asInt, SVal.asBits]
  case float.f32 b => rw [p4, ← e32, Nat.mod_eq_of_lt hv]
  case double.f64 b => rw [p8, ← e64, Nat.mod_eq_of_lt hv]
  case fixed32.int n =>
    have := toU_lt 4 n
    rw [Nat.mod_eq_of_lt this, toU4_nonneg n hv.1 hv.2]
  case fixed64.int n =>
    have := toU_lt 8 n
    rw [Nat.mod_eq_of_lt this, toU8_nonneg n hv.1 hv.2]
  case sfixed32.int n =>
    have := toU_lt 4 n
    rw [Nat.mod_eq_of_lt this, toS_toU 4 (by decide) n hv]
  case sfixed64.int n =>
    have := toU_lt 8 n
    rw [Nat.mod_eq_of_lt this, toS_toU 8 (by decide) n hv]

theorem copyToBytes_append {w : Nat} {a : Bytes} (r : Bytes) (h : a.length = w) : copyToBytes w (a ++ r) = .ok (a, r) := by
  subst h; simp [copyToBytes]

theorem mergeBytes_enc (b r : Bytes) (h : b.length < 2 ^ 64) :
    mergeBytes (encodeVarint b.length ++ (b ++ r)) = .ok (b, r) := by
  unfold mergeBytes
  rw [decodeVarint_encode _ h]
  simp [copyToBytes_append _ rfl]

def lenOk (v : SVal) : Prop := v.asBytes.length < 2 ^ 64

instance (v : SVal) : Decidable (lenOk v) := by unfold lenOk; exact inferInstance

theorem ok_shape_bs (c : Codec) (v : SVal) (hs : c.shape = .lenDelim) (hv : c.ok v = true) : ∃ b, v = .bs b := by
  cases c <;> simp [shape] at hs <;> cases v <;> simp [ok] at hv <;> exact ⟨_, rfl⟩

theorem mergePayload_enc (c : Codec) (v : SVal) (hv : c.ok v = true) (hl : lenOk v) (r : Bytes) :
    c.mergePayload (c.encPayload v ++ r) = .ok (v, r) := by
  unfold mergePayload encPayload
  cases hs : c.shape with
  | varint =>
    simp only [decodeVarint_encode _ (c.toU64_lt v) r, fromU64_toU64 c v hs hv]
  | fixed w =>
    simp only
    have hlen : ¬ (natToLE w (c.toFixed v) ++ r).length < w := by simp [natToLE_length]
    simp only [hlen, if_false]
    rw [copyToBytes_append r (natToLE_length _ _)]
    simp only [leToNat_natToLE, fromFixed_toFixed c w v hs hv]
  | lenDelim =>
    obtain ⟨b, rfl⟩ := ok_shape_bs c v hs hv
    simp only [SVal.asBytes, List.append_assoc]
    rw [mergeBytes_enc b r hl]
    have : ¬ (c = .string && !validUtf8 b) = true := by
      cases c <;> simp [shape] at hs <;> simp_all [ok]
    simp [this]

theorem merge_enc (c : Codec) (v : SVal) (hv : c.ok v = true) (hl : lenOk v) (r : Bytes) :
    c.merge c.wt (c.encPayload v ++ r) = .ok (v, r) := by
  simp [merge, checkWireType, mergePayload_enc c v hv hl r]

theorem payloadLen_eq (c : Codec) (v : SVal) (hl : lenOk v) : c.payloadLen v = (c.encPayload v).length := by
  unfold payloadLen encPayload
  cases hs : c.shape with
  | varint => simp only [encodeVarint, encVar_length, encodedLenVarint_eq _ (c.toU64_lt v)]
  | fixed w => simp [natToLE_length]
  | lenDelim => simp only [encodeVarint, List.length_append, encVar_length, encodedLenVarint_eq _ hl]

theorem encodedLen_eq (c : Codec) (tag : Nat) (h2 : tag ≤ maxTag) (v : SVal) (hl : lenOk v) :
    c.encodedLen tag v = (c.encode tag v).length := by
  simp [encodedLen, encode, keyLen_eq tag c.wt h2, payloadLen_eq c v hl]

theorem field_rt (c : Codec) (tag : Nat) (h1 : minTag ≤ tag) (h2 : tag ≤ maxTag) (v : SVal) (hv : c.ok v = true)
    (hl : lenOk v) (r : Bytes) :
    decodeKey (c.encode tag v ++ r) = .ok ((tag, c.wt), c.encPayload v ++ r) ∧
    c.merge c.wt (c.encPayload v ++ r) = .ok (v, r) := by
  refine ⟨?_, merge_enc c v hv hl r⟩
  unfold encode
  rw [List.append_assoc, decodeKey_keyBytes tag c.wt h1 h2]

end Codec
end Pilota.Proto
