import PilotaModel.Lemmas.SkipRead
import PilotaModel.Lemmas.IterSkip
import PilotaModel.Lemmas.Fuel
import PilotaModel.TGen.Project
/-  The skipper an emitted decoder calls consumes exactly the encoding of a well-typed value: the reader reads the
    encoding back (`Binary.read_enc`) and a skipper consumes what the reader consumes (`Skip.skip_of_read`); the
    unchecked reader's iterative skipper by `Skip.iterSkip_enc`. -/
namespace Pilota.Thrift.Binary

theorem read_enc (e : Endian) (v : TVal) (hw : v.wt = true) (rest : Bytes) : read e v.ttype (enc e v ++ rest) = .ok (v, rest) :=
  readVal_enc e v hw _ (size_le_budget (size_le e v hw) rest) rest

end Pilota.Thrift.Binary

namespace Pilota.TGen
open Pilota Pilota.Thrift Pilota.Thrift.Binary

theorem binRd_skip_enc (e : Endian) (dp : Option Nat) (hed : EndianOk e dp) (v : TVal) (hw : v.wt = true)
    (hd : admits dp v.need) (rest : Bytes) :
    (binRd e dp).skip v.ttype (enc e v ++ rest) = .ok rest := by
  cases dp with
  | some dpt =>
    have hle : (v.need : Int) ≤ dpt := by simp [admits] at hd; omega
    have := Skip.skip_of_read (d := (dpt : Int)) (by omega) (read_enc e v hw rest)
    show mapOut (·.2) (Skip.skip e dpt v.ttype (enc e v ++ rest)) = _
    rw [Skip.skip, this, if_pos hle]; rfl
  | none =>
    cases hed rfl
    show mapOut (·.2) (Skip.iterSkip v.ttype (enc .be v ++ rest)) = _
    rw [Skip.iterSkip_enc v hw rest]; rfl

end Pilota.TGen
