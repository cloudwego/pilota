import PilotaModel.TGen.Async
import PilotaModel.Lemmas.GenOut
import PilotaModel.Lemmas.AsyncSkipSim
/-
  Emitted `decode_async` (binary / LE async protocol) returns what the emitted in-memory `decode` returns and stops
  where it stops, whenever the latter succeeds — on arbitrary bytes, for every document and type.  `bs.length < 2 ^ 63`: an input a
  slice can hold (Lemmas/AsyncBin.lean: a negative `i32` count is a `usize` of at least `2^63`).  On an unresolved reference and on
  `.void` the async template fails where `decTy` panics; the theorems are about successes.
-/
namespace Pilota.TGen
open Pilota Pilota.Thrift Pilota.Thrift.Async Pilota.Thrift.Async.ABin

variable (e : Endian) (d : Doc) (sf : Nat)

/-- the in-memory reader `decode_async` is compared with: checked binary / LE, `skip` with the default depth -/
abbrev sR (e : Endian) : Rd Bytes := binRd e (some skipDepth)

theorem leafI (w : Nat) (c : Int → TVal) (bs : Bytes) (v : TVal) (r : Bytes)
    (h : mapOut (fun x : Int × Bytes => (c x.1, x.2)) (Binary.readI e w bs) = .ok (v, r)) :
    runF ((readI e w).bind fun n => Prog.ret (c n)) bs = .ok (v, r) := by
  obtain ⟨⟨n, r'⟩, h1, ⟨⟩⟩ := (mapOut_eq_ok _ _ _).mp h
  exact runF_bind_ok.mpr ⟨n, r', (runF_readI e w bs).trans h1, rfl⟩

theorem skip_of_binRd (t : TType) (bs r : Bytes) (hb : bs.length < 2 ^ 63) (hsf : 3 * bs.length + 3 ≤ sf)
    (h : (sR e).skip t bs = .ok r) : runF (skip e sf skipDepth t) bs = .ok ((), r) := by
  obtain ⟨⟨k, r'⟩, h1, ⟨⟩⟩ := (mapOut_eq_ok _ _ _).mp h
  exact (askip_sim e _).1 sf skipDepth t bs k _ hsf hb h1

theorem adec_sim : ∀ f : Nat,
    (∀ ty bs v r, bs.length < 2 ^ 63 → 3 * bs.length + 3 ≤ sf → decTy (sR e) d f ty bs = .ok (v, r) →
      runF (adecTy e d sf f ty) bs = .ok (v, r)) ∧
    (∀ el n acc bs xs r, bs.length < 2 ^ 63 → 3 * bs.length + 3 ≤ sf → decN (sR e) d f el n acc bs = .ok (xs, r) →
      runF (adecN e d sf f el n acc) bs = .ok (xs, r)) ∧
    (∀ k v n acc bs xs r, bs.length < 2 ^ 63 → 3 * bs.length + 3 ≤ sf → decPairs (sR e) d f k v n acc bs = .ok (xs, r) →
      runF (adecPairs e d sf f k v n acc) bs = .ok (xs, r)) ∧
    (∀ fs slots bs out r, bs.length < 2 ^ 63 → 3 * bs.length + 3 ≤ sf → decFields (sR e) d f fs slots bs = .ok (out, r) →
      runF (adecFields e d sf f fs slots) bs = .ok (out, r)) ∧
    (∀ vs ret bs out r, bs.length < 2 ^ 63 → 3 * bs.length + 3 ≤ sf → decUnion (sR e) d f vs ret bs = .ok (out, r) →
      runF (adecUnion e d sf f vs ret) bs = .ok (out, r)) := by
  intro f
  induction f with
  | zero =>
    refine ⟨?_, ?_, ?_, ?_, ?_⟩
    · intro _ _ _ _ _ _ h; unfold decTy at h; cases h
    · intro _ _ _ _ _ _ _ _ h; unfold decN at h; cases h
    · intro _ _ _ _ _ _ _ _ _ h; unfold decPairs at h; cases h
    · intro _ _ _ _ _ _ _ h; unfold decFields at h; cases h
    · intro _ _ _ _ _ _ _ h; unfold decUnion at h; cases h
  | succ f ih =>
    obtain ⟨ihT, ihN, ihP, ihF, ihU⟩ := ih
    -- the skipper's budget `sf` and the slice bound carry over to what is left of the input
    have sub : ∀ {α} {p : Prog α} {bs : Bytes} {a : α} {r : Bytes}, runF p bs = .ok (a, r) → bs.length < 2 ^ 63 → 3 * bs.length + 3 ≤ sf →
        r.length < 2 ^ 63 ∧ 3 * r.length + 3 ≤ sf := fun h hb hsf => by have := runF_le h; omega
    refine ⟨?_, ?_, ?_, ?_, ?_⟩
    · intro ty bs v r hb hsf h
      cases ty
      all_goals (unfold decTy at h; unfold adecTy)
      case void => cases h
      case bool =>
        obtain ⟨⟨b, r'⟩, h1, ⟨⟩⟩ := (mapOut_eq_ok _ _ _).mp h
        obtain ⟨⟨n, _⟩, h2, ⟨⟩⟩ := (mapOut_eq_ok _ _ _).mp h1
        exact runF_bind_ok.mpr ⟨n, _, (runF_readI e 1 bs).trans h2, rfl⟩
      case i8 | i16 | i32 | i64 => exact leafI e _ _ bs v r h
      case double =>
        obtain ⟨⟨n, r'⟩, h1, ⟨⟩⟩ := (mapOut_eq_ok _ _ _).mp h
        exact runF_bind_ok.mpr ⟨n, r', (runF_readU e 8 bs).trans h1, rfl⟩
      case string | binary =>
        obtain ⟨⟨b, r'⟩, h1, ⟨⟩⟩ := (mapOut_eq_ok _ _ _).mp h
        exact runF_bind_ok.mpr ⟨b, r', (readBytes_iff e bs hb _).mpr h1, rfl⟩
      case uuid =>
        obtain ⟨⟨b, r'⟩, h1, ⟨⟩⟩ := (mapOut_eq_ok _ _ _).mp h
        rw [runF_need, show Binary.takeN 16 bs = _ from h1]; rfl
      case list el | set el =>
        ok_step h; rename_i r0 hx; ok_step h; rename_i hy; cases h
        have ha := readListBegin_of_sync hx
        have ⟨hb0, hsf0⟩ := sub ha hb hsf
        exact runF_bind_ok.mpr ⟨_, _, ha, runF_bind_ok.mpr ⟨_, _, ihN el _ [] r0 _ _ hb0 hsf0 hy, rfl⟩⟩
      case map k v' =>
        ok_step h; rename_i r0 hx; ok_step h; rename_i hy; cases h
        have ha := readMapBegin_of_sync hx
        have ⟨hb0, hsf0⟩ := sub ha hb hsf
        exact runF_bind_ok.mpr ⟨_, _, ha, runF_bind_ok.mpr ⟨_, _, ihP k v' _ [] r0 _ _ hb0 hsf0 hy, rfl⟩⟩
      case ref n =>
        cases hfind : d.find n with
        | none => rw [hfind] at h; cases h
        | some df =>
          rw [hfind] at h
          cases df with
          | struct fs =>
            dsimp only at h ⊢
            ok_step h; rename_i hy; ok_step h; rename_i hse; ok_step h; rename_i hfin
            cases hse
            rw [runF_bind, ihF fs [] bs _ _ hb hsf hy]
            dsimp only [bindP]
            rw [hfin]; exact h
          | union vs =>
            dsimp only at h ⊢
            ok_step h; rename_i ret _ hy; ok_step h; rename_i hse
            cases hse
            rw [runF_bind, ihU vs none bs _ _ hb hsf hy]
            dsimp only [bindP]
            cases ret with
            | some p => exact h
            | none =>
              dsimp only at h ⊢
              split at h
              · exact h
              · cases h
          | enum => exact leafI e 4 _ bs v r h
          | typedef t => exact ihT t bs v r hb hsf h
    · intro el n acc bs xs r hb hsf h
      cases n with
      | zero => unfold adecN; exact h
      | succ n =>
        unfold decN at h
        ok_step h; rename_i r1 hy
        have h1 := ihT el bs _ r1 hb hsf hy
        have ⟨hb1, hsf1⟩ := sub h1 hb hsf
        unfold adecN
        exact runF_bind_ok.mpr ⟨_, _, h1, ihN el n _ r1 xs r hb1 hsf1 h⟩
    · intro k v n acc bs xs r hb hsf h
      cases n with
      | zero => unfold adecPairs; exact h
      | succ n =>
        unfold decPairs at h
        ok_step h; rename_i r1 hy; ok_step h; rename_i r2 hz
        have h1 := ihT k bs _ r1 hb hsf hy
        have ⟨hb1, hsf1⟩ := sub h1 hb hsf
        have h2 := ihT v r1 _ r2 hb1 hsf1 hz
        have ⟨hb2, hsf2⟩ := sub h2 hb1 hsf1
        unfold adecPairs
        exact runF_bind_ok.mpr ⟨_, _, h1, runF_bind_ok.mpr ⟨_, _, h2, ihP k v n _ r2 xs r hb2 hsf2 h⟩⟩
    · intro fs slots bs out r hb hsf h
      unfold decFields at h
      ok_step h; rename_i t id r0 hx
      have h0 := fieldBegin_run hx
      have ⟨hb0, hsf0⟩ := sub h0 hb hsf
      unfold adecFields
      rw [runF_bind, h0]
      dsimp only [bindP]
      by_cases hs : t = .stop
      · rw [if_pos hs] at h ⊢; exact h
      · rw [if_neg hs] at h ⊢
        cases hfind : fs.find? (fun fl => fl.id == id && d.ttype fl.ty == t) with
        | some fl =>
          rw [hfind] at h
          dsimp only at h ⊢
          ok_step h; rename_i r1 hy
          have h1 := ihT fl.ty r0 _ r1 hb0 hsf0 hy
          have ⟨hb1, hsf1⟩ := sub h1 hb0 hsf0
          exact runF_bind_ok.mpr ⟨_, _, h1, ihF fs _ r1 out r hb1 hsf1 h⟩
        | none =>
          rw [hfind] at h
          dsimp only at h ⊢
          ok_step h; rename_i r1 hy
          have h1 := skip_of_binRd e sf t r0 r1 hb0 hsf0 hy
          have ⟨hb1, hsf1⟩ := sub h1 hb0 hsf0
          exact runF_bind_ok.mpr ⟨_, _, h1, ihF fs slots r1 out r hb1 hsf1 h⟩
    · intro vs ret bs out r hb hsf h
      unfold decUnion at h
      ok_step h; rename_i t id r0 hx
      have h0 := fieldBegin_run hx
      have ⟨hb0, hsf0⟩ := sub h0 hb hsf
      unfold adecUnion
      rw [runF_bind, h0]
      dsimp only [bindP]
      by_cases hs : t = .stop
      · rw [if_pos hs] at h ⊢; exact h
      · rw [if_neg hs] at h ⊢
        cases hfind : vs.find? (fun x => x.1 == id && !(x.2 == .void)) with
        | some pr =>
          rw [hfind] at h
          dsimp only at h ⊢
          split at h
          · cases h
          · rw [if_neg ‹_›]
            ok_step h; rename_i r1 hy
            have h1 := ihT pr.2 r0 _ r1 hb0 hsf0 hy
            have ⟨hb1, hsf1⟩ := sub h1 hb0 hsf0
            exact runF_bind_ok.mpr ⟨_, _, h1, ihU vs _ r1 out r hb1 hsf1 h⟩
        | none =>
          rw [hfind] at h
          dsimp only at h ⊢
          ok_step h; rename_i r1 hy
          have h1 := skip_of_binRd e sf t r0 r1 hb0 hsf0 hy
          have ⟨hb1, hsf1⟩ := sub h1 hb0 hsf0
          exact runF_bind_ok.mpr ⟨_, _, h1, ihU vs ret r1 out r hb1 hsf1 h⟩

end Pilota.TGen
