import PilotaModel.Lemmas.PbFold
import PilotaModel.Lemmas.PbLen
/-
  The records of pilota's encoder, as a view on `encSlots`: what `encode` writes for a value is the
  concatenation of one record per element, and picking a field's records out of a body by field
  number gives back that field's records.
-/
namespace Pilota.Proto
open Pilota Spec

def wtOf : FTy → WireType
  | .scalar c => c.wt
  | .msg _ => .len

/-- what `encode` writes after the key. -/
def payE (s : Schema) (flag : Bool) : FTy → EVal → Bytes
  | .scalar c, .s x => c.encPayload x
  | .msg i, .msg fs => encodeVarint (lenSlots s flag (decls s i) fs) ++ encSlots s flag (decls s i) fs
  | _, _ => []

theorem encE_split (s : Schema) (flag : Bool) (tag : Nat) (ty : FTy) (v : EVal) (h : okE s flag ty v = true) :
    encE s flag tag ty v = keyBytes tag (wtOf ty) ++ payE s flag ty v := by
  cases ty <;> cases v <;> first | rfl | cases h | simp [encE, payE, wtOf, List.append_assoc]

def recE (s : Schema) (flag : Bool) (tag : Nat) (ty : FTy) (v : EVal) : Rec := ⟨tag, wtOf ty, payE s flag ty v⟩

def recsEs (s : Schema) (flag : Bool) (tag : Nat) (ty : FTy) : EVals → List Rec
  | .nil => []
  | .cons v r => recE s flag tag ty v :: recsEs s flag tag ty r

def entryRecs (s : Schema) (flag : Bool) (kc : Codec) (vty : FTy) (k : SVal) (v : EVal) : List Rec :=
  (if !flag && k.isDefault then [] else [⟨1, kc.wt, kc.encPayload k⟩]) ++
  (if !flag && v.isDefault then [] else [recE s flag 2 vty v])

def recsPairs (s : Schema) (flag : Bool) (tag : Nat) (kc : Codec) (vty : FTy) : Pairs → List Rec
  | .nil => []
  | .cons k v r => ⟨tag, .len, lenDelim (flat (entryRecs s flag kc vty k v))⟩ :: recsPairs s flag tag kc vty r

def recsSlot (s : Schema) (flag : Bool) : FieldDecl → Slot → List Rec
  | .single tag ty false, .req v => [recE s flag tag ty v]
  | .single tag ty true, .some v => [recE s flag tag ty v]
  | .rep tag ty, .rep xs => recsEs s flag tag ty xs
  | .map tag k vty, .map kvs => recsPairs s flag tag k vty kvs
  | .oneof vs, .one t v =>
    match lookupVariant vs t with
    | some ty => [recE s flag t ty v]
    | none => []
  | _, _ => []

def recsSlots (s : Schema) (flag : Bool) : List FieldDecl → Slots → List Rec
  | d :: ds, .cons v r => recsSlot s flag d v ++ recsSlots s flag ds r
  | _, _ => []

/-! inside an entry: at most one record numbered 1 (the key), at most one numbered 2 (the value), nothing else. -/

theorem entryRecs_key (s : Schema) (flag : Bool) (kc : Codec) (vty : FTy) (k : SVal) (v : EVal) :
    (entryRecs s flag kc vty k v).filter (fun x => x.tag == 1) = if !flag && k.isDefault then [] else [⟨1, kc.wt, kc.encPayload k⟩] := by
  unfold entryRecs; split <;> split <;> rfl

theorem entryRecs_val (s : Schema) (flag : Bool) (kc : Codec) (vty : FTy) (k : SVal) (v : EVal) :
    (entryRecs s flag kc vty k v).filter (fun x => x.tag == 2) = if !flag && v.isDefault then [] else [recE s flag 2 vty v] := by
  unfold entryRecs; split <;> split <;> rfl

theorem entryRecs_tags (s : Schema) (flag : Bool) (kc : Codec) (vty : FTy) (k : SVal) (v : EVal) :
    ∀ x ∈ entryRecs s flag kc vty k v, x.tag = 1 ∨ x.tag = 2 := by
  unfold entryRecs; split <;> split <;> simp [recE]

theorem flat_recE (s : Schema) (flag : Bool) (tag : Nat) (ty : FTy) (v : EVal) (h : okE s flag ty v = true) :
    flat [recE s flag tag ty v] = encE s flag tag ty v := by
  simp [flat, recE, rec_bytes, encE_split s flag tag ty v h]

theorem flat_recsEs (s : Schema) (flag : Bool) (tag : Nat) (ty : FTy) : ∀ (xs : EVals), okEs s flag ty xs = true →
    flat (recsEs s flag tag ty xs) = encEs s flag tag ty xs
  | .nil, _ => rfl
  | .cons v r, h => by
    have h := Bool.and_eq_true_iff.mp h
    rw [recsEs, flat_cons, encEs, flat_recsEs s flag tag ty r h.2, ← flat_recE s flag tag ty v h.1]
    simp [flat]

theorem flat_entryRecs (s : Schema) (flag : Bool) (kc : Codec) (vty : FTy) (k : SVal) (v : EVal) (hv : okE s flag vty v = true) :
    flat (entryRecs s flag kc vty k v) =
      (if !flag && k.isDefault then [] else kc.encode 1 k) ++ (if !flag && v.isDefault then [] else encE s flag 2 vty v) := by
  unfold entryRecs
  rw [flat_append]
  congr 1
  · split
    · rfl
    · simp [flat, rec_bytes, Codec.encode]
  · split
    · rfl
    · exact flat_recE s flag 2 vty v hv

theorem entry_len (s : Schema) (flag : Bool) (hs : WFSchema s = true) (kc : Codec) (vty : FTy) (k : SVal) (v : EVal)
    (hkl : Codec.lenOk k) (hv : okE s flag vty v = true) :
    (flat (entryRecs s flag kc vty k v)).length = entryLen s flag kc vty k v := by
  rw [flat_entryRecs s flag kc vty k v hv, entryLen_eq s flag kc vty k v (Codec.encodedLen_eq kc 1 (by decide) k hkl)
    (lenE_eq s flag hs 2 (by decide) vty v hv)]

theorem flat_recsPairs (s : Schema) (flag : Bool) (hs : WFSchema s = true) (tag : Nat) (kc : Codec) (vty : FTy) :
    ∀ (kvs : Pairs), okPairs s flag kc vty kvs = true → flat (recsPairs s flag tag kc vty kvs) = encPairs s flag tag kc vty kvs
  | .nil, _ => rfl
  | .cons k v r, h => by
    obtain ⟨_, hkl, hve, _, _, hr⟩ := okPairs_cons h
    rw [recsPairs, flat_cons, rec_bytes, flat_recsPairs s flag hs tag kc vty r hr, lenDelim_eq,
      entry_len s flag hs kc vty k v hkl hve, flat_entryRecs s flag kc vty k v hve]
    simp only [encPairs, entryLen, List.append_assoc]

theorem flat_recsSlot (s : Schema) (flag : Bool) (hs : WFSchema s = true) (d : FieldDecl) (v : Slot) (h : okSlot s flag d v = true) :
    flat (recsSlot s flag d v) = encSlot s flag d v := by
  cases v with
  | req x => obtain ⟨t, ty, rfl, h⟩ := okSlot_req h; exact flat_recE s flag t ty x h
  | none => rcases okSlot_none h with ⟨t, ty, rfl⟩ | ⟨vs, rfl⟩ <;> rfl
  | some x => obtain ⟨t, ty, rfl, h⟩ := okSlot_some h; exact flat_recE s flag t ty x h
  | rep xs => obtain ⟨t, ty, rfl, h⟩ := okSlot_rep h; exact flat_recsEs s flag t ty xs h
  | map kvs => obtain ⟨t, kc, vty, rfl, h, _⟩ := okSlot_map h; exact flat_recsPairs s flag hs t kc vty kvs h
  | one t x =>
    obtain ⟨vs, ty, rfl, hl, h⟩ := okSlot_one h
    simp only [recsSlot, encSlot, hl]
    exact flat_recE s flag t ty x h

theorem flat_recsSlots (s : Schema) (flag : Bool) (hs : WFSchema s = true) : ∀ (ds : List FieldDecl) (vs : Slots),
    okSlots s flag ds vs = true → flat (recsSlots s flag ds vs) = encSlots s flag ds vs
  | [], .nil, _ => rfl
  | d :: ds, .cons v r, h => by
    have h := Bool.and_eq_true_iff.mp h
    rw [recsSlots, flat_append, encSlots, flat_recsSlot s flag hs d v h.1, flat_recsSlots s flag hs ds r h.2]
  | [], .cons _ _, h => by cases h
  | _ :: _, .nil, h => by cases h

theorem payE_msg (s : Schema) (flag : Bool) (hs : WFSchema s = true) (i : Nat) (fs : Slots)
    (h : okSlots s flag (decls s i) fs = true) :
    payE s flag (.msg i) (.msg fs) = lenDelim (flat (recsSlots s flag (decls s i) fs)) := by
  rw [lenDelim_eq, flat_recsSlots s flag hs _ fs h, payE, lenSlots_eq s flag hs _ (decls_wf s hs i).1 fs h]

/-! ### every record of a field carries one of its field numbers, and never the end-group wire type -/

theorem wtOf_ne_egroup (ty : FTy) : wtOf ty ≠ .egroup := by
  cases ty with
  | scalar c => cases c <;> simp [wtOf, Codec.wt, Codec.shape]
  | msg i => simp [wtOf]

theorem recsEs_tags (s : Schema) (flag : Bool) (tag : Nat) (ty : FTy) : ∀ (xs : EVals),
    ∀ r ∈ recsEs s flag tag ty xs, r.tag = tag ∧ r.wt ≠ .egroup
  | .nil, _, h => by cases h
  | .cons v rest, r, h => by
    rcases List.mem_cons.mp h with rfl | h
    · exact ⟨rfl, wtOf_ne_egroup ty⟩
    · exact recsEs_tags s flag tag ty rest r h

theorem recsPairs_tags (s : Schema) (flag : Bool) (tag : Nat) (kc : Codec) (vty : FTy) : ∀ (kvs : Pairs),
    ∀ r ∈ recsPairs s flag tag kc vty kvs, r.tag = tag ∧ r.wt ≠ .egroup
  | .nil, _, h => by cases h
  | .cons k v rest, r, h => by
    rcases List.mem_cons.mp h with rfl | h
    · exact ⟨rfl, by simp⟩
    · exact recsPairs_tags s flag tag kc vty rest r h

theorem recsSlot_tags (s : Schema) (flag : Bool) (d : FieldDecl) (v : Slot) :
    ∀ r ∈ recsSlot s flag d v, d.tags.contains r.tag = true ∧ r.wt ≠ .egroup := by
  intro r
  fun_cases recsSlot s flag d v <;> intro h
  · cases List.mem_singleton.mp h; exact ⟨by simp [recE, FieldDecl.tags], wtOf_ne_egroup _⟩
  · cases List.mem_singleton.mp h; exact ⟨by simp [recE, FieldDecl.tags], wtOf_ne_egroup _⟩
  · have := recsEs_tags s flag _ _ _ r h; exact ⟨by simp [FieldDecl.tags, this.1], this.2⟩
  · have := recsPairs_tags s flag _ _ _ _ r h; exact ⟨by simp [FieldDecl.tags, this.1], this.2⟩
  · rename_i hl; cases List.mem_singleton.mp h; exact ⟨lookupVariant_tags _ _ _ hl, wtOf_ne_egroup _⟩
  · cases h
  · cases h

theorem allTags_cons (d : FieldDecl) (b : List FieldDecl) : allTags (d :: b) = d.tags ++ allTags b := by
  simp [allTags]

theorem allTags_append (a b : List FieldDecl) : allTags (a ++ b) = allTags a ++ allTags b := by
  simp [allTags]

theorem recsSlots_tags (s : Schema) (flag : Bool) : ∀ (ds : List FieldDecl) (vs : Slots),
    ∀ r ∈ recsSlots s flag ds vs, r.tag ∈ allTags ds ∧ r.wt ≠ .egroup
  | [], _, r, h => by cases h
  | _ :: _, .nil, r, h => by cases h
  | d :: ds, .cons v rest, r, h => by
    rw [allTags_cons, List.mem_append]
    rcases List.mem_append.mp h with h | h
    · have := recsSlot_tags s flag d v r h; exact ⟨.inl (by simpa using this.1), this.2⟩
    · have := recsSlots_tags s flag ds rest r h; exact ⟨.inr this.1, this.2⟩

theorem wf_tags_ok (n : Nat) : ∀ (D : List FieldDecl), D.all (FieldDecl.wfIn n) = true → ∀ t ∈ allTags D, tagOk t = true
  | [], _, t, h => by cases h
  | d :: D, hw, t, h => by
    simp only [List.all_cons, Bool.and_eq_true] at hw
    rw [allTags_cons, List.mem_append] at h
    rcases h with h | h
    · exact wfIn_tags_ok hw.1 t (by simpa using h)
    · exact wf_tags_ok n D hw.2 t h

theorem nodup_iff : ∀ (l : List Nat), nodup l = true ↔ l.Nodup
  | [] => by simp [nodup]
  | x :: xs => by
    simp only [nodup, Bool.and_eq_true, Bool.not_eq_true', List.nodup_cons, nodup_iff xs]
    simp

theorem nodup_tail (d : FieldDecl) (ds : List FieldDecl) (h : nodup (allTags (d :: ds)) = true) : nodup (allTags ds) = true := by
  rw [nodup_iff, allTags_cons, List.nodup_append] at h
  exact (nodup_iff _).mpr h.2.1

theorem filter_slot (s : Schema) (flag : Bool) (d : FieldDecl) (ds : List FieldDecl) (v : Slot) (rest : Slots)
    (hnd : nodup (allTags (d :: ds)) = true) :
    (recsSlots s flag (d :: ds) (.cons v rest)).filter (fun r => d.tags.contains r.tag) = recsSlot s flag d v ∧
    (recsSlots s flag (d :: ds) (.cons v rest)).filter (fun r => !d.tags.contains r.tag) = recsSlots s flag ds rest := by
  rw [nodup_iff, allTags_cons, List.nodup_append] at hnd
  obtain ⟨_, _, hdis⟩ := hnd
  have h1 : ∀ r ∈ recsSlot s flag d v, d.tags.contains r.tag = true := fun r hr => (recsSlot_tags s flag d v r hr).1
  have h2 : ∀ r ∈ recsSlots s flag ds rest, d.tags.contains r.tag = false := by
    intro r hr
    have := (recsSlots_tags s flag ds rest r hr).1
    cases hc : d.tags.contains r.tag with
    | false => rfl
    | true => exact absurd rfl (hdis r.tag (by simpa using hc) r.tag this)
  simp only [recsSlots, List.filter_append]
  constructor
  · rw [List.filter_eq_self.mpr h1, List.filter_eq_nil_iff.mpr (by intro r hr; rw [h2 r hr]; simp)]; simp
  · rw [List.filter_eq_nil_iff.mpr (by intro r hr; rw [h1 r hr]; simp), List.filter_eq_self.mpr (by intro r hr; rw [h2 r hr]; simp)]; simp

end Pilota.Proto
