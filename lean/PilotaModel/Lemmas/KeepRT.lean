import PilotaModel.Lemmas.KeepRTFields
/-  C13, the half about the full reader (the one with the writer's document `dw`): a typed value (`hasTy`) is a fixpoint of the full reader's projection
    (`canon_of_hasTy`), and whatever a reader that lacks some fields (`restrict`) makes of it with retention is mapped
    back to the original value by the full reader (`keep_back_all`). -/
namespace Pilota.TGen
open Pilota Pilota.Thrift

section
variable (d : Doc) (dp : Option Nat)

theorem find_declared (d : Doc) {fs : List Field} (hpw : fs.Pairwise (fun a b => a.id ≠ b.id)) {fl : Field} (hfl : fl ∈ fs)
    {id : Int} {t : TType} (hid : fl.id = id) (htt : d.ttype fl.ty = t) :
    fs.find? (fun x => x.id == id && d.ttype x.ty == t) = some fl := by
  apply find_unique_key (·.id) fs hpw fl hfl
  · simp only [Bool.and_eq_true, beq_iff_eq]; exact ⟨hid, htt⟩
  · intro x hx; simp only [Bool.and_eq_true, beq_iff_eq] at hx; rw [hx.1, hid]

theorem find_filter_declared (d : Doc) {fs : List Field} (hpw : fs.Pairwise (fun a b => a.id ≠ b.id)) {fl : Field} (hfl : fl ∈ fs)
    {id : Int} {t : TType} (hid : fl.id = id) (htt : d.ttype fl.ty = t) (kp : Field → Bool) :
    (fs.filter kp).find? (fun x => x.id == id && d.ttype x.ty == t) = if kp fl = true then some fl else none :=
  find_filter_key (·.id) fs hpw fl hfl _ (by simp only [Bool.and_eq_true, beq_iff_eq]; exact ⟨hid, htt⟩)
    (fun x hx => by simp only [Bool.and_eq_true, beq_iff_eq] at hx; rw [hx.1, hid]) kp

/-- `y` is read back as `x` at type `ty`, at some budget.  `Back d dp ty w w` says that `w` is a value of the emitted type:
it is `Props/C02.Canon d dp G ty w` for some `G`; the property files (C13, C20b, C20c) write the `∃ G` out. -/
def Back (ty : STy) (x y : TVal) : Prop := ∃ G, projTy d dp G ty y = some (.ok x)

theorem Back.inj {ty : STy} {x x' y : TVal} (h : Back d dp ty x y) (h' : Back d dp ty x' y) : x = x' := by
  obtain ⟨G, hG⟩ := h
  obtain ⟨G', hG'⟩ := h'
  have a := projTy_mono d dp G (max G G') (Nat.le_max_left _ _) ty y x hG
  have b := projTy_mono d dp G' (max G G') (Nat.le_max_right _ _) ty y x' hG'
  rw [a] at b; cases b; rfl

theorem projN_all2 (e : STy) {xs ys : List TVal} (h : All2 (Back d dp e) xs ys) :
    ∃ G, ∀ acc, projN d dp G e (TVals.ofList ys) acc = some (.ok (acc.reverse ++ xs)) := by
  induction h with
  | nil => exact ⟨1, fun acc => by simp [TVals.ofList, projN]⟩
  | @cons a b as bs hr _ ih =>
    obtain ⟨G1, h1⟩ := hr
    obtain ⟨G2, h2⟩ := ih
    refine ⟨max G1 G2 + 1, fun acc => ?_⟩
    simp only [TVals.ofList, projN]
    rw [projTy_mono d dp G1 _ (Nat.le_max_left _ _) e b a h1]
    simp only
    rw [projN_mono d dp G2 _ (Nat.le_max_right _ _) e _ _ _ (h2 (a :: acc))]
    simp

theorem projPairs_all2 (k v : STy) {xs ys : List (TVal × TVal)}
    (h : All2 (fun x y => Back d dp k x.1 y.1 ∧ Back d dp v x.2 y.2) xs ys) :
    ∃ G, ∀ acc, projPairs d dp G k v (TPairs.ofList ys) acc = some (.ok (acc.reverse ++ xs)) := by
  induction h with
  | nil => exact ⟨1, fun acc => by simp [TPairs.ofList, projPairs]⟩
  | @cons a b as bs hr _ ih =>
    obtain ⟨⟨G1, h1⟩, ⟨G1', h1'⟩⟩ := hr
    obtain ⟨G2, h2⟩ := ih
    refine ⟨max (max G1 G1') G2 + 1, fun acc => ?_⟩
    obtain ⟨bk, bv⟩ := b
    simp only [TPairs.ofList, projPairs]
    rw [projTy_mono d dp G1 _ (by omega) k bk a.1 h1]
    simp only
    rw [projTy_mono d dp G1' _ (by omega) v bv a.2 h1']
    simp only
    rw [projPairs_mono d dp G2 _ (by omega) k v _ _ _ (h2 ((a.1, a.2) :: acc))]
    simp

theorem projN_back (e : STy) {xs : List TVal} {ys : TVals} (h : All2 (Back d dp e) xs ys.toList) :
    ∃ G, projN d dp G e ys [] = some (.ok xs) := by
  obtain ⟨G, hG⟩ := projN_all2 d dp e h
  exact ⟨G, by simpa [TVals.ofList_toList] using hG []⟩

theorem projPairs_back (k v : STy) {xs : List (TVal × TVal)} {ys : TPairs}
    (h : All2 (fun x y => Back d dp k x.1 y.1 ∧ Back d dp v x.2 y.2) xs ys.toList) :
    ∃ G, projPairs d dp G k v ys [] = some (.ok xs) := by
  obtain ⟨G, hG⟩ := projPairs_all2 d dp k v h
  exact ⟨G, by simpa [TPairs.ofList_toList] using hG []⟩

/-- the reader over a struct each of whose entries either stands for a field of the typed struct `wfs`, being read back as that
field's value, or is unknown to the reader and within its skipper's budget, every field of `wfs` being stood for: the result is `wfs` -/
theorem struct_read (P : STy → TVal → Bool) (n : String) (fs : List Field) (hn : d.find n = some (.struct fs))
    (hpw : fs.Pairwise (fun a b => a.id ≠ b.id)) (wfs : TFields) (hf : hasFields d P fs wfs = true) (es : List (Int × TVal))
    (hes : ∀ p ∈ es, (∃ v, (p.1, v) ∈ wfs.toList ∧ p.2.ttype = v.ttype ∧ ∃ G, ∀ fl ∈ fs, fl.id = p.1 → projTy d dp G fl.ty p.2 = some (.ok v)) ∨
      (inS 2 p.1 ∧ fs.find? (fun x => x.id == p.1 && d.ttype x.ty == p.2.ttype) = none ∧ admitsB dp p.2.need = true))
    (hcov : ∀ q ∈ wfs.toList, ∃ p ∈ es, p.1 = q.1 ∧ p.2.ttype = q.2.ttype) :
    ∃ G, projTy d dp G (.ref n) (.struct (TFields.ofList es)) = some (.ok (.struct wfs)) := by
  have hnd := hasFields_nodup d P fs wfs hpw hf
  -- the value the field `id` has in `wfs` (the filler `.bool false` is never read)
  let φ : Int → TVal := fun id => (slotGet wfs.toList id).getD (.bool false)
  have hφ : ∀ q ∈ wfs.toList, φ q.1 = q.2 := fun q hq => by
    show (slotGet wfs.toList q.1).getD _ = q.2
    rw [slotGet_of_mem wfs.toList hnd q hq]; rfl
  let known : Int × TVal → Option Field := fun p => fs.find? (fun x => x.id == p.1 && d.ttype x.ty == p.2.ttype)
  let Q : (Int × TVal) → Nat → Prop := fun p G => inS 2 p.1 ∧
    ((∃ fl, known p = some fl ∧ projTy d dp G fl.ty p.2 = some (.ok (φ p.1))) ∨ (known p = none ∧ admitsB dp p.2.need = true))
  have hQ : ∀ p ∈ es, ∃ G, Q p G := by
    intro p hp
    rcases hes p hp with ⟨v, hm, htt, G, hG⟩ | ⟨hin, hnone, hadm⟩
    · obtain ⟨fl, hfl, hid, hin, hty, _⟩ := hasFields_mem d P fs wfs hpw hf (p.1, v) hm
      exact ⟨G, hin, .inl ⟨fl, find_declared d hpw hfl hid (by rw [hty, htt]), by rw [hφ _ hm]; exact hG fl hfl hid⟩⟩
    · exact ⟨0, hin, .inr ⟨hnone, hadm⟩⟩
  obtain ⟨F, hF⟩ := uniform_fuel Q (by
    rintro p f g hfg ⟨hin, ⟨fl, hfind, hproj⟩ | hc⟩
    · exact ⟨hin, .inl ⟨fl, hfind, projTy_mono d dp f g hfg _ _ _ hproj⟩⟩
    · exact ⟨hin, .inr hc⟩) es hQ
  obtain ⟨slots', hrun, hget⟩ := projFields_mixed d dp fs φ F es [] hF
  refine ⟨F + es.length + 1 + 1, ?_⟩
  simp only [projTy, hn, hrun]
  have hfin : finish fs slots' = .ok wfs.toList := by
    apply hasFields_finish d P fs wfs slots' hpw hf
    intro fl hfl
    rw [hget fl.id]
    split
    · rename_i hany
      obtain ⟨p, hp, hpk⟩ := List.any_eq_true.mp hany
      simp only [Bool.and_eq_true, beq_iff_eq] at hpk
      rcases hes p hp with ⟨v, hm, _⟩ | ⟨_, hnone, _⟩
      · rw [← hpk.2, hφ _ hm, slotGet_of_mem wfs.toList hnd _ hm]
      · rw [hnone] at hpk; cases hpk.1
    · rename_i hany
      refine (slotGet_none_of_not_mem _ _ fun q hq heq => hany ?_).symm
      obtain ⟨p, hp, hpid, hptt⟩ := hcov q hq
      obtain ⟨fl', hfl', hid', _, hty', _⟩ := hasFields_mem d P fs wfs hpw hf q hq
      exact List.any_eq_true.mpr ⟨p, hp, by
        rw [find_declared d hpw hfl' (hid'.trans hpid.symm) (hty'.trans hptt.symm)]; simp [hpid, heq]⟩
  rw [hfin]
  simp [TFields.ofList_toList]

theorem struct_back (P : STy → TVal → Bool) (n : String) (fs : List Field) (hn : d.find n = some (.struct fs))
    (hpw : fs.Pairwise (fun a b => a.id ≠ b.id)) (wfs : TFields) (hf : hasFields d P fs wfs = true) (es : List (Int × TVal))
    (hes : ∀ p ∈ es, ∃ v, (p.1, v) ∈ wfs.toList ∧ p.2.ttype = v.ttype ∧ ∃ G, ∀ fl ∈ fs, fl.id = p.1 → projTy d dp G fl.ty p.2 = some (.ok v))
    (hcov : ∀ q ∈ wfs.toList, ∃ p ∈ es, p.1 = q.1) :
    ∃ G, projTy d dp G (.ref n) (.struct (TFields.ofList es)) = some (.ok (.struct wfs)) := by
  refine struct_read d dp P n fs hn hpw wfs hf es (fun p hp => .inl (hes p hp)) fun q hq => ?_
  obtain ⟨p, hp, hpid⟩ := hcov q hq
  obtain ⟨v, hm, htt, _⟩ := hes p hp
  have hnd := hasFields_nodup d P fs wfs hpw hf
  have : v = q.2 := Option.some.inj ((slotGet_of_mem _ hnd _ hm).symm.trans (hpid ▸ slotGet_of_mem _ hnd q hq))
  exact ⟨p, hp, hpid, this ▸ htt⟩

theorem canon_of_hasTy (hd : d.fieldsOk) : ∀ (f : Nat) (ty : STy) (w : TVal), hasTy d f ty w = true → Back d dp ty w w := by
  intro f
  induction f with
  | zero => intro ty w h; cases h
  | succ f ih =>
    refine hasTy_step d (fun ty w hb => ⟨1, projTy_base d dp 0 hb⟩) (fun e xs hall => ?_) (fun e xs hall hnd => ?_)
      (fun k v kvs hall hnd => ?_) (fun n fs wfs hn h => ?_) (fun n vs id v pid ty hn hfind hin htt hty => ?_)
      (fun n i tl hn => ⟨2, by simp [projTy, hn, projUnion]⟩) (fun n x hn => ⟨1, by simp [projTy, hn]⟩) (fun n t w hn h => ?_)
    · obtain ⟨G, hG⟩ := projN_back d dp e (All2.refl_of xs.toList (fun x hx => ih e x (hall x hx)))
      exact ⟨G + 1, by simp [projTy, hG, TVals.ofList_toList]⟩
    · obtain ⟨G, hG⟩ := projN_back d dp e (All2.refl_of xs.toList (fun x hx => ih e x (hall x hx)))
      exact ⟨G + 1, by simp [projTy, hG, foldl_setInsert_nodup xs.toList [] hnd (by simp), TVals.ofList_toList]⟩
    · obtain ⟨G, hG⟩ := projPairs_back d dp k v (All2.refl_of kvs.toList (fun x hx => ⟨ih k x.1 (hall x hx).1, ih v x.2 (hall x hx).2⟩))
      exact ⟨G + 1, by simp [projTy, hG, foldl_mapInsert_nodup kvs.toList [] hnd (by simp), TPairs.ofList_toList]⟩
    · have := struct_back d dp (hasTy d f) n fs hn (hd n fs hn) wfs h wfs.toList (by
        intro p hp
        refine ⟨p.2, hp, rfl, ?_⟩
        obtain ⟨fl, hfl, hid, _, _, hty⟩ := hasFields_mem d _ fs wfs (hd n fs hn) h p hp
        obtain ⟨G, hG⟩ := ih fl.ty p.2 hty
        refine ⟨G, fun fl' hfl' hid' => ?_⟩
        have : fl' = fl := same_key (·.id) fs (hd n fs hn) fl' fl hfl' hfl (by rw [hid, hid'])
        rw [this]; exact hG) (fun q hq => ⟨q, hq, rfl⟩)
      rw [TFields.ofList_toList] at this
      exact this
    · obtain ⟨G, hG⟩ := ih ty v hty
      refine ⟨G + 1 + 1 + 1, ?_⟩
      have hG' := projTy_mono d dp G (G + 1) (by omega) ty v v hG
      simp only [projTy, hn, projUnion, hin, not_true_eq_false, if_false, hfind, Option.isSome_none, Bool.false_eq_true,
        htt, bne_self_eq_false, hG']
    · obtain ⟨G, hG⟩ := ih t w h
      exact ⟨G + 1, by simp [projTy, hn, hG]⟩

end

section
variable (dw : Doc) (keep : String → Field → Bool) (dpr dpw : Option Nat)

/-- `Back` for the writer's document (`y` is read back as `x` by the full reader), and `y` has the wire type of `x` -/
def BackT (ty : STy) (x y : TVal) : Prop := y.ttype = x.ttype ∧ Back dw dpw ty x y

theorem projNK_inv (e : STy) (P : TVal → Prop)
    (hIH : ∀ x, P x → ∀ fK y, projTyK (restrict dw keep) dpr fK e x = some (.ok y) → BackT dw dpw e x y) :
    ∀ (fK : Nat) (xs : TVals), (∀ x ∈ xs.toList, P x) → ∀ acc ys, projNK (restrict dw keep) dpr fK e xs acc = some (.ok ys) →
      ∃ ys0, ys = acc.reverse ++ ys0 ∧ All2 (BackT dw dpw e) xs.toList ys0 := by
  intro fK
  induction fK with
  | zero => intro xs _ acc ys h; simp [projNK] at h
  | succ fK ih =>
    intro xs hP acc ys h
    cases xs with
    | nil =>
      simp only [projNK, Option.some.injEq, Out.ok.injEq] at h
      exact ⟨[], by simp [h], .nil⟩
    | cons x xs =>
      simp only [projNK] at h
      split at h <;> try (cases h; done)
      rename_i v hx
      obtain ⟨ys0, hy, hall⟩ := ih xs (fun y hy => hP y (by simp [TVals.toList, hy])) (v :: acc) ys h
      exact ⟨v :: ys0, by simp [hy], .cons (hIH x (hP x (by simp [TVals.toList])) fK v hx) hall⟩

theorem projPairsK_inv (k v : STy) (P Q : TVal → Prop)
    (hK : ∀ x, P x → ∀ fK y, projTyK (restrict dw keep) dpr fK k x = some (.ok y) → BackT dw dpw k x y)
    (hV : ∀ x, Q x → ∀ fK y, projTyK (restrict dw keep) dpr fK v x = some (.ok y) → BackT dw dpw v x y) :
    ∀ (fK : Nat) (xs : TPairs), (∀ x ∈ xs.toList, P x.1 ∧ Q x.2) → ∀ acc ys, projPairsK (restrict dw keep) dpr fK k v xs acc = some (.ok ys) →
      ∃ ys0, ys = acc.reverse ++ ys0 ∧ All2 (fun x y => BackT dw dpw k x.1 y.1 ∧ BackT dw dpw v x.2 y.2) xs.toList ys0 := by
  intro fK
  induction fK with
  | zero => intro xs _ acc ys h; simp [projPairsK] at h
  | succ fK ih =>
    intro xs hP acc ys h
    cases xs with
    | nil =>
      simp only [projPairsK, Option.some.injEq, Out.ok.injEq] at h
      exact ⟨[], by simp [h], .nil⟩
    | cons a b xs =>
      simp only [projPairsK] at h
      split at h <;> try (cases h; done)
      rename_i ka ha
      split at h <;> try (cases h; done)
      rename_i vb hb
      obtain ⟨ys0, hy, hall⟩ := ih xs (fun y hy => hP y (by simp [TPairs.toList, hy])) ((ka, vb) :: acc) ys h
      have hab := hP (a, b) (by simp [TPairs.toList])
      exact ⟨(ka, vb) :: ys0, by simp [hy], .cons ⟨hK a hab.1 fK ka ha, hV b hab.2 fK vb hb⟩ hall⟩

/-- does the reader (which has the fields of `fs0` that `kp` keeps) know the wire field `p`? -/
def keptBy (fs0 : List Field) (kp : Field → Bool) (p : Int × TVal) : Bool :=
  match fs0.find? (fun x => x.id == p.1 && dw.ttype x.ty == p.2.ttype) with
  | some fl => kp fl
  | none => false

/-- `q` stands for the wire field `p`: same id, same wire type, and read back as `p`'s value by every declared field of that id -/
def RelK (fs0 : List Field) (p q : Int × TVal) : Prop :=
  q.1 = p.1 ∧ q.2.ttype = p.2.ttype ∧ ∃ G, ∀ fl ∈ fs0, fl.id = p.1 → projTy dw dpw G fl.ty q.2 = some (.ok p.2)

theorem projFieldsK_inv (fs0 : List Field) (kp : Field → Bool) (hpw : fs0.Pairwise (fun a b => a.id ≠ b.id)) (f : Nat)
    (hIH : ∀ ty x, hasTy dw f ty x = true → ∀ fK y, projTyK (restrict dw keep) dpr fK ty x = some (.ok y) → BackT dw dpw ty x y) :
    ∀ (fK : Nat) (wfs : TFields), (∀ p ∈ wfs.toList, ∃ fl ∈ fs0, fl.id = p.1 ∧ dw.ttype fl.ty = p.2.ttype ∧ hasTy dw f fl.ty p.2 = true) →
    ∀ slots unk slots' unk', projFieldsK (restrict dw keep) dpr fK (fs0.filter kp) slots unk wfs = some (.ok (slots', unk')) →
      ∃ ks, slots' = setAll slots ks ∧ unk' = unk ++ wfs.toList.filter (fun p => !keptBy dw fs0 kp p) ∧
        All2 (RelK dw dpw fs0) (wfs.toList.filter (keptBy dw fs0 kp)) ks := by
  intro fK
  induction fK with
  | zero => intro wfs _ slots unk slots' unk' h; simp [projFieldsK] at h
  | succ fK ih =>
    intro wfs hty slots unk slots' unk' h
    cases wfs with
    | nil =>
      simp only [projFieldsK, Option.some.injEq, Out.ok.injEq, Prod.mk.injEq] at h
      exact ⟨[], by simp [setAll, h.1], by simp [TFields.toList, h.2], by simp [TFields.toList]; exact .nil⟩
    | cons id v r =>
      obtain ⟨fl, hfl, hid, htt, hv⟩ := hty (id, v) (by simp [TFields.toList])
      have hfind0 := find_declared dw hpw hfl hid htt
      have hrest : ∀ p ∈ r.toList, ∃ fl ∈ fs0, fl.id = p.1 ∧ dw.ttype fl.ty = p.2.ttype ∧ hasTy dw f fl.ty p.2 = true :=
        fun p hp => hty p (by simp [TFields.toList, hp])
      have hfr := find_filter_declared dw hpw hfl hid htt kp
      simp only [projFieldsK, restrict_ttype] at h
      split at h
      · cases h
      · by_cases hk : kp fl = true
        · rw [if_pos hk] at hfr
          rw [hfr] at h
          simp only at h
          split at h <;> try (cases h; done)
          rename_i pv hx
          obtain ⟨ks, h1, h2, h3⟩ := ih r hrest _ unk slots' unk' h
          have hkept : keptBy dw fs0 kp (id, v) = true := by simp [keptBy, hfind0, hk]
          refine ⟨(id, pv) :: ks, by simpa [setAll] using h1, ?_, ?_⟩
          · simp [TFields.toList, hkept, h2]
          · simp only [TFields.toList, List.filter_cons, hkept, if_true]
            obtain ⟨ht, G, hG⟩ := hIH fl.ty v hv fK pv hx
            refine .cons ⟨rfl, ht, G, fun fl' hfl' hid' => ?_⟩ h3
            rw [same_key (·.id) fs0 hpw fl' fl hfl' hfl (by rw [hid, hid'])]; exact hG
        · rw [if_neg hk] at hfr
          rw [hfr] at h
          simp only at h
          split at h
          · obtain ⟨ks, h1, h2, h3⟩ := ih r hrest slots _ slots' unk' h
            have hkept : keptBy dw fs0 kp (id, v) = false := by simp [keptBy, hfind0, hk]
            refine ⟨ks, h1, ?_, ?_⟩
            · simp [TFields.toList, hkept, h2]
            · simpa [TFields.toList, List.filter_cons, hkept] using h3
          · cases h


theorem keptBy_eq (fs0 : List Field) (kp : Field → Bool) (hpw : fs0.Pairwise (fun a b => a.id ≠ b.id)) (q : Int × TVal) (fl : Field)
    (hfl : fl ∈ fs0) (hid : fl.id = q.1) (htt : dw.ttype fl.ty = q.2.ttype) : keptBy dw fs0 kp q = kp fl := by
  simp [keptBy, find_declared dw hpw hfl hid htt]

theorem keptBy_of_hasFields {P : STy → TVal → Bool} {fs0 : List Field} (kp : Field → Bool) (hpw : fs0.Pairwise (fun a b => a.id ≠ b.id))
    {wfs : TFields} (h : hasFields dw P fs0 wfs = true) {q : Int × TVal} (hq : q ∈ wfs.toList) {fl : Field} (hfl : fl ∈ fs0)
    (hid : fl.id = q.1) (hkp : kp fl = true) : keptBy dw fs0 kp q = true := by
  obtain ⟨fl', hfl', hid', _, htt', _⟩ := hasFields_mem dw P fs0 wfs hpw h q hq
  cases same_key (·.id) fs0 hpw fl' fl hfl' hfl (by rw [hid, hid'])
  rw [keptBy_eq dw fs0 kp hpw q fl hfl hid htt']; exact hkp

/-- a kept field that the typed struct has an entry for gets a slot from any run of `slotSet`s that covers the kept wire fields -/
theorem keptSlot {P : STy → TVal → Bool} {fs0 : List Field} (kp : Field → Bool) (hpw : fs0.Pairwise (fun a b => a.id ≠ b.id))
    {wfs : TFields} (h : hasFields dw P fs0 wfs = true) {ks : List (Int × TVal)}
    (hcov : ∀ q ∈ wfs.toList, keptBy dw fs0 kp q = true → ∃ k ∈ ks, k.1 = q.1) {q : Int × TVal} (hq : q ∈ wfs.toList) {fl : Field}
    (hfl : fl ∈ fs0) (hkp : kp fl = true) (hid : fl.id = q.1) : (slotGet (setAll [] ks) fl.id).isSome = true := by
  obtain ⟨k, hkm, hk1⟩ := hcov q hq (keptBy_of_hasFields dw kp hpw h hq hfl hid hkp)
  exact setAll_get_isSome ks [] fl.id (.inl ⟨k, hkm, by rw [hk1, hid]⟩)

theorem find_filter_variant {vs : List (Int × STy)} (hpw : vs.Pairwise (fun a b => a.1 ≠ b.1)) {id pid : Int} {ty : STy}
    (hfind : vs.find? (fun x => x.1 == id && !(x.2 == .void)) = some (pid, ty)) (kp : Int × STy → Bool) :
    (vs.filter kp).find? (fun x => x.1 == id && !(x.2 == .void)) = if kp (pid, ty) = true then some (pid, ty) else none := by
  have hq := List.find?_some hfind
  simp only [Bool.and_eq_true, beq_iff_eq] at hq
  exact find_filter_key (·.1) vs hpw (pid, ty) (List.mem_of_find?_eq_some hfind) _ (List.find?_some hfind)
    (fun y hy => by simp only [Bool.and_eq_true, beq_iff_eq] at hy; rw [hy.1, hq.1]) kp

theorem keep_back_all (hd : dw.fieldsOk) (hu : dw.variantsOk) : ∀ (f : Nat) (ty : STy) (w : TVal), hasTy dw f ty w = true →
    ∀ fK w', projTyK (restrict dw keep) dpr fK ty w = some (.ok w') → BackT dw dpw ty w w' := by
  intro f
  induction f with
  | zero => intro ty w h; cases h
  | succ f ih =>
    refine hasTy_step dw (fun ty w hb fK w' hk => ?_) (fun e xs hall fK w' hk => ?_) (fun e xs hall hnd fK w' hk => ?_)
      (fun k v kvs hall hnd fK w' hk => ?_) (fun n fs0 wfs hn h fK w' hk => ?_)
      (fun n vs id v pid ty hn hfind hin htt hty fK w' hk => ?_) (fun n i tl hn fK w' hk => ?_) (fun n x hn fK w' hk => ?_)
      (fun n t w hn h fK w' hk => ?_) <;> cases fK <;> try (cases hk; done)
    · rw [projTyK_base _ _ _ hb] at hk; cases hk
      exact ⟨rfl, 1, projTy_base dw dpw 0 hb⟩
    · rename_i fK
      simp only [projTyK] at hk
      split at hk <;> cases hk
      rename_i ys hn
      obtain ⟨ys0, hy, hall2⟩ := projNK_inv dw keep dpr dpw e (fun x => hasTy dw f e x = true) (fun x hx => ih e x hx) fK xs hall [] ys hn
      cases hy
      obtain ⟨G, hG⟩ := projN_all2 dw dpw e (All2.imp (fun _ _ h => h.2) hall2)
      refine ⟨rfl, G + 1, ?_⟩
      simp [projTy, hG [], TVals.ofList_toList]
    · rename_i fK
      simp only [projTyK] at hk
      split at hk <;> cases hk
      rename_i ys hn
      obtain ⟨ys0, hy, hall2⟩ := projNK_inv dw keep dpr dpw e (fun x => hasTy dw f e x = true) (fun x hx => ih e x hx) fK xs hall [] ys hn
      cases hy
      have hnd2 : ys0.Nodup := All2.nodup_right (R := BackT dw dpw e) (fun a a' b h1 h2 => Back.inj dw dpw h1.2 h2.2) hall2 hnd
      obtain ⟨G, hG⟩ := projN_all2 dw dpw e (All2.imp (fun _ _ h => h.2) hall2)
      refine ⟨rfl, G + 1, ?_⟩
      simp only [List.reverse_nil, List.nil_append]
      rw [foldl_setInsert_nodup ys0 [] hnd2 (by simp)]
      simp [projTy, hG [], foldl_setInsert_nodup xs.toList [] hnd (by simp), TVals.ofList_toList]
    · rename_i fK
      simp only [projTyK] at hk
      split at hk <;> cases hk
      rename_i ys hn
      obtain ⟨ys0, hy, hall2⟩ := projPairsK_inv dw keep dpr dpw k v (fun x => hasTy dw f k x = true) (fun x => hasTy dw f v x = true)
        (fun x hx => ih k x hx) (fun x hx => ih v x hx) fK kvs hall [] ys hn
      cases hy
      have hnd2 : (ys0.map (·.1)).Nodup :=
        All2.nodup_right (R := BackT dw dpw k) (fun a a' b h1 h2 => Back.inj dw dpw h1.2 h2.2) (All2.map (·.1) (·.1) (fun _ _ h => h.1) hall2) hnd
      obtain ⟨G, hG⟩ := projPairs_all2 dw dpw k v (All2.imp (fun _ _ h => ⟨h.1.2, h.2.2⟩) hall2)
      refine ⟨rfl, G + 1, ?_⟩
      simp only [List.reverse_nil, List.nil_append]
      rw [foldl_mapInsert_nodup ys0 [] hnd2 (by simp)]
      simp [projTy, hG [], foldl_mapInsert_nodup kvs.toList [] hnd (by simp), TPairs.ofList_toList]
    · rename_i fK
      have hpw := hd n fs0 hn
      have hnr := restrict_find_struct dw keep hn
      simp only [projTyK, hnr] at hk
      split at hk <;> try (cases hk; done)
      rename_i slots unk hl
      split at hk <;> cases hk
      rename_i out hfin
      have hmem := hasFields_mem dw (hasTy dw f) fs0 wfs hpw h
      obtain ⟨ks, hs, hu, hrel⟩ := projFieldsK_inv dw keep dpr dpw fs0 (keep n) hpw f (fun ty x hx => ih ty x hx) fK wfs
          (fun p hp => by obtain ⟨fl, a, b, _, c, e⟩ := hmem p hp; exact ⟨fl, a, b, c, e⟩) [] [] slots unk hl
      simp only [List.nil_append] at hu
      have keptSlot : ∀ q ∈ wfs.toList, ∀ fl ∈ fs0, keep n fl = true → fl.id = q.1 → (slotGet slots fl.id).isSome = true :=
        fun q hq fl hfl hkp hid => hs ▸ keptSlot dw (keep n) hpw h
          (fun q hq hk => let ⟨k, hkm, hk1, _⟩ := hrel.mem_left q (List.mem_filter.mpr ⟨hq, hk⟩); ⟨k, hkm, hk1⟩) hq hfl hkp hid
      refine ⟨rfl, ?_⟩
      -- `out ++ unk` (known fields, then the retained ones) is a rearrangement of the fields of `wfs`, each read back as the
      -- field it stands for; a default of the reader never fills a slot, since a kept field present on the wire has one
      apply struct_back dw dpw (hasTy dw f) n fs0 hn hpw wfs h (out ++ unk)
      · intro p hp
        rcases List.mem_append.mp hp with hpo | hpu
        · obtain ⟨fl, hflr, hid, hslot⟩ := finish_mem _ slots out hfin p hpo
          have hfl0 := List.mem_filter.mp hflr
          rcases hslot with hsome | ⟨hnone, hdf⟩
          · rw [hs] at hsome
            rcases setAll_get_some ks [] fl.id p.2 hsome with hin | hbad
            · obtain ⟨a, ha, ha1, ha2, G, hG⟩ := hrel.mem_right (fl.id, p.2) hin
              simp only at ha1 ha2 hG
              have hqw := (List.mem_filter.mp ha).1
              have hpa : (p.1, a.2) = a := by rw [← hid, ha1]
              refine ⟨a.2, by rw [hpa]; exact hqw, ha2, G, ?_⟩
              intro fl' hfl' hid'
              exact hG fl' hfl' (by rw [hid', ← hid, ha1])
            · simp [slotGet] at hbad
          · exfalso
            rcases hasFields_absent dw _ fs0 wfs hpw h fl hfl0.1 with ⟨q, hq, hqid⟩ | ⟨_, hdn⟩
            · have := keptSlot q hq fl hfl0.1 hfl0.2 hqid.symm
              rw [hnone] at this; cases this
            · rw [hdn] at hdf; cases hdf
        · rw [hu] at hpu
          have hpw' := (List.mem_filter.mp hpu).1
          obtain ⟨fl, hfl, hid, _, htt, hty⟩ := hmem p hpw'
          obtain ⟨G, hG⟩ := canon_of_hasTy dw dpw hd f fl.ty p.2 hty
          refine ⟨p.2, hpw', rfl, G, fun fl' hfl' hid' => ?_⟩
          rw [same_key (·.id) fs0 hpw fl' fl hfl' hfl (by rw [hid, hid'])]; exact hG
      · intro q hq
        by_cases hkq : keptBy dw fs0 (keep n) q = true
        · obtain ⟨fl, hfl, hid, _, htt, _⟩ := hmem q hq
          have hkp : keep n fl = true := by rw [← keptBy_eq dw fs0 (keep n) hpw q fl hfl hid htt]; exact hkq
          have hsome := keptSlot q hq fl hfl hkp hid
          obtain ⟨pv, hpv⟩ := Option.isSome_iff_exists.mp hsome
          have := finish_has _ slots out hfin fl (List.mem_filter.mpr ⟨hfl, hkp⟩) pv hpv
          exact ⟨(fl.id, pv), List.mem_append.mpr (.inl this), hid⟩
        · refine ⟨q, List.mem_append.mpr (.inr ?_), rfl⟩
          rw [hu]
          exact List.mem_filter.mpr ⟨hq, by simpa using hkq⟩
    · rename_i fK
      have h0 : hasTy dw (f + 1) (.ref n) (.struct (.cons id v .nil)) = true := by
        simp only [hasTy, hn, hfind, hin, htt, hty, decide_true, beq_self_eq_true, Bool.and_self]
      have hnr := restrict_find_union dw keep hn
      simp only [projTyK, hnr] at hk
      have hfr := find_filter_variant (hu n vs hn) hfind (keepVariant keep n)
      cases fK with
      | zero => cases hk
      | succ fK =>
      by_cases hkeep : keepVariant keep n (pid, ty) = true
      · -- the reader knows the variant
        rw [if_pos hkeep] at hfr
        simp only [projUnionK, hin, not_true_eq_false, if_false, hfr, Option.isSome_none, Bool.false_eq_true,
          restrict_ttype, htt, bne_self_eq_false] at hk
        rcases hx : projTyK (restrict dw keep) dpr fK ty v with _ | (pv | _ | _ | _) <;> simp only [hx] at hk <;>
          try (cases hk; done)
        cases fK with
        | zero => cases hx
        | succ fK =>
          simp only [projUnionK] at hk
          cases hk
          obtain ⟨ht, G, hG⟩ := ih ty v hty (fK + 1) pv hx
          refine ⟨rfl, G + 1 + 1 + 1, ?_⟩
          have hG' := projTy_mono dw dpw G (G + 1) (by omega) ty pv v hG
          simp only [projTy, hn, projUnion, hin, not_true_eq_false, if_false, hfind, Option.isSome_none, Bool.false_eq_true,
            ht, htt, bne_self_eq_false, hG']
      · -- a variant the reader lacks: retained as it is (`_UnknownFields`), so the re-encoding is the original
        rw [if_neg hkeep] at hfr
        simp only [projUnionK, hin, not_true_eq_false, if_false, hfr, Option.isSome_none, Bool.false_eq_true] at hk
        by_cases hadm : admitsB dpr v.need = true
        · simp only [hadm, if_true] at hk
          cases fK with
          | zero => cases hk
          | succ fK =>
            simp only [projUnionK] at hk
            cases hk
            exact ⟨rfl, canon_of_hasTy dw dpw hd (f + 1) (.ref n) _ h0⟩
        · simp [hadm] at hk
    · rename_i fK
      have hnr := restrict_find_unit dw keep hn
      simp only [projTyK, hnr] at hk
      cases fK with
      | zero => cases hk
      | succ fK =>
        simp only [projUnionK] at hk
        cases hk
        exact ⟨rfl, 2, by simp [projTy, hn, projUnion]⟩
    · rename_i fK
      have hnr := restrict_find_enum dw keep hn
      simp only [projTyK, hnr] at hk
      cases hk
      exact ⟨rfl, 1, by simp [projTy, hn]⟩
    · rename_i fK
      have hnr := restrict_find_typedef dw keep hn
      simp only [projTyK, hnr] at hk
      obtain ⟨ht, G, hG⟩ := ih t w h fK w' hk
      exact ⟨ht, G + 1, by simp [projTy, hn, hG]⟩

end
end Pilota.TGen
