import PilotaModel.Lemmas.SpecBin
/-  The reference's binary decoder recovers the value from every legal encoding. -/
namespace Pilota.Thrift.SpecBin
open Pilota Pilota.Thrift Pilota.Thrift.Spec

theorem count_be (n : Nat) (h : n < 2 ^ 31) (r : Bytes) : count (be 4 n ++ r) = .ok (n, r) := by
  have hs : signed 4 n = (n : Int) := by
    rw [signed_eq 4 n (by omega), toS4_eq n h]
  simp only [count, int, take_append' 4 _ r (be_length 4 _), ofBe_be, Nat.mod_eq_of_lt (show n < 256 ^ 4 by omega), hs,
    Int.toNat_natCast, if_neg (Int.not_lt.mpr (Int.natCast_nonneg n))]

theorem typeByte_code (t : TType) (c : Nat) (hc : binCode t = some c) (r : Bytes) :
    typeByte (UInt8.ofNat c :: r) = .ok (t, r) := by
  simp only [typeByte, u8_toNat_ofNat_lt c (binCode_lt hc), binTypeOfCode_binCode hc]

theorem payload_be (p r : Bytes) (hp : p.length < 2 ^ 31) : payload (be 4 p.length ++ (p ++ r)) = .ok (p, r) := by
  simp only [payload, count_be _ hp, take_append' _ p r rfl]

theorem listHdr_code (et : TType) (c : Nat) (hc : binCode et = some c) (n : Nat) (hn : n < 2 ^ 31) (r : Bytes) :
    listHdr (UInt8.ofNat c :: (be 4 n ++ r)) = .ok ((et, n), r) := by
  simp only [listHdr, typeByte_code et c hc, count_be _ hn]

theorem mapHdr_code (kt vt : TType) (ck cv : Nat) (hk : binCode kt = some ck) (hv : binCode vt = some cv) (n : Nat) (hn : n < 2 ^ 31)
    (r : Bytes) : mapHdr (UInt8.ofNat ck :: UInt8.ofNat cv :: (be 4 n ++ r)) = .ok ((kt, vt, n), r) := by
  simp only [mapHdr, typeByte_code kt ck hk, listHdr_code vt cv hv n hn r]

theorem fieldHdr_code (t : TType) (c : Nat) (hc : binCode t = some c) (id : Int) (hid : inS 2 id) (r : Bytes) :
    fieldHdr (UInt8.ofNat c :: (be 2 (twos 2 id) ++ r)) = .ok (some (t, id), r) := by
  have h4 := u8_toNat_ofNat_lt c (binCode_lt hc)
  simp only [fieldHdr, if_neg (byte_ne_zero (binCode_ne_zero hc) (binCode_lt hc)), h4, binTypeOfCode_binCode hc, int_be_twos 2 (by decide) id hid]

theorem fieldHdr_stop (r : Bytes) : fieldHdr ((0 : UInt8) :: r) = .ok (none, r) := rfl

theorem decodeAll_of_enc (f : Nat) :
    (∀ v bs, Enc v bs → v.size ≤ f → ∀ r, decode f v.ttype (bs ++ r) = .ok (v, r)) ∧
    (∀ fs bs, EncFields fs bs → fs.size ≤ f → ∀ r, decodeFields f (bs ++ r) = .ok (fs, r)) ∧
    (∀ et xs bs, EncVals et xs bs → xs.size ≤ f → ∀ r, decodeVals f et xs.length (bs ++ r) = .ok (xs, r)) ∧
    (∀ kt vt kvs bs, EncPairs kt vt kvs bs → kvs.size ≤ f → ∀ r, decodePairs f kt vt kvs.length (bs ++ r) = .ok (kvs, r)) := by
  induction f with
  | zero =>
    exact ⟨fun v _ _ hf => absurd v.size_pos (Nat.not_lt.mpr hf), fun fs _ _ hf => absurd fs.size_pos (Nat.not_lt.mpr hf),
      fun _ xs _ _ hf => absurd xs.size_pos (Nat.not_lt.mpr hf), fun _ _ kvs _ _ hf => absurd kvs.size_pos (Nat.not_lt.mpr hf)⟩
  | succ f ih =>
    obtain ⟨decode_of_enc, decodeFields_of_enc, decodeVals_of_enc, decodePairs_of_enc⟩ := ih
    refine ⟨fun v bs h hf r => ?_, fun fs bs h hf r => ?_, fun et xs bs h hf r => ?_, fun kt vt kvs bs h hf r => ?_⟩
    · cases h with
      | boolT x hx => simp only [TVal.ttype, decode, boolVal, List.cons_append, List.nil_append, bne_iff_ne.mpr hx]
      | boolF => rfl
      | i8 n hn | i16 n hn | i32 n hn | i64 n hn => simp only [TVal.ttype, decode, int_be_twos _ (by decide) n hn]
      | dbl b hb =>
        simp only [TVal.ttype, decode, take_append' 8 _ r (be_length 8 _), ofBe_be, Nat.mod_eq_of_lt (show b < 256 ^ 8 from hb)]
      | bin p hp => simp only [TVal.ttype, decode, List.append_assoc, payload_be p r hp]
      | uuid p hp => simp only [TVal.ttype, decode, take_append' 16 _ r hp]
      | struct fs bs hfs => simp only [TVal.ttype, decode, decodeFields_of_enc fs bs hfs (Nat.le_of_succ_le_succ hf) r]
      | list et c xs b hc hl hx | set et c xs b hc hl hx =>
        simp only [TVal.ttype, decode, List.cons_append, List.append_assoc, listHdr_code et c hc _ hl,
          decodeVals_of_enc et xs b hx (Nat.le_of_succ_le_succ hf) r]
      | map kt vt ck cv kvs b hk hv hl hx =>
        simp only [TVal.ttype, decode, List.cons_append, List.append_assoc, mapHdr_code kt vt ck cv hk hv _ hl,
          decodePairs_of_enc kt vt kvs b hx (Nat.le_of_succ_le_succ hf) r]
    · cases h with
      | nil => rfl
      | cons id v rest c a b hid hc hv hr =>
        obtain ⟨h1, h2⟩ := le_le_of_add_succ_le_succ hf
        simp only [decodeFields, List.cons_append, List.append_assoc, fieldHdr_code v.ttype c hc id hid, decode_of_enc v a hv h1,
          decodeFields_of_enc rest b hr h2]
    · cases h with
      | nil => rfl
      | cons _ v vs a b ht hv hr =>
        obtain ⟨h1, h2⟩ := le_le_of_add_succ_le_succ hf
        subst ht
        simp only [TVals.length, decodeVals, List.append_assoc, decode_of_enc v a hv h1, decodeVals_of_enc _ vs b hr h2]
    · cases h with
      | nil => rfl
      | cons _ _ k v rest a b c hk hv ek ev hr =>
        obtain ⟨h1, h2, h3⟩ := le_le_le_of_add_succ_le_succ hf
        subst hk hv
        simp only [TPairs.length, decodePairs, List.append_assoc, decode_of_enc k a ek h1, decode_of_enc v b ev h2,
          decodePairs_of_enc _ _ rest c hr h3]

theorem decode_of_enc (v : TVal) (bs : Bytes) (h : Enc v bs) (f : Nat) (hf : v.size ≤ f) (r : Bytes) :
    decode f v.ttype (bs ++ r) = .ok (v, r) :=
  (decodeAll_of_enc f).1 v bs h hf r
theorem decodeFields_of_enc (fs : TFields) (bs : Bytes) (h : EncFields fs bs) (f : Nat) (hf : fs.size ≤ f) (r : Bytes) :
    decodeFields f (bs ++ r) = .ok (fs, r) :=
  (decodeAll_of_enc f).2.1 fs bs h hf r
theorem decodeVals_of_enc (et : TType) (xs : TVals) (bs : Bytes) (h : EncVals et xs bs) (f : Nat) (hf : xs.size ≤ f) (r : Bytes) :
    decodeVals f et xs.length (bs ++ r) = .ok (xs, r) :=
  (decodeAll_of_enc f).2.2.1 et xs bs h hf r
theorem decodePairs_of_enc (kt vt : TType) (kvs : TPairs) (bs : Bytes) (h : EncPairs kt vt kvs bs) (f : Nat) (hf : kvs.size ≤ f) (r : Bytes) :
    decodePairs f kt vt kvs.length (bs ++ r) = .ok (kvs, r) :=
  (decodeAll_of_enc f).2.2.2 kt vt kvs bs h hf r

end Pilota.Thrift.SpecBin
