import PilotaModel.Lemmas.WalkAsyncCmp
import PilotaModel.Lemmas.ReadTotalCompact
/-
  The async compact reading interpreter on flat bytes vs. the in-memory reader.  Both are the value walker over the same
  primitives but for the container headers (`ACmp.walkPrims`); so the budget bound is `Walk.safe`, and the two readers have the
  same successes: in-memory → async with nothing assumed, async → in-memory on an input a slice can hold, from a state in
  which no bool is pending unless a bool is about to be read.
-/
namespace Pilota.Thrift.Async
open Pilota Pilota.Thrift Pilota.Thrift.Compact

namespace ACmp

theorem walkPrims_safe : walkPrims.Safe fun s => 3 * s.2.length + mu s.1 :=
  { Compact.walkPrims_safe with
    listBegin := fun s => onInput_safe ((Skip.rawCollBegin_safe s.2).mono id id fun _ h => by dsimp only; omega)
    mapBegin := fun s => onInput_safe ((Skip.rawCMapBegin_safe s.2).mono id id fun _ h => by dsimp only; omega) }

theorem readBool_step {s : CR} {bs : Bytes} {b : Bool} {s' : CR} {r : Bytes} (h : Compact.readBool s bs = .ok (b, s', r)) :
    s'.pendingBool = none ∧ r.length + mu s' < bs.length + mu s := by
  unfold Compact.readBool at h
  split at h
  · rename_i hp
    cases h
    exact ⟨rfl, by simp [mu, hp]⟩
  · rename_i hp
    ok_step h
    have := Compact.readByte_len ‹_›
    split at h
    · cases h; exact ⟨hp, by omega⟩
    · split at h
      · cases h; exact ⟨hp, by omega⟩
      · cases h

/-- only a bool can be had without a byte: the one that was pending -/
theorem leaf_step (l : Walk.Leaf) {s : CR} {bs : Bytes} {v : TVal} {s' : CR} {r : Bytes}
    (h : Compact.readVal 1 l.ttype s bs = .ok (v, s', r)) :
    r.length + mu s' < bs.length + mu s ∧ (s.pendingBool = none ∨ l.ttype = .bool → s'.pendingBool = none) := by
  cases l <;> dsimp only [Walk.Leaf.ttype] at h ⊢ <;> unfold Compact.readVal at h
  case bool => ok_step h; cases h; exact ⟨(readBool_step ‹_›).2, fun _ => (readBool_step ‹_›).1⟩
  case i8 => ok_step h; cases h; have := Binary.readI_len ‹_›; exact ⟨by omega, fun hp => hp.resolve_right nofun⟩
  case i16 | i32 | i64 => ok_step h; cases h; have := Pilota.readVarS_len ‹_›; exact ⟨by omega, fun hp => hp.resolve_right nofun⟩
  case double => ok_step h; cases h; have := Binary.readU_len ‹_›; exact ⟨by omega, fun hp => hp.resolve_right nofun⟩
  case binary => ok_step h; cases h; have := Compact.readBytes_len ‹_›; exact ⟨by omega, fun hp => hp.resolve_right nofun⟩
  case uuid => ok_step h; cases h; have := Binary.takeN_len ‹_›; exact ⟨by omega, fun hp => hp.resolve_right nofun⟩

theorem readStructEnd_pending {s s' : CR} (h : Compact.readStructEnd s = .ok s') : s'.pendingBool = s.pendingBool := by
  unfold Compact.readStructEnd at h
  split at h
  · cases h
  · cases h; rfl

/-- only the header of a bool field (types 1, 2) leaves a pending value. -/
theorem readFieldBegin_pending (s : CR) (hs : s.pendingBool = none) (bs : Bytes) (t : TType) (id : Int) (s1 : CR) (r : Bytes)
    (h : Compact.readFieldBegin s bs = .ok ((t, id), s1, r)) : s1.pendingBool = none ∨ t = .bool := by
  unfold Compact.readFieldBegin at h
  ok_step h; rename_i b r0 _
  dsimp only at h
  generalize hs1 : (if b % 16 = 1 then ({ s with pendingBool := some true } : CR)
    else if b % 16 = 2 then { s with pendingBool := some false } else s) = s' at h
  have key : ∀ t, ttypeOfCompact (b % 16) = some t → s'.pendingBool = none ∨ t = .bool := by
    intro t ht
    by_cases h1 : b % 16 = 1
    · rw [h1] at ht; cases ht; exact .inr rfl
    · by_cases h2 : b % 16 = 2
      · rw [h2] at ht; cases ht; exact .inr rfl
      · rw [if_neg h1, if_neg h2] at hs1; exact .inl (hs1 ▸ hs)
  split at h
  · cases h
  · cases h; exact key _ ‹_›
  · split at h
    · split at h
      · cases h; exact key _ ‹_›
      · cases h
    · ok_step h; cases h; exact key _ ‹_›

/-- what is left, a pending bool counted as a byte: a field header may trade its byte for the bool -/
theorem walkPrims_consumes : walkPrims.Consumes fun s => s.2.length + mu s.1 where
  leaf {l s x} h := (leaf_step l (v := x.1) (s' := x.2.1) (r := x.2.2) h).1
  structBegin _ := rfl
  structEnd {s s'} h := by
    obtain ⟨h1, h2⟩ := structEnd_ok.mp h
    rw [h2, (readStructEnd_safe s.1).ok h1]
    exact Nat.le_refl _
  fieldBegin {s x} h := by
    have := (Out.Safe.ok (readFieldBegin_reads []) h).1
    split
    · rename_i ht
      cases hs : s.1.pendingBool with
      | none =>
        have := mu_none ((readFieldBegin_pending s.1 hs s.2 x.1.1 x.1.2 x.2.1 x.2.2 h).resolve_right (ht ▸ nofun))
        omega
      | some b =>
        have : mu s.1 = 1 := by simp [mu, hs]
        omega
    · omega
  listBegin {s x} h := by
    obtain ⟨h1, h2⟩ := onInput_ok.mp h
    have := (Skip.rawCollBegin_safe s.2).ok h1
    rw [h2]; dsimp only at this; omega
  mapBegin {s x} h := by
    obtain ⟨h1, h2⟩ := onInput_ok.mp h
    have := (Skip.rawCMapBegin_safe s.2).ok h1
    rw [h2]; dsimp only at this; omega

/-- in front of a value of type `t` -/
def Fitv (N : Nat) (t : TType) (s s' : CR × Bytes) : Prop := s' = s ∧ s.2.length < N ∧ (s.1.pendingBool = none ∨ t = .bool)

/-- between values -/
def Fit (N : Nat) (s s' : CR × Bytes) : Prop := s' = s ∧ s.2.length < N ∧ s.1.pendingBool = none

theorem Fit.elim {N : Nat} {α} {x y : Out (α × CR × Bytes)} (h : Walk.Carries (Fit N) x y) {a : α} {s : CR} {r : Bytes}
    (hx : x = .ok (a, s, r)) : y = .ok (a, s, r) ∧ s.pendingBool = none := by
  obtain ⟨_, hy, rfl, _, hp⟩ := h _ _ hx
  exact ⟨hy, hp⟩

/-- The async walker against the same walker with other container headers `lb`, `mb`, which must accept, on an input of fewer
than `N` bytes, whatever the async header accepts with a count that the bytes left can pay for.  At the in-memory reader's headers this is
`to_sync`; at the async headers themselves it says that no bool stays pending (`self_fit`, for the `_pending` theorems only). -/
theorem walkPrims_fit (N : Nat) {lb : Bytes → Out ((TType × Nat) × Bytes)} {mb : Bytes → Out ((TType × TType × Nat) × Bytes)}
    (hl : ∀ {bs x r}, bs.length < N → Skip.rawCollBegin bs = .ok (x, r) → x.2 ≤ r.length → lb bs = .ok (x, r))
    (hm : ∀ {bs x r}, bs.length < N → Skip.rawCMapBegin bs = .ok (x, r) → x.2.2 ≤ r.length → mb bs = .ok (x, r)) :
    walkPrims.SimV { walkPrims with listBegin := onInput lb, mapBegin := onInput mb } (Fitv N) (Fit N)
      fun n s => n ≤ s.2.length + mu s.1 where
  weaken := fun ⟨e, hb, hp⟩ => ⟨e, hb, .inl hp⟩
  stop := fun ⟨e, hb, hp⟩ => ⟨e, hb, hp.resolve_right nofun⟩
  leaf l {s s'} := fun ⟨e, hb, hp⟩ => fun v s1 h => by
    subst s'
    have hl := leaf_step l (s' := s1.1) (r := s1.2) h
    have := mu_le s.1
    exact ⟨s1, h, rfl, by omega, hl.2 hp⟩
  structBegin := fun ⟨e, hb, hp⟩ => ⟨e ▸ rfl, hb, hp.resolve_right nofun⟩
  structEnd {s s'} := fun ⟨e, hb, hp⟩ s1 h => by
    subst s'
    exact ⟨s1, h, rfl, (structEnd_ok.mp h).2 ▸ hb, (readStructEnd_pending (structEnd_ok.mp h).1).trans hp⟩
  fieldBegin {s s'} := fun ⟨e, hb, hp⟩ t id s1 h => by
    subst s'
    have := readFieldBegin_len (s' := s1.1) (r := s1.2) h
    exact ⟨s1, h, rfl, by omega, readFieldBegin_pending s.1 hp s.2 t id s1.1 s1.2 h⟩
  listBegin {t s s'} ht := fun ⟨e, hb, hp⟩ et n s1 h hc => by
    subst s'
    obtain ⟨h1, h2⟩ := onInput_ok.mp h
    have hp : s1.1.pendingBool = none := h2 ▸ hp.resolve_right (by rcases ht with rfl | rfl <;> nofun)
    have := (Skip.rawCollBegin_safe s.2).ok h1
    rw [mu_none hp] at hc
    exact ⟨s1, onInput_ok.mpr ⟨hl hb h1 hc, h2⟩, rfl, by dsimp only at this; omega, hp⟩
  mapBegin {s s'} := fun ⟨e, hb, hp⟩ kt vt n s1 h hc => by
    subst s'
    obtain ⟨h1, h2⟩ := onInput_ok.mp h
    have hp : s1.1.pendingBool = none := h2 ▸ hp.resolve_right nofun
    have := (Skip.rawCMapBegin_safe s.2).ok h1
    rw [mu_none hp] at hc
    exact ⟨s1, onInput_ok.mpr ⟨hm hb h1 hc, h2⟩, rfl, by dsimp only at this; omega, hp⟩

/-- A count is admissible because `n` elements read took `n` units of what was left after the header (`walkPrims_consumes`). -/
theorem simV_fit {N : Nat} {R' : Walk.Prims (CR × Bytes)} (h : walkPrims.SimV R' (Fitv N) (Fit N) fun n s => n ≤ s.2.length + mu s.1)
    (f : Nat) : Walk.SimsV walkPrims R' (Fitv N) (Fit N) f f :=
  Walk.simV h (fun e => Nat.le_trans (Nat.le_add_right _ _) ((Walk.consumes walkPrims_consumes _).2.2.1 e))
    (fun e => Nat.le_trans (Nat.le_add_right _ _) ((Walk.consumes walkPrims_consumes _).2.2.2 e)) f f (Nat.le_refl f)

theorem pack_iff {α} {p : Prog (α × CR)} {bs : Bytes} {w : Out (α × CR × Bytes)} (e : runF p bs = pack w) {a : α} {s : CR} {r : Bytes} :
    runF p bs = .ok ((a, s), r) ↔ w = .ok (a, s, r) := e ▸ pack_ok w a s r

theorem self_fit {N : Nat} (f : Nat) : Walk.SimsV walkPrims walkPrims (Fitv N) (Fit N) f f :=
  simV_fit (walkPrims_fit N (fun _ h _ => h) fun _ h _ => h) f

theorem readVal_pending (f : Nat) (t : TType) (s : CR) (bs : Bytes) (v : TVal) (s' : CR) (r : Bytes)
    (h : runF (readVal f t s) bs = .ok ((v, s'), r)) (hp : s.pendingBool = none ∨ t = .bool) : s'.pendingBool = none :=
  (Fit.elim ((self_fit f).1 t ⟨rfl, Nat.lt_succ_self _, hp⟩) ((pack_iff ((readVal_eq_walk f).1 t s bs)).mp h)).2

theorem readFields_pending (f : Nat) (s : CR) (bs : Bytes) (fs : TFields) (s' : CR) (r : Bytes)
    (h : runF (readFields f s) bs = .ok ((fs, s'), r)) (hp : s.pendingBool = none) : s'.pendingBool = none :=
  (Fit.elim ((self_fit f).2.1 ⟨rfl, Nat.lt_succ_self _, hp⟩) ((pack_iff ((readVal_eq_walk f).2.1 s bs)).mp h)).2

theorem readN_pending (f : Nat) (et : TType) (n : Nat) (s : CR) (bs : Bytes) (xs : TVals) (s' : CR) (r : Bytes)
    (h : runF (readN f et n s) bs = .ok ((xs, s'), r)) (hp : s.pendingBool = none) : s'.pendingBool = none :=
  (Fit.elim ((self_fit f).2.2.1 et n ⟨rfl, Nat.lt_succ_self _, hp⟩) ((pack_iff ((readVal_eq_walk f).2.2.1 et n s bs)).mp h)).2

theorem readPairs_pending (f : Nat) (kt vt : TType) (n : Nat) (s : CR) (bs : Bytes) (xs : TPairs) (s' : CR) (r : Bytes)
    (h : runF (readPairs f kt vt n s) bs = .ok ((xs, s'), r)) (hp : s.pendingBool = none) : s'.pendingBool = none :=
  (Fit.elim ((self_fit f).2.2.2 kt vt n ⟨rfl, Nat.lt_succ_self _, hp⟩) ((pack_iff ((readVal_eq_walk f).2.2.2 kt vt n s bs)).mp h)).2

/-! ### in-memory reader accepts → async reader returns the same value, state and rest
(no slice bound: compact lengths are unsigned varints, read alike by both) -/

theorem walkPrims_of_sync : Compact.walkPrims.Sim walkPrims (fun s s' => s' = s) fun _ _ => True where
  leaf _ _ _ hs := hs ▸ .of_app fun _ _ h => h
  structBegin hs := hs ▸ rfl
  structEnd hs s1 e := hs ▸ ⟨s1, e, rfl⟩
  fieldBegin hs _ _ s1 h := hs ▸ ⟨s1, h, rfl⟩
  listBegin _ hs _ _ s1 h _ := hs ▸ ⟨s1, onInput_ok.mpr ⟨Skip.rawCollBegin_of_read (onInput_ok.mp h).1, (onInput_ok.mp h).2⟩, rfl⟩
  mapBegin hs _ _ _ s1 h _ := hs ▸ ⟨s1, onInput_ok.mpr ⟨Skip.rawCMapBegin_of_read (onInput_ok.mp h).1, (onInput_ok.mp h).2⟩, rfl⟩

theorem of_sync (f : Nat) : Walk.Sims Compact.walkPrims walkPrims (fun s s' => s' = s) f f :=
  Walk.simV walkPrims_of_sync (fun _ => trivial) (fun _ => trivial) f f (Nat.le_refl f)

theorem readVal_of_sync (f : Nat) (t : TType) (s : CR) (bs : Bytes) (v : TVal) (s' : CR) (r : Bytes)
    (h : Compact.readVal f t s bs = .ok (v, s', r)) : runF (readVal f t s) bs = .ok ((v, s'), r) :=
  (pack_iff ((readVal_eq_walk f).1 t s bs)).mpr (((of_sync f).1 t rfl).app ((Compact.readVal_eq_walk f).1 t s bs ▸ h))
theorem readFields_of_sync (f : Nat) (s : CR) (bs : Bytes) (fs : TFields) (s' : CR) (r : Bytes)
    (h : Compact.readFields f s bs = .ok (fs, s', r)) : runF (readFields f s) bs = .ok ((fs, s'), r) :=
  (pack_iff ((readVal_eq_walk f).2.1 s bs)).mpr (((of_sync f).2.1 rfl).app ((Compact.readVal_eq_walk f).2.1 s bs ▸ h))
theorem readN_of_sync (f : Nat) (et : TType) (n : Nat) (s : CR) (bs : Bytes) (xs : TVals) (s' : CR) (r : Bytes)
    (h : Compact.readN f et n s bs = .ok (xs, s', r)) : runF (readN f et n s) bs = .ok ((xs, s'), r) :=
  (pack_iff ((readVal_eq_walk f).2.2.1 et n s bs)).mpr (((of_sync f).2.2.1 et n rfl).app ((Compact.readVal_eq_walk f).2.2.1 et n s bs ▸ h))
theorem readPairs_of_sync (f : Nat) (kt vt : TType) (n : Nat) (s : CR) (bs : Bytes) (xs : TPairs) (s' : CR) (r : Bytes)
    (h : Compact.readPairs f kt vt n s bs = .ok (xs, s', r)) : runF (readPairs f kt vt n s) bs = .ok ((xs, s'), r) :=
  (pack_iff ((readVal_eq_walk f).2.2.2 kt vt n s bs)).mpr
    (((of_sync f).2.2.2 kt vt n rfl).app ((Compact.readVal_eq_walk f).2.2.2 kt vt n s bs ▸ h))

theorem to_sync (f : Nat) : Walk.SimsV walkPrims Compact.walkPrims (Fitv (2 ^ 63)) (Fit (2 ^ 63)) f f :=
  simV_fit (walkPrims_fit (2 ^ 63) read_of_rawCollBegin read_of_rawCMapBegin) f

theorem sync_of_readVal (f : Nat) (t : TType) (s : CR) (bs : Bytes) (hb : bs.length < 2 ^ 63)
    (hp : s.pendingBool = none ∨ t = .bool) (v : TVal) (s' : CR) (r : Bytes)
    (h : runF (readVal f t s) bs = .ok ((v, s'), r)) : Compact.readVal f t s bs = .ok (v, s', r) :=
  (Compact.readVal_eq_walk f).1 t s bs ▸ (Fit.elim ((to_sync f).1 t ⟨rfl, hb, hp⟩) ((pack_iff ((readVal_eq_walk f).1 t s bs)).mp h)).1
theorem sync_of_readFields (f : Nat) (s : CR) (bs : Bytes) (hb : bs.length < 2 ^ 63) (hp : s.pendingBool = none)
    (fs : TFields) (s' : CR) (r : Bytes)
    (h : runF (readFields f s) bs = .ok ((fs, s'), r)) : Compact.readFields f s bs = .ok (fs, s', r) :=
  (Compact.readVal_eq_walk f).2.1 s bs ▸ (Fit.elim ((to_sync f).2.1 ⟨rfl, hb, hp⟩) ((pack_iff ((readVal_eq_walk f).2.1 s bs)).mp h)).1
theorem sync_of_readN (f : Nat) (et : TType) (n : Nat) (s : CR) (bs : Bytes) (hb : bs.length < 2 ^ 63) (hp : s.pendingBool = none)
    (xs : TVals) (s' : CR) (r : Bytes)
    (h : runF (readN f et n s) bs = .ok ((xs, s'), r)) : Compact.readN f et n s bs = .ok (xs, s', r) :=
  (Compact.readVal_eq_walk f).2.2.1 et n s bs ▸
    (Fit.elim ((to_sync f).2.2.1 et n ⟨rfl, hb, hp⟩) ((pack_iff ((readVal_eq_walk f).2.2.1 et n s bs)).mp h)).1
theorem sync_of_readPairs (f : Nat) (kt vt : TType) (n : Nat) (s : CR) (bs : Bytes) (hb : bs.length < 2 ^ 63) (hp : s.pendingBool = none)
    (xs : TPairs) (s' : CR) (r : Bytes)
    (h : runF (readPairs f kt vt n s) bs = .ok ((xs, s'), r)) : Compact.readPairs f kt vt n s bs = .ok (xs, s', r) :=
  (Compact.readVal_eq_walk f).2.2.2 kt vt n s bs ▸
    (Fit.elim ((to_sync f).2.2.2 kt vt n ⟨rfl, hb, hp⟩) ((pack_iff ((readVal_eq_walk f).2.2.2 kt vt n s bs)).mp h)).1

end ACmp
end Pilota.Thrift.Async
