import PilotaModel.Lemmas.Walk
import PilotaModel.Thrift.Compact
/-  The compact reading interpreter is the value walker over the compact reader's primitives, on reader state × input. -/
namespace Pilota.Thrift.Compact
open Pilota Pilota.Thrift

def onInput {α : Type} (rd : Bytes → Out (α × Bytes)) (s : CR × Bytes) : Out (α × CR × Bytes) :=
  (rd s.2).bind fun x => .ok (x.1, s.1, x.2)

theorem onInput_ok {α : Type} {rd : Bytes → Out (α × Bytes)} {s : CR × Bytes} {x : α × CR × Bytes} :
    onInput rd s = .ok x ↔ rd s.2 = .ok (x.1, x.2.2) ∧ x.2.1 = s.1 := by
  obtain ⟨a, c, r⟩ := x
  unfold onInput
  cases rd s.2 with
  | ok y => exact ⟨fun h => by cases h; exact ⟨rfl, rfl⟩, fun ⟨h, e⟩ => by cases h; cases e; rfl⟩
  | _ => exact ⟨nofun, fun h => nomatch h.1⟩

theorem onInput_safe {α : Type} {rd : Bytes → Out (α × Bytes)} {s : CR × Bytes} {N F : Prop} {P : α × CR × Bytes → Prop}
    (h : (rd s.2).Safe N F fun x => P (x.1, s.1, x.2)) : (onInput rd s).Safe N F P :=
  h.bind fun _ _ hx => hx

def walkPrims : Walk.Prims (CR × Bytes) where
  leaf l s := readVal 1 l.ttype s.1 s.2
  structBegin s := (readStructBegin s.1, s.2)
  structEnd s := (readStructEnd s.1).bind fun c => .ok (c, s.2)
  fieldBegin s := readFieldBegin s.1 s.2
  listBegin := onInput readCollBegin
  mapBegin := onInput readMapBegin

theorem structEnd_ok {s s1 : CR × Bytes} : walkPrims.structEnd s = .ok s1 ↔ readStructEnd s.1 = .ok s1.1 ∧ s1.2 = s.2 := by
  obtain ⟨c, r⟩ := s1
  show Out.bind (readStructEnd s.1) _ = _ ↔ _
  cases readStructEnd s.1 with
  | ok y => exact ⟨fun h => by cases h; exact ⟨rfl, rfl⟩, fun ⟨h, e⟩ => by cases h; cases e; rfl⟩
  | _ => exact ⟨nofun, fun h => nomatch h.1⟩

theorem readVal_eq_walk : ∀ f,
    (∀ t s bs, readVal f t s bs = Walk.val walkPrims f t (s, bs)) ∧ (∀ s bs, readFields f s bs = Walk.fields walkPrims f (s, bs)) ∧
    (∀ et n s bs, readN f et n s bs = Walk.elems walkPrims f et n (s, bs)) ∧
    (∀ kt vt n s bs, readPairs f kt vt n s bs = Walk.pairs walkPrims f kt vt n (s, bs)) := by
  intro f
  induction f with
  | zero => exact ⟨fun _ _ _ => rfl, fun _ _ => rfl, fun _ _ _ _ => rfl, fun _ _ _ _ _ => rfl⟩
  | succ f ih =>
    obtain ⟨ih1, ih2, ih3, ih4⟩ := ih
    refine ⟨fun t s bs => ?_, fun s bs => ?_, fun et n s bs => ?_, fun kt vt n s bs => ?_⟩
    · cases t <;> unfold Walk.val
      case struct =>
        unfold readVal; rw [ih2]; show _ = Out.bind (Walk.fields walkPrims f (readStructBegin s, bs)) _
        cases Walk.fields walkPrims f (readStructBegin s, bs) with
        | ok a => dsimp only [Out.bind, walkPrims]; cases readStructEnd a.2.1 <;> rfl
        | _ => rfl
      case list | set =>
        unfold readVal; show _ = Out.bind (Out.bind (readCollBegin bs) _) _
        cases readCollBegin bs with
        | ok a => obtain ⟨⟨et, n⟩, r⟩ := a; dsimp only [Out.bind]; rw [ih3]; cases Walk.elems walkPrims f et n (s, r) <;> rfl
        | _ => rfl
      case map =>
        unfold readVal; show _ = Out.bind (Out.bind (readMapBegin bs) _) _
        cases readMapBegin bs with
        | ok a => obtain ⟨⟨kt, vt, n⟩, r⟩ := a; dsimp only [Out.bind]; rw [ih4]; cases Walk.pairs walkPrims f kt vt n (s, r) <;> rfl
        | _ => rfl
      all_goals rfl
    · unfold Walk.fields readFields
      show _ = Out.bind (readFieldBegin s bs) _
      cases readFieldBegin s bs with
      | ok a =>
        obtain ⟨⟨t, id⟩, s1, r⟩ := a
        dsimp only [Out.bind]
        split
        · rfl
        · rw [ih1]
          cases Walk.val walkPrims f t (s1, r) with
          | ok a => dsimp only; rw [ih2]; cases Walk.fields walkPrims f a.2 <;> rfl
          | _ => rfl
      | _ => rfl
    · cases n <;> unfold Walk.elems readN
      · rfl
      · rw [ih1]
        cases Walk.val walkPrims f et (s, bs) with
        | ok a => dsimp only [Out.bind]; rw [ih3]; cases Walk.elems walkPrims f et _ a.2 <;> rfl
        | _ => rfl
    · cases n <;> unfold Walk.pairs readPairs
      · rfl
      · rw [ih1]
        cases Walk.val walkPrims f kt (s, bs) with
        | ok a =>
          dsimp only [Out.bind]; rw [ih1]
          cases Walk.val walkPrims f vt a.2 with
          | ok b => dsimp only; rw [ih4]; cases Walk.pairs walkPrims f kt vt _ b.2 <;> rfl
          | _ => rfl
        | _ => rfl
end Pilota.Thrift.Compact
