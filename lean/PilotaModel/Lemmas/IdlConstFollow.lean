import PilotaModel.Lemmas.IdlDouble
namespace Pilota.Idl

/-- What a constant needs of the text that follows it: a literal and a bracketed list end in their own closing character and
need nothing; a word or a number needs a separator character; a name also that no further segment follows. -/
def ConstFollow : ConstValue → List Char → Prop
  | .string _, _ => True
  | .list _, _ => True
  | .map _, _ => True
  | .path _, r => hdP (fun c => !isIdentChar c) r = true ∧ PathStop r
  | _, r => Sep r

theorem constFollow_general {c : ConstValue} {r : List Char} (h1 : c.endsOpen = true → Sep r) (h2 : PathStop r) :
    ConstFollow c r := by
  cases c with
  | path p => exact ⟨(h1 rfl).noIdent, h2⟩
  | string _ => trivial
  | list _ => trivial
  | map _ => trivial
  | bool _ => exact h1 rfl
  | int _ => exact h1 rfl
  | double _ => exact h1 rfl

/-- the characters a rendered constant can start with (`rConst_starts`); `+` and `.` only for a double -/
def isConstStart (c : Char) : Bool :=
  c == '\'' || c == '"' || isIdentStart c || isDecDigit c || c == '-' || c == '[' || c == '{' || c == '+' || c == '.'

theorem double_dot_digit {x : List Char} (h : doubleOk ('.' :: x) = true) : hdP isDecDigit x = true ∧ x ≠ [] := by
  unfold doubleOk at h
  have hcases : (hdP isDecDigit x = true ∧ x ≠ []) ∨ hdP (fun c => !isDecDigit c) x = true := by
    cases x with
    | nil => exact Or.inr rfl
    | cons c y =>
      by_cases hc : isDecDigit c = true
      · exact Or.inl ⟨hc, by simp⟩
      · exact Or.inr (by rw [hdP_cons]; simp [hc])
  rcases hcases with h1 | h1
  · exact h1
  · exfalso
    have hb : doubleBody ('.' :: x) = .err := by
      have hd : digit1 ('.' :: x) = .err := First.err_cons rfl _
      unfold doubleBody
      rw [alt_cons_of_err (andThen_of_err hd),
        alt_cons_of_err (by
          rw [andThen_of_ok (opt_of_err hd), andThen_of_ok (tag1 '.' x)]
          exact andThen_of_err (First.err _ h1)),
        alt_cons_of_err (andThen_of_err hd)]
      rfl
    have : DoubleConstant.parse ('.' :: x) = .err :=
      double_err_of_body (opt_of_err (First.err_cons rfl _)) (opt_of_err (First.err_cons rfl _)) hb
    rw [this] at h; cases h

theorem rConst_starts {c : ConstValue} (hw : c.wf = true) : Starts (rConst c) (Hd isConstStart) := by
  suffices key : ∀ l x, hdP isConstStart ((rConst c l).1 ++ x) = true ∧ (rConst c l).1 ≠ [] from
    fun l => ⟨(key l []).2, fun x => (key l x).1⟩
  intro l x
  cases c with
  | bool b => cases b <;> exact ⟨by simp only [rConst, rLit_fst]; (show isConstStart _ = true); decide, by simp [rConst]⟩
  | path p =>
    simp only [ConstValue.wf, Bool.and_eq_true] at hw
    obtain ⟨s, rest, hs', _, e, _⟩ := rPath_cons hw.1.1 l
    obtain ⟨c0, cs, rfl, hc, _⟩ := identOk_cons hs'
    simp only [rConst, e, List.append_assoc, List.cons_append]
    exact ⟨by simp [isConstStart, hc], by simp⟩
  | string t =>
    simp only [ConstValue.wf] at hw
    simp only [rConst]
    rw [rLiteral_append]
    refine ⟨?_, by simp [rLiteral]⟩
    rcases (quoteFor_spec l.pop.1.flag hw).1 with e | e <;> rw [e] <;> (show isConstStart _ = true) <;> decide
  | int n =>
    simp only [rConst, rLit_fst, intText]
    split
    · exact ⟨by show isConstStart '-' = true; decide, by simp⟩
    · obtain ⟨c0, cs, e, hc⟩ := decDigits_head n.toNat
      rw [e]; exact ⟨by simp [isConstStart, hc], by simp⟩
  | double t =>
    simp only [ConstValue.wf] at hw
    obtain ⟨c0, x0, e, hc⟩ := double_head hw
    simp only [rConst, rLit_fst, e, List.cons_append]
    refine ⟨?_, by simp⟩
    rw [hdP_cons]
    rcases hc with h | h | h | h
    · subst h; decide
    · subst h; decide
    · subst h; decide
    · simp [isConstStart, h]
  | list xs => exact ⟨by simp only [rConst, rSeq_fst, rLit_fst, List.append_assoc]; (show isConstStart '[' = true); decide, by simp [rConst]⟩
  | map kvs => exact ⟨by simp only [rConst, rSeq_fst, rLit_fst, List.append_assoc]; (show isConstStart '{' = true); decide, by simp [rConst]⟩

theorem constStart_props {c : Char} (h : isConstStart c = true) :
    notBlankStart c = true ∧ (!(c == ',' || c == ';')) = true := by
  by_cases hi : isIdentStart c = true
  · exact ⟨identStart_NB hi, identStart_noSep hi⟩
  by_cases hd : isDecDigit c = true
  · exact ⟨(digit_props hd).1, (digit_props hd).2.1⟩
  simp only [isConstStart, hi, hd, Bool.or_false, Bool.or_eq_true, beq_iff_eq] at h
  rcases h with (((((h | h) | h) | h) | h) | h) | h <;> subst h <;> decide

/-- what an element of a list / map literal needs of the text after its tail: it does not start a
blank or a separator, and a name in front of it (after any blank) is not continued by it -/
def ElemFollow (R : List Char) : Prop := NB R ∧ NoSepStart R ∧ ∀ b, BT b → PathStop (b ++ R)

/-- `. digit` after a name is not a further segment -/
theorem pathStop_dot_digit {b x : List Char} {c : Char} (hb : BT b) (hc : isDecDigit c = true) :
    PathStop (b ++ '.' :: c :: x) := by
  intro n
  have hnb : NB (c :: x) := (digit_props hc).1
  have hsep : pathSep (b ++ '.' :: c :: x) = .ok none (c :: x) := by
    unfold pathSep
    rw [andThen_optBlank hb rfl, andThen_of_ok (tag1 '.' _)]
    exact opt_of_err (blank_err hnb)
  have hid : Ident.parse (c :: x) = .err :=
    First.err _ (by rw [hdP_cons, digit_not_identStart hc]; rfl)
  simp only [sepLoopF, hsep]
  rw [if_neg (by simp; omega), hid]

theorem Follows.const {c : ConstValue} (hw : c.wf = true) {r : R} {F : List Char → Prop} : Follows (rConst c +> r) F NB :=
  .starts ((rConst_starts hw).mono fun _ h => hdP_mono (fun _ hc => (constStart_props hc).1) h)

theorem Follows.constFollow {c : ConstValue} {r : R} {F : List Char → Prop} (h1 : c.endsOpen = true → Follows r F Sep)
    (h2 : Follows r F (Ahead (Hd (· != '.')))) : Follows r F (ConstFollow c) :=
  fun l x hx => constFollow_general (fun ho => h1 ho l x hx) (pathStop_of_ahead (h2 l x hx))

theorem rConst_elemStarts {c : ConstValue} (hw : c.wf = true) : Starts (rConst c) ElemFollow := by
  refine fun l => ⟨(rConst_starts hw l).1, fun x => ?_⟩
  have h := (rConst_starts hw l).2 x
  have hnb : NB ((rConst c l).1 ++ x) := hdP_mono (fun _ hc => (constStart_props hc).1) h
  refine ⟨hnb, hdP_mono (fun _ hc => (constStart_props hc).2) h, ?_⟩
  intro b hb
  by_cases hdot : hdP (fun c => c != '.') ((rConst c l).1 ++ x) = true
  · exact pathStop_of hb hnb hdot
  · -- the constant starts with `.`: it is a double, and a digit follows
    cases c with
    | double t =>
      simp only [ConstValue.wf] at hw
      simp only [rConst, rLit_fst] at hdot ⊢
      cases t with
      | nil => exfalso; obtain ⟨c0, x0, e, _⟩ := double_head hw; cases e
      | cons c0 t' =>
        have hc0 : c0 = '.' := by
          simp only [List.cons_append, hdP_cons, bne_iff_ne, ne_eq, Decidable.not_not] at hdot
          exact hdot
        subst hc0
        obtain ⟨hdig, hne⟩ := double_dot_digit hw
        cases t' with
        | nil => exact absurd rfl hne
        | cons c1 t'' => exact pathStop_dot_digit hb hdig
    | bool v => exfalso; apply hdot; cases v <;> simp only [rConst, rLit_fst, if_true, Bool.false_eq_true, if_false] <;> rfl
    | path p =>
      exfalso; apply hdot
      simp only [ConstValue.wf, Bool.and_eq_true] at hw
      obtain ⟨s0, rest, hs0, _, e, _⟩ := rPath_cons hw.1.1 l
      obtain ⟨c0, cs, rfl, hc, _⟩ := identOk_cons hs0
      simp only [rConst, e, List.append_assoc, List.cons_append, hdP_cons]
      exact bne_iff_ne.mpr (ne_of_class hc (by decide))
    | string t =>
      exfalso; apply hdot
      simp only [ConstValue.wf] at hw
      simp only [rConst]; rw [rLiteral_append, hdP_cons]
      rcases (quoteFor_spec l.pop.1.flag hw).1 with e | e <;> rw [e] <;> decide
    | int n =>
      exfalso; apply hdot
      simp only [rConst, rLit_fst, intText]
      split
      · rfl
      · obtain ⟨c0, cs, e, hc⟩ := decDigits_head n.toNat
        rw [e, List.cons_append, hdP_cons]
        simp only [bne_iff_ne, ne_eq]; intro e'; subst e'; revert hc; decide
    | list xs => exfalso; apply hdot; simp only [rConst, rSeq_fst, rLit_fst, List.append_assoc]; rfl
    | map kvs => exfalso; apply hdot; simp only [rConst, rSeq_fst, rLit_fst, List.append_assoc]; rfl

abbrev ElemAfter := After ElemFollow

theorem Follows.constTail {x : ConstValue} {last : Bool} : Follows (rTail x.endsOpen last) (ElemAfter last) (ConstFollow x) :=
  fun l R hR => by
  apply constFollow_general
  · exact fun ho => (rTail_tail ..).toSep (hR.need ho)
  · exact (rTail_tail ..).pathStop hR.1.2.2

theorem elemFollow_close {c : Char} (hc : c = ']' ∨ c = '}') (R : List Char) : ElemAfter true (c :: R) := by
  rcases hc with h | h <;> subst h <;> exact ⟨⟨rfl, rfl, fun b hb => pathStop_of hb rfl rfl⟩, fun _ => rfl⟩

end Pilota.Idl
