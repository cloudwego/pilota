import PilotaModel.Lemmas.KeepRT
/-  C13, the half about the retaining reader: the retaining reader of a restricted document ACCEPTS every typed value
    whose nesting is within its skipper's depth budget (`keep_accepts_all`), for every sufficiently large recursion budget. -/
namespace Pilota.TGen
open Pilota Pilota.Thrift

section
variable (dw : Doc) (keep : String → Field → Bool) (dpr : Option Nat)

/-- the retaining reader of the restricted document reads `x` as `y`, at every budget from `B` on (`x` is the wire value,
`y` the result: the order of reading, the reverse of `Back ty x y`, where the result of reading `y` comes first) -/
def Acc (ty : STy) (x y : TVal) (B : Nat) : Prop := ∀ fK, B ≤ fK → projTyK (restrict dw keep) dpr fK ty x = some (.ok y)

/-- `y` is a Rust value (`TVal.wt`) if `x` is, and has its wire type -/
def Shape (x y : TVal) : Prop := (x.wt = true → y.wt = true) ∧ y.ttype = x.ttype

theorem succ_of {B fK : Nat} (h : B + 1 ≤ fK) : ∃ j, fK = j + 1 ∧ B ≤ j :=
  ⟨_, (Nat.sub_add_cancel (Nat.le_of_add_left_le h)).symm, Nat.le_sub_of_add_le h⟩

theorem wt_of_shape {t : TType} {xs : TVals} {ys : List TVal} (hsh : All2 Shape xs.toList ys) (hw : xs.wt t = true) :
    ∀ y ∈ ys, y.ttype = t ∧ y.wt = true := by
  intro y hy
  obtain ⟨x, hx, hxy⟩ := hsh.mem_right y hy
  have hxw := (TVals.wt_ofList t xs.toList).mp (by rwa [TVals.ofList_toList]) x hx
  exact ⟨by rw [hxy.2, hxw.1], hxy.1 hxw.2⟩

theorem projNK_acc (e : STy) : ∀ (l : List TVal), (∀ x ∈ l, ∃ y B, Shape x y ∧ Acc dw keep dpr e x y B) →
    ∃ ys B, All2 Shape l ys ∧
      ∀ fK, B ≤ fK → ∀ acc, projNK (restrict dw keep) dpr fK e (TVals.ofList l) acc = some (.ok (acc.reverse ++ ys)) := by
  intro l
  induction l with
  | nil => intro _; exact ⟨[], 1, .nil, fun fK hf acc => by obtain ⟨k, rfl, _⟩ := succ_of hf; simp [TVals.ofList, projNK]⟩
  | cons x l ih =>
    intro h
    obtain ⟨ys, B2, hs2, h2⟩ := ih (fun y hy => h y (by simp [hy]))
    obtain ⟨y, B1, hs1, h1⟩ := h x (by simp)
    refine ⟨y :: ys, max B1 B2 + 1, .cons hs1 hs2, fun fK hf acc => ?_⟩
    obtain ⟨k, rfl, _⟩ := succ_of hf
    simp only [TVals.ofList, projNK]
    rw [h1 k (by omega)]
    simp only
    rw [h2 k (by omega)]
    simp

theorem projPairsK_acc (k v : STy) : ∀ (l : List (TVal × TVal)),
    (∀ x ∈ l, (∃ y B, Shape x.1 y ∧ Acc dw keep dpr k x.1 y B) ∧ (∃ y B, Shape x.2 y ∧ Acc dw keep dpr v x.2 y B)) →
    ∃ ys B, All2 (fun x y => Shape x.1 y.1 ∧ Shape x.2 y.2) l ys ∧
      ∀ fK, B ≤ fK → ∀ acc, projPairsK (restrict dw keep) dpr fK k v (TPairs.ofList l) acc = some (.ok (acc.reverse ++ ys)) := by
  intro l
  induction l with
  | nil => intro _; exact ⟨[], 1, .nil, fun fK hf acc => by obtain ⟨j, rfl, _⟩ := succ_of hf; simp [TPairs.ofList, projPairsK]⟩
  | cons x l ih =>
    intro h
    obtain ⟨ys, B2, hs2, h2⟩ := ih (fun y hy => h y (by simp [hy]))
    obtain ⟨⟨yk, Bk, hsk, hk⟩, ⟨yv, Bv, hsv, hv⟩⟩ := h x (by simp)
    obtain ⟨xk, xv⟩ := x
    refine ⟨(yk, yv) :: ys, max (max Bk Bv) B2 + 1, .cons ⟨hsk, hsv⟩ hs2, fun fK hf acc => ?_⟩
    obtain ⟨j, rfl, _⟩ := succ_of hf
    simp only [TPairs.ofList, projPairsK]
    rw [hk j (by omega)]
    simp only
    rw [hv j (by omega)]
    simp only
    rw [h2 j (by omega)]
    simp

theorem projFieldsK_acc (fs0 : List Field) (kp : Field → Bool) (hpw : fs0.Pairwise (fun a b => a.id ≠ b.id)) :
    ∀ (l : List (Int × TVal)),
    (∀ p ∈ l, inS 2 p.1 ∧ ∃ fl ∈ fs0, fl.id = p.1 ∧ dw.ttype fl.ty = p.2.ttype ∧
      (if kp fl then ∃ y B, Shape p.2 y ∧ Acc dw keep dpr fl.ty p.2 y B else admitsB dpr p.2.need = true)) →
    ∃ ks B, (∀ q ∈ l, keptBy dw fs0 kp q = true → ∃ k ∈ ks, k.1 = q.1) ∧
      (∀ k ∈ ks, ∃ q ∈ l, k.1 = q.1 ∧ Shape q.2 k.2) ∧
      ∀ fK, B ≤ fK → ∀ slots unk, projFieldsK (restrict dw keep) dpr fK (fs0.filter kp) slots unk (TFields.ofList l) =
        some (.ok (setAll slots ks, unk ++ l.filter (fun p => !keptBy dw fs0 kp p))) := by
  intro l
  induction l with
  | nil =>
    intro _
    refine ⟨[], 1, (fun q hq => by cases hq), (fun k hk => by cases hk), fun fK hf slots unk => ?_⟩
    obtain ⟨j, rfl, _⟩ := succ_of hf
    simp [TFields.ofList, projFieldsK, setAll]
  | cons p l ih =>
    intro h
    obtain ⟨ks, B2, hcov, hsh, h2⟩ := ih (fun q hq => h q (by simp [hq]))
    obtain ⟨hin, fl, hfl, hid, htt, hcase⟩ := h p (by simp)
    obtain ⟨id, v⟩ := p
    simp only at hin hid htt hcase
    have hkb : keptBy dw fs0 kp (id, v) = kp fl := keptBy_eq dw fs0 kp hpw (id, v) fl hfl hid htt
    have hfr := find_filter_declared dw hpw hfl hid htt kp
    by_cases hk : kp fl = true
    · simp only [hk, if_true] at hcase
      obtain ⟨y, B1, hs1, h1⟩ := hcase
      rw [if_pos hk] at hfr
      refine ⟨(id, y) :: ks, max B1 B2 + 1, ?_, ?_, fun fK hf slots unk => ?_⟩
      · intro q hq hkq
        rcases List.mem_cons.mp hq with rfl | hq
        · exact ⟨(id, y), by simp, rfl⟩
        · obtain ⟨k, hkm, hk1⟩ := hcov q hq hkq; exact ⟨k, by simp [hkm], hk1⟩
      · intro k hkm
        rcases List.mem_cons.mp hkm with rfl | hkm
        · exact ⟨(id, v), by simp, rfl, hs1⟩
        · obtain ⟨q, hq, hq1, hq2⟩ := hsh k hkm; exact ⟨q, by simp [hq], hq1, hq2⟩
      · obtain ⟨j, rfl, _⟩ := succ_of hf
        simp only [TFields.ofList, projFieldsK, restrict_ttype, hin, not_true_eq_false, if_false, hfr]
        rw [h1 j (by omega)]
        simp only
        rw [h2 j (by omega)]
        simp [setAll, hkb, hk]
    · simp only [hk, Bool.false_eq_true, if_false] at hcase
      rw [if_neg hk] at hfr
      refine ⟨ks, B2 + 1, ?_, ?_, fun fK hf slots unk => ?_⟩
      · intro q hq hkq
        rcases List.mem_cons.mp hq with rfl | hq
        · rw [hkb] at hkq; exact absurd hkq hk
        · exact hcov q hq hkq
      · intro k hkm
        obtain ⟨q, hq, hq1, hq2⟩ := hsh k hkm; exact ⟨q, by simp [hq], hq1, hq2⟩
      · obtain ⟨j, rfl, _⟩ := succ_of hf
        simp only [TFields.ofList, projFieldsK, restrict_ttype, hin, not_true_eq_false, if_false, hfr, hcase, if_true]
        rw [h2 j (by omega)]
        have : keptBy dw fs0 kp (id, v) = false := by rw [hkb]; simpa using hk
        simp [this]

theorem keep_accepts_all (hd : dw.fieldsOk) (hu : dw.variantsOk) : ∀ (f : Nat) (ty : STy) (w : TVal), hasTy dw f ty w = true → admitsB dpr w.need = true →
    ∃ w' B, Shape w w' ∧ Acc dw keep dpr ty w w' B := by
  intro f
  induction f with
  | zero => intro ty w h; cases h
  | succ f ih =>
    refine hasTy_step dw (fun ty w hb ha => ?_) (fun e xs hall ha => ?_) (fun e xs hall _ ha => ?_) (fun k v kvs hall _ ha => ?_)
      (fun n fs0 wfs hn h ha => ?_) (fun n vs id v pid ty hn hfind hin htt hty ha => ?_) (fun n i tl hn ha => ?_)
      (fun n x hn ha => ?_) (fun n t w hn h ha => ?_)
    · refine ⟨w, 1, ⟨id, rfl⟩, fun fK hf => ?_⟩
      obtain ⟨j, rfl, _⟩ := succ_of hf
      exact projTyK_base _ _ j hb
    · simp only [TVal.need] at ha
      obtain ⟨ys, B, hsh, hB⟩ := projNK_acc dw keep dpr e xs.toList (fun x hx =>
        ih e x (hall x hx) (admitsB_mono dpr _ _ (by have := TVals.need_mem xs x hx; omega) ha))
      refine ⟨.list ((restrict dw keep).ttype e) (TVals.ofList ys), B + 1, ⟨fun hw => ?_, rfl⟩, fun fK hf => ?_⟩
      · simp only [TVal.wt, Bool.and_eq_true, decide_eq_true_eq] at hw ⊢
        rw [restrict_ttype, TVals.length_ofList, hsh.length_eq, TVals.length_toList]
        exact ⟨⟨hw.1.1, hw.1.2⟩, (TVals.wt_ofList _ ys).mpr (wt_of_shape hsh hw.2)⟩
      · obtain ⟨j, rfl, hj⟩ := succ_of hf
        have := hB j hj []
        rw [TVals.ofList_toList] at this
        simp [projTyK, this]
    · simp only [TVal.need] at ha
      obtain ⟨ys, B, hsh, hB⟩ := projNK_acc dw keep dpr e xs.toList (fun x hx =>
        ih e x (hall x hx) (admitsB_mono dpr _ _ (by have := TVals.need_mem xs x hx; omega) ha))
      refine ⟨.set ((restrict dw keep).ttype e) (TVals.ofList (ys.foldl setInsert [])), B + 1, ⟨fun hw => ?_, rfl⟩, fun fK hf => ?_⟩
      · simp only [TVal.wt, Bool.and_eq_true, decide_eq_true_eq] at hw ⊢
        obtain ⟨hsub, hlen⟩ := foldl_setInsert_sub ys []
        rw [restrict_ttype, TVals.length_ofList]
        have hl := hsh.length_eq
        rw [TVals.length_toList] at hl
        exact ⟨⟨hw.1.1, by simp only [List.length_nil] at hlen; omega⟩, (TVals.wt_ofList _ _).mpr fun y hy =>
          wt_of_shape hsh hw.2 y ((hsub y hy).resolve_left List.not_mem_nil)⟩
      · obtain ⟨j, rfl, hj⟩ := succ_of hf
        have := hB j hj []
        rw [TVals.ofList_toList] at this
        simp [projTyK, this]
    · simp only [TVal.need] at ha
      obtain ⟨ys, B, hsh, hB⟩ := projPairsK_acc dw keep dpr k v kvs.toList (fun x hx =>
        ⟨ih k x.1 (hall x hx).1 (admitsB_mono dpr _ _ (by have := (TPairs.need_mem kvs x hx).1; omega) ha),
         ih v x.2 (hall x hx).2 (admitsB_mono dpr _ _ (by have := (TPairs.need_mem kvs x hx).2; omega) ha)⟩)
      refine ⟨.map ((restrict dw keep).ttype k) ((restrict dw keep).ttype v)
        (TPairs.ofList (ys.foldl (fun a p => mapInsert a p.1 p.2) [])), B + 1, ⟨fun hw => ?_, rfl⟩, fun fK hf => ?_⟩
      · simp only [TVal.wt, Bool.and_eq_true, decide_eq_true_eq] at hw ⊢
        obtain ⟨hsub, hlen⟩ := foldl_mapInsert_sub ys []
        rw [restrict_ttype, restrict_ttype, TPairs.length_ofList]
        have hl := hsh.length_eq
        rw [TPairs.length_toList] at hl
        have hxs := (TPairs.wt_ofList _ _ kvs.toList).mp (by rw [TPairs.ofList_toList]; exact hw.2)
        refine ⟨⟨⟨hw.1.1.1, hw.1.1.2⟩, by simp only [List.length_nil] at hlen; omega⟩, (TPairs.wt_ofList _ _ _).mpr fun p hp => ?_⟩
        obtain ⟨hk1, hv1⟩ := hsub p hp
        constructor
        · rcases hk1 with h0 | h0
          · simp at h0
          · obtain ⟨q, hq, hqp⟩ := List.mem_map.mp h0
            obtain ⟨x, hx, hxq⟩ := hsh.mem_right q hq
            rw [← hqp]; exact ⟨by rw [hxq.1.2, (hxs x hx).1.1], hxq.1.1 (hxs x hx).1.2⟩
        · rcases hv1 with h0 | h0
          · simp at h0
          · obtain ⟨q, hq, hqp⟩ := List.mem_map.mp h0
            obtain ⟨x, hx, hxq⟩ := hsh.mem_right q hq
            rw [← hqp]; exact ⟨by rw [hxq.2.2, (hxs x hx).2.1], hxq.2.1 (hxs x hx).2.2⟩
      · obtain ⟨j, rfl, hj⟩ := succ_of hf
        have := hB j hj []
        rw [TPairs.ofList_toList] at this
        simp [projTyK, this]
    · simp only [TVal.need] at ha
      have hpw := hd n fs0 hn
      have hnr := restrict_find_struct dw keep hn
      have hmem := hasFields_mem dw (hasTy dw f) fs0 wfs hpw h
      obtain ⟨ks, B, hcov, hsh, hB⟩ := projFieldsK_acc dw keep dpr fs0 (keep n) hpw wfs.toList (by
        intro p hp
        obtain ⟨fl, hfl, hid, hin, htt, hty⟩ := hmem p hp
        have hneed : admitsB dpr p.2.need = true := admitsB_mono dpr _ _ (by have := TFields.need_mem wfs p hp; omega) ha
        refine ⟨hin, fl, hfl, hid, htt, ?_⟩
        by_cases hk : keep n fl = true
        · simp only [hk, if_true]; exact ih fl.ty p.2 hty hneed
        · simp only [hk, Bool.false_eq_true, if_false]; exact hneed)
      have keptSlot : ∀ fl ∈ fs0.filter (keep n), (∃ q ∈ wfs.toList, q.1 = fl.id) → (slotGet (setAll [] ks) fl.id).isSome = true :=
        fun fl hflr ⟨q, hq, hqid⟩ => keptSlot dw (keep n) hpw h hcov hq (List.mem_filter.mp hflr).1 (List.mem_filter.mp hflr).2 hqid.symm
      have hsome : ∀ fl ∈ fs0.filter (keep n), fl.required = true → (slotOrDflt (setAll [] ks) fl).isSome = true := by
        intro fl hflr hreq
        rcases hasFields_absent dw _ fs0 wfs hpw h fl (List.mem_filter.mp hflr).1 with hpres | ⟨hnr', _⟩
        · obtain ⟨v, hv⟩ := Option.isSome_iff_exists.mp (keptSlot fl hflr hpres)
          exact Option.isSome_iff_exists.mpr ⟨(fl.id, v), slotOrDflt_eq_some.mpr ⟨rfl, .inl hv⟩⟩
        · rw [hreq] at hnr'; cases hnr'
      obtain ⟨out, hout⟩ : ∃ out, finish (fs0.filter (keep n)) (setAll [] ks) = .ok out := ⟨_, (finish_ok_iff _ _ _).mpr ⟨hsome, rfl⟩⟩
      refine ⟨.struct (TFields.ofList (out ++ wfs.toList.filter (fun p => !keptBy dw fs0 (keep n) p))), B + 1, ⟨fun hw => ?_, rfl⟩, fun fK hf => ?_⟩
      · simp only [TVal.wt] at hw ⊢
        have hwl := (TFields.wt_ofList wfs.toList).mp (by rw [TFields.ofList_toList]; exact hw)
        refine (TFields.wt_ofList _).mpr fun p hp => ?_
        rcases List.mem_append.mp hp with hpo | hpu
        · obtain ⟨fl, hflr, hid, hslot⟩ := finish_mem _ _ out hout p hpo
          rcases hslot with hsome | ⟨hnone, hdf⟩
          · rcases setAll_get_some ks [] fl.id p.2 hsome with hin | hbad
            · obtain ⟨q, hq, hq1, hq2⟩ := hsh (fl.id, p.2) hin
              simp only at hq1 hq2
              exact ⟨by rw [← hid, hq1]; exact (hwl q hq).1, hq2.1 (hwl q hq).2⟩
            · simp [slotGet] at hbad
          · exfalso
            rcases hasFields_absent dw _ fs0 wfs hpw h fl (List.mem_filter.mp hflr).1 with hpres | ⟨_, hdn⟩
            · have := keptSlot fl hflr hpres
              rw [hnone] at this; cases this
            · rw [hdn] at hdf; cases hdf
        · exact hwl p (List.mem_filter.mp hpu).1
      · obtain ⟨j, rfl, hj⟩ := succ_of hf
        have := hB j hj [] []
        rw [TFields.ofList_toList] at this
        simp [projTyK, hnr, this, hout]
    · simp only [TVal.need, TFields.need] at ha
      have hnr := restrict_find_union dw keep hn
      have hfr := find_filter_variant (hu n vs hn) hfind (keepVariant keep n)
      have hadm : admitsB dpr v.need = true := admitsB_mono dpr _ _ (by omega) ha
      by_cases hkeep : keepVariant keep n (pid, ty) = true
      · rw [if_pos hkeep] at hfr
        obtain ⟨pv, B, hs, hB⟩ := ih ty v hty hadm
        refine ⟨.struct (.cons id pv .nil), B + 3, ⟨fun hw => ?_, rfl⟩, fun fK hf => ?_⟩
        · simp only [TVal.wt, TFields.wt, Bool.and_eq_true, decide_eq_true_eq, and_true] at hw ⊢
          exact ⟨hw.1, hs.1 hw.2⟩
        · obtain ⟨j, rfl⟩ : ∃ j, fK = j + 1 + 1 + 1 := ⟨fK - 3, by omega⟩
          simp only [projTyK, hnr, projUnionK, hin, not_true_eq_false, if_false, hfr, Option.isSome_none, Bool.false_eq_true,
            restrict_ttype, htt, bne_self_eq_false, hB (j + 1) (by omega)]
      · rw [if_neg hkeep] at hfr
        refine ⟨.struct (.cons id v .nil), 3, ⟨fun hw => hw, rfl⟩, fun fK hf => ?_⟩
        obtain ⟨j, rfl⟩ : ∃ j, fK = j + 1 + 1 + 1 := ⟨fK - 3, by omega⟩
        simp only [projTyK, hnr, projUnionK, hin, not_true_eq_false, if_false, hfr, Option.isSome_none, Bool.false_eq_true,
          hadm, if_true]
    · have hnr := restrict_find_unit dw keep hn
      refine ⟨.struct .nil, 2, ⟨id, rfl⟩, fun fK hf => ?_⟩
      obtain ⟨j, rfl⟩ : ∃ j, fK = j + 1 + 1 := ⟨fK - 2, by omega⟩
      simp [projTyK, hnr, projUnionK]
    · have hnr := restrict_find_enum dw keep hn
      refine ⟨.i32 x, 1, ⟨id, rfl⟩, fun fK hf => ?_⟩
      obtain ⟨j, rfl, _⟩ := succ_of hf
      simp only [projTyK, hnr]
    · have hnr := restrict_find_typedef dw keep hn
      obtain ⟨w', B, hs, hB⟩ := ih t w h ha
      refine ⟨w', B + 1, hs, fun fK hf => ?_⟩
      obtain ⟨j, rfl, hj⟩ := succ_of hf
      simp only [projTyK, hnr]
      exact hB j hj

end
end Pilota.TGen
