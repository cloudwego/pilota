import PilotaModel.TGen.Project
/-  More fuel never changes a successful projection. -/
namespace Pilota.TGen
open Pilota Pilota.Thrift

variable (d : Doc) (dp : Option Nat)

theorem proj_mono_all : ∀ f : Nat,
    (∀ ty w v, projTy d dp f ty w = some (.ok v) → projTy d dp (f + 1) ty w = some (.ok v)) ∧
    (∀ el xs acc ys, projN d dp f el xs acc = some (.ok ys) → projN d dp (f + 1) el xs acc = some (.ok ys)) ∧
    (∀ k v kvs acc ys, projPairs d dp f k v kvs acc = some (.ok ys) → projPairs d dp (f + 1) k v kvs acc = some (.ok ys)) ∧
    (∀ fs slots wfs s, projFields d dp f fs slots wfs = some (.ok s) → projFields d dp (f + 1) fs slots wfs = some (.ok s)) ∧
    (∀ vs ret wfs r, projUnion d dp f vs ret wfs = some (.ok r) → projUnion d dp (f + 1) vs ret wfs = some (.ok r)) := by
  intro f
  induction f with
  | zero => exact ⟨fun _ _ _ h => (by cases h), fun _ _ _ _ h => (by cases h), fun _ _ _ _ _ h => (by cases h),
      fun _ _ _ _ h => (by cases h), fun _ _ _ _ h => (by cases h)⟩
  | succ f ih =>
    obtain ⟨ihT, ihN, ihP, ihF, ihU⟩ := ih
    -- `unfold .. at h; split at h` leaves one goal per defining clause that can answer `some (.ok _)`, with the
    -- arguments in constructor form, so that the goal's side computes along
    refine ⟨fun ty w v h => ?_, fun el xs acc ys h => ?_, fun k v kvs acc ys h => ?_, fun fs slots wfs s h => ?_,
      fun vs ret wfs r' h => ?_⟩
    · generalize hg : f + 1 = g at h
      unfold projTy at h
      split at h <;> try (cases h; done)
      all_goals cases hg
      case h_11 | h_12 =>   -- list, set
        split at h <;> cases h
        dsimp only [projTy]; rw [ihN _ _ _ _ ‹_›]
      case h_13 =>   -- map
        split at h <;> cases h
        dsimp only [projTy]; rw [ihP _ _ _ _ _ ‹_›]
      case h_14 =>   -- `.ref n`
        dsimp only [projTy]
        split at h <;> try (cases h; done)
        · split at h <;> try (cases h; done)
          split at h <;> try (cases h; done)
          rw [ihF _ _ _ _ ‹_›]; exact h
        · split at h <;> try (cases h; done)
          split at h <;> try (cases h; done)
          rw [ihU _ _ _ _ ‹_›]; exact h
        · exact h
        · exact ihT _ _ _ h
      all_goals exact h
    · generalize hg : f + 1 = g at h
      unfold projN at h
      split at h <;> try (cases h; done)
      all_goals cases hg
      · exact h
      · dsimp only [projN]
        split at h <;> try (cases h; done)
        rw [ihT _ _ _ ‹_›]; exact ihN _ _ _ _ h
    · generalize hg : f + 1 = g at h
      unfold projPairs at h
      split at h <;> try (cases h; done)
      all_goals cases hg
      · exact h
      · dsimp only [projPairs]
        split at h <;> try (cases h; done)
        split at h <;> try (cases h; done)
        rw [ihT _ _ _ ‹projTy d dp f k _ = _›, ihT _ _ _ ‹projTy d dp f v _ = _›]; exact ihP _ _ _ _ _ h
    · generalize hg : f + 1 = g at h
      unfold projFields at h
      split at h <;> try (cases h; done)
      all_goals cases hg
      · exact h
      · dsimp only [projFields]
        split at h <;> try (cases h; done)
        rename_i hid; rw [if_neg hid]
        split at h
        · split at h <;> try (cases h; done)
          rw [ihT _ _ _ ‹_›]; exact ihF _ _ _ _ h
        · split at h <;> try (cases h; done)
          rename_i ha; rw [if_pos ha]; exact ihF _ _ _ _ h
    · generalize hg : f + 1 = g at h
      unfold projUnion at h
      split at h <;> try (cases h; done)
      all_goals cases hg
      · exact h
      · dsimp only [projUnion]
        split at h <;> try (cases h; done)
        rename_i hid; rw [if_neg hid]
        split at h
        · split at h <;> try (cases h; done)
          rename_i hret; rw [if_neg hret]
          split at h <;> try (cases h; done)
          rename_i htt; rw [if_neg htt]
          split at h <;> try (cases h; done)
          rw [ihT _ _ _ ‹_›]; exact ihU _ _ _ _ h
        · split at h <;> try (cases h; done)
          rename_i ha; rw [if_pos ha]; exact ihU _ _ _ _ h

theorem projTy_mono (f g : Nat) (hfg : f ≤ g) (ty : STy) (w v : TVal) (h : projTy d dp f ty w = some (.ok v)) :
    projTy d dp g ty w = some (.ok v) := by
  induction hfg with
  | refl => exact h
  | step _ ih => exact (proj_mono_all d dp _).1 ty w v ih

theorem projN_mono (f g : Nat) (hfg : f ≤ g) (el : STy) (xs : TVals) (acc ys : List TVal)
    (h : projN d dp f el xs acc = some (.ok ys)) : projN d dp g el xs acc = some (.ok ys) := by
  induction hfg with
  | refl => exact h
  | step _ ih => exact (proj_mono_all d dp _).2.1 el xs acc ys ih

theorem projPairs_mono (f g : Nat) (hfg : f ≤ g) (k v : STy) (xs : TPairs) (acc ys : List (TVal × TVal))
    (h : projPairs d dp f k v xs acc = some (.ok ys)) : projPairs d dp g k v xs acc = some (.ok ys) := by
  induction hfg with
  | refl => exact h
  | step _ ih => exact (proj_mono_all d dp _).2.2.1 k v xs acc ys ih

end Pilota.TGen
