import PilotaModel.Lemmas.PbMerge
import PilotaModel.Proto.Group
/-
  The runtime's group codec: `merge` of what `encode` wrote, encoded_len, no panic.
-/
namespace Pilota.Proto
open Pilota Spec

theorem foldRecs_groupLoop (s : Schema) (c : Nat) (D : List FieldDecl) (tag : Nat) (h1 : minTag ≤ tag) (h2 : tag ≤ maxTag) :
    ∀ (rs : List Rec) (M M1 : Slots), (∀ r ∈ rs, tagOk r.tag = true ∧ r.wt ≠ .egroup) →
      foldRecs s (recurOf s c) c D M rs = .ok M1 →
      ∀ (rest : Bytes) (f : Nat), (flat rs ++ (keyBytes tag .egroup ++ rest)).length < f →
        groupMergeLoop (mergeField s c) D tag f M (flat rs ++ (keyBytes tag .egroup ++ rest)) = .ok (M1, rest) := by
  intro rs
  induction rs with
  | nil =>
    intro M M1 _ h rest f hf
    cases h
    obtain ⟨f, rfl⟩ : ∃ g, f = g + 1 := ⟨f - 1, by omega⟩
    simp [flat_nil, groupMergeLoop, decodeKey_keyBytes tag .egroup h1 h2]
  | cons r rs ih =>
    intro M M1 hr h rest f hf
    obtain ⟨Ma, ha, h⟩ := foldRecs_cons_ok h
    obtain ⟨f, rfl⟩ : ∃ g, f = g + 1 := ⟨f - 1, by omega⟩
    have hrr := hr r (by simp)
    have hpos := rec_bytes_pos r
    rw [flat_cons, List.append_assoc] at hf ⊢
    unfold groupMergeLoop
    simp only [decodeKey_rec r hrr.1, hrr.2, if_false, mergeField_rec s c D M Ma r _ ha]
    exact ih Ma M1 (fun x hx => hr x (by simp [hx])) h rest f (by simp only [List.length_append] at hf ⊢; omega)

theorem groupMerge_encode (s : Schema) (flag : Bool) (hs : WFSchema s = true) (tag : Nat) (h1 : minTag ≤ tag) (h2 : tag ≤ maxTag)
    (i : Nat) (x y : Slots) (ctx : Nat) (hy : okSlots s flag (decls s i) y = true) (hn : needSlots y + 1 ≤ ctx)
    (hx : shapeSlots s (decls s i) x = true) (rest : Bytes) :
    groupMerge s ctx tag .sgroup i x (encSlots s flag (decls s i) y ++ (keyBytes tag .egroup ++ rest)) = .ok (mergeVal s i x y, rest) := by
  obtain ⟨c, rfl⟩ : ∃ c, ctx = c + 1 := ⟨ctx - 1, by omega⟩
  have hdw := decls_wf s hs i
  have hfold := foldRecs_recsSlots s flag hs c (decls s i) y x hdw.1 hdw.2 hy (by omega) hx
  have hrs : ∀ r ∈ recsSlots s flag (decls s i) y, tagOk r.tag = true ∧ r.wt ≠ .egroup := fun r hr =>
    have h := recsSlots_tags s flag _ _ r hr; ⟨wf_tags_ok _ _ hdw.1 _ h.1, h.2⟩
  have := foldRecs_groupLoop s c (decls s i) tag h1 h2 _ x _ hrs hfold rest
    ((encSlots s flag (decls s i) y ++ (keyBytes tag .egroup ++ rest)).length + 1)
    (by rw [flat_recsSlots s flag hs _ y hy]; omega)
  rw [flat_recsSlots s flag hs _ y hy] at this
  simp only [groupMerge, checkWireType, if_true, this, mergeVal]

theorem groupEncodedLen_eq (s : Schema) (flag : Bool) (hs : WFSchema s = true) (tag : Nat) (h2 : tag ≤ maxTag)
    (i : Nat) (m : Slots) (hm : okSlots s flag (decls s i) m = true) :
    groupEncodedLen s flag tag i m = (groupEncode s flag tag i m).length := by
  unfold groupEncodedLen groupEncode
  simp only [List.length_append, lenSlots_eq s flag hs _ (decls_wf s hs i).1 m hm, keyLen_eq tag .sgroup h2,
    ← keyLen_eq tag .egroup h2]
  omega

theorem groupMergeLoop_good (rec) (hr : FieldOK rec) (ds : List FieldDecl) (tag : Nat) :
    ∀ (f : Nat) (m : Slots) (bs : Bytes), bs.length < f → Out.good (fun p => p.2.length < bs.length) (groupMergeLoop rec ds tag f m bs) := by
  intro f
  induction f with
  | zero => intro m bs h; omega
  | succ f ih =>
    intro m bs hf
    unfold groupMergeLoop
    refine Out.good.cases (decodeKey_reader [] bs).safe ?_ fun _ => trivial
    intro ⟨⟨t, w⟩, r⟩ (h1 : r.length < bs.length)
    simp only
    split
    · split
      · trivial
      · exact h1
    · refine (hr ds m t w r).cases ?_ fun _ => trivial
      intro ⟨m', r'⟩ (h2 : r'.length ≤ r.length)
      exact Out.good_imp (fun a ha => by omega) _ (ih m' r' (by omega))

theorem groupMerge_good (s : Schema) (ctx tag : Nat) (wt : WireType) (i : Nat) (m : Slots) (bs : Bytes) :
    Out.good (fun _ => True) (groupMerge s ctx tag wt i m bs) := by
  unfold groupMerge
  rcases checkWireType_cases .sgroup wt with h | h <;> rw [h]
  · cases ctx with
    | zero => trivial
    | succ c => exact Out.good_imp (fun _ _ => trivial) _ (groupMergeLoop_good _ (mergeField_ok s c) _ tag _ m bs (by omega))
  · trivial

end Pilota.Proto
