import PilotaModel.Lemmas.PbLoop
import PilotaModel.Lemmas.PbSpecScalar
/-
  The emitted decoder on a message body given as records (`Spec.Rec`, those of the reference, so that C05 / C18 and C06
  share the fold): the field loop over the concatenated records is a fold of `merge_field` over them, and the fold treats
  the fields of the struct independently (`foldRecs_split`).  `applyRec` runs `merge_field` on a record's payload ALONE
  and asks that it be consumed to `[]`; `mergeField_rec` turns that into the run on the payload followed by the rest.
  Bytes come back in through `foldRecs_loop` (top level), `mergeLoop_flat` (a nested body, a map entry) and
  `foldRecs_groupLoop` (PbGroup).
-/
namespace Pilota.Proto
open Pilota Spec

theorem rec_bytes (tag : Nat) (wt : WireType) (p : Bytes) : Rec.bytes ⟨tag, wt, p⟩ = keyBytes tag wt ++ p := by
  simp [Rec.bytes, keyBytes, encodeVarint, base128_eq]

theorem rec_bytes_pos (r : Rec) : 0 < r.bytes.length := by
  obtain ⟨t, w, p⟩ := r
  have := keyBytes_pos t w
  simp only [rec_bytes, List.length_append]; omega

theorem flat_cons (r : Rec) (rs : List Rec) : flat (r :: rs) = r.bytes ++ flat rs := by simp [flat]
theorem flat_append (a b : List Rec) : flat (a ++ b) = flat a ++ flat b := by simp [flat]
theorem flat_nil : flat [] = [] := rfl

theorem lenDelim_eq (b : Bytes) : lenDelim b = encodeVarint b.length ++ b := by
  simp [lenDelim, encodeVarint, base128_eq]

def applySlot (s : Schema) (recur : Recur) (d : FieldDecl) (m : Slot) (r : Rec) : Out Slot :=
  match mergeSlot s recur d m r.tag r.wt r.payload with
  | .ok (m', []) => .ok m'
  | .ok (_, _ :: _) => .err .invalid
  | .err k => .err k
  | .panic e => .panic e
  | .fuel => .fuel

def foldSlot (s : Schema) (recur : Recur) (d : FieldDecl) : Slot → List Rec → Out Slot
  | m, [] => .ok m
  | m, r :: rs =>
    match applySlot s recur d m r with
    | .ok m' => foldSlot s recur d m' rs
    | .err k => .err k
    | .panic e => .panic e
    | .fuel => .fuel

def applyRec (s : Schema) (recur : Recur) (ctx : Nat) (D : List FieldDecl) (M : Slots) (r : Rec) : Out Slots :=
  match mergeFieldWith s recur ctx D M r.tag r.wt r.payload with
  | .ok (M', []) => .ok M'
  | .ok (_, _ :: _) => .err .invalid
  | .err k => .err k
  | .panic e => .panic e
  | .fuel => .fuel

def foldRecs (s : Schema) (recur : Recur) (ctx : Nat) (D : List FieldDecl) : Slots → List Rec → Out Slots
  | M, [] => .ok M
  | M, r :: rs =>
    match applyRec s recur ctx D M r with
    | .ok M' => foldRecs s recur ctx D M' rs
    | .err k => .err k
    | .panic e => .panic e
    | .fuel => .fuel

theorem applySlot_ok {s recur d m r m'} (h : applySlot s recur d m r = .ok m') :
    mergeSlot s recur d m r.tag r.wt r.payload = .ok (m', []) := by
  unfold applySlot at h
  split at h
  · cases h; assumption
  all_goals cases h

theorem applyRec_ok {s recur ctx D M r M'} (h : applyRec s recur ctx D M r = .ok M') :
    mergeFieldWith s recur ctx D M r.tag r.wt r.payload = .ok (M', []) := by
  unfold applyRec at h
  split at h
  · cases h; assumption
  all_goals cases h

theorem foldSlot_cons_ok {s recur d m r rs m1} (h : foldSlot s recur d m (r :: rs) = .ok m1) :
    ∃ m', applySlot s recur d m r = .ok m' ∧ foldSlot s recur d m' rs = .ok m1 := by
  unfold foldSlot at h
  split at h
  · exact ⟨_, by assumption, h⟩
  all_goals cases h

theorem foldRecs_cons_ok {s recur ctx D M r rs M1} (h : foldRecs s recur ctx D M (r :: rs) = .ok M1) :
    ∃ M', applyRec s recur ctx D M r = .ok M' ∧ foldRecs s recur ctx D M' rs = .ok M1 := by
  unfold foldRecs at h
  split at h
  · exact ⟨_, by assumption, h⟩
  all_goals cases h

theorem foldSlot_append (s : Schema) (recur : Recur) (d : FieldDecl) : ∀ (a b : List Rec) (m m1 : Slot),
    foldSlot s recur d m a = .ok m1 → foldSlot s recur d m (a ++ b) = foldSlot s recur d m1 b
  | [], b, m, m1, h => by cases h; rfl
  | r :: a, b, m, m1, h => by
    obtain ⟨m', ha, h⟩ := foldSlot_cons_ok h
    simp only [List.cons_append, foldSlot, ha]
    exact foldSlot_append s recur d a b m' m1 h

theorem foldSlot_cons {s : Schema} {recur : Recur} {d : FieldDecl} {m m' : Slot} {r : Rec} {rs : List Rec}
    (h : mergeSlot s recur d m r.tag r.wt r.payload = .ok (m', [])) :
    foldSlot s recur d m (r :: rs) = foldSlot s recur d m' rs := by
  simp only [foldSlot, applySlot, h]

/-- implicit presence: a plain singular field is one record read into the value the decoder holds, or no record, and
then the value held is the value. -/
theorem foldSlot_implicit {s : Schema} {recur : Recur} {t : Nat} {ty : FTy} {x v : EVal} {rs : List Rec}
    (h : (∃ r, rs = [r] ∧ mergeE s recur ty x r.wt r.payload = .ok (v, [])) ∨ rs = [] ∧ x = v) :
    foldSlot s recur (.single t ty false) (.req x) rs = .ok (.req v) := by
  rcases h with ⟨r, rfl, h⟩ | ⟨rfl, rfl⟩
  · exact (foldSlot_cons (by simp only [mergeSlot, h])).trans rfl
  · rfl

theorem applyRec_hit (s : Schema) (recur : Recur) (ctx : Nat) (d : FieldDecl) (D : List FieldDecl) (m : Slot) (M : Slots) (r : Rec)
    (ht : d.tags.contains r.tag = true) :
    applyRec s recur ctx (d :: D) (.cons m M) r = Out.mapOk (fun m' => Slots.cons m' M) (applySlot s recur d m r) := by
  unfold applyRec applySlot
  rw [mergeFieldWith_hit ht]
  cases mergeSlot s recur d m r.tag r.wt r.payload with
  | ok p => obtain ⟨a, b⟩ := p; cases b <;> rfl
  | _ => rfl

theorem applyRec_miss (s : Schema) (recur : Recur) (ctx : Nat) (d : FieldDecl) (D : List FieldDecl) (m : Slot) (M : Slots) (r : Rec)
    (ht : ¬ d.tags.contains r.tag = true) :
    applyRec s recur ctx (d :: D) (.cons m M) r = Out.mapOk (fun M' => Slots.cons m M') (applyRec s recur ctx D M r) := by
  unfold applyRec
  rw [mergeFieldWith_miss ht]
  cases mergeFieldWith s recur ctx D M r.tag r.wt r.payload with
  | ok p => obtain ⟨a, b⟩ := p; cases b <;> rfl
  | _ => rfl

/-- the records of the first field, picked out in order, act on its slot; the others act on the
rest of the struct; in whatever way the two groups interleave. -/
theorem foldRecs_split (s : Schema) (recur : Recur) (ctx : Nat) (d : FieldDecl) (D : List FieldDecl) :
    ∀ (rs : List Rec) (m : Slot) (M : Slots) (m1 : Slot) (M1 : Slots),
      foldSlot s recur d m (rs.filter (fun r => d.tags.contains r.tag)) = .ok m1 →
      foldRecs s recur ctx D M (rs.filter (fun r => !d.tags.contains r.tag)) = .ok M1 →
      foldRecs s recur ctx (d :: D) (.cons m M) rs = .ok (.cons m1 M1) := by
  intro rs
  induction rs with
  | nil => intro m M m1 M1 h1 h2; cases h1; cases h2; rfl
  | cons r rs ih =>
    intro m M m1 M1 h1 h2
    by_cases ht : d.tags.contains r.tag = true
    · simp only [List.filter_cons, ht, if_true, Bool.not_true, Bool.false_eq_true, if_false] at h1 h2
      obtain ⟨ma, ha, h1⟩ := foldSlot_cons_ok h1
      simp only [foldRecs, applyRec_hit s recur ctx d D m M r ht, ha, Out.mapOk]
      exact ih ma M m1 M1 h1 h2
    · simp only [List.filter_cons, ht, Bool.false_eq_true, if_false, Bool.not_false, if_true] at h1 h2
      obtain ⟨Ma, ha, h2⟩ := foldRecs_cons_ok h2
      simp only [foldRecs, applyRec_miss s recur ctx d D m M r ht, ha, Out.mapOk]
      exact ih m Ma m1 M1 h1 h2

/-- a loop whose step reads one record `r` from the front of its input and does what `g` does with `r`
computes, on the concatenated records followed by anything, the fold of `g` over the records. -/
theorem recs_loop {σ : Type} (step : σ → Bytes → Out (σ × Bytes)) (g : σ → Rec → Out σ) (P : Rec → Prop)
    (hstep : ∀ m r m' rest, P r → g m r = .ok m' → step m (r.bytes ++ rest) = .ok (m', rest))
    (fold : σ → List Rec → Out σ) (hnil : ∀ m, fold m [] = .ok m)
    (hcons : ∀ m r rs m1, fold m (r :: rs) = .ok m1 → ∃ m', g m r = .ok m' ∧ fold m' rs = .ok m1) :
    ∀ (rs : List Rec) (m m1 : σ), (∀ r ∈ rs, P r) → fold m rs = .ok m1 →
      ∀ (rest : Bytes) (f : Nat), (flat rs ++ rest).length ≤ f →
        mergeLoopGo step (f + 1) m (flat rs ++ rest) rest.length = .ok (m1, rest) := by
  intro rs
  induction rs with
  | nil =>
    intro m m1 _ h rest f _
    rw [hnil] at h
    cases h
    exact loop_done step f m rest
  | cons r rs ih =>
    intro m m1 hP h rest f hf
    obtain ⟨m', hg, h⟩ := hcons m r rs m1 h
    have hpos := rec_bytes_pos r
    rw [flat_cons, List.append_assoc] at hf ⊢
    simp only [List.length_append] at hf
    obtain ⟨f, rfl⟩ : ∃ g, f = g + 1 := ⟨f - 1, by omega⟩
    unfold mergeLoopGo
    rw [if_pos (by simp only [List.length_append]; omega), hstep m r m' _ (hP r (by simp)) hg]
    exact ih m' m1 (fun x hx => hP x (by simp [hx])) h rest f (by simp only [List.length_append]; omega)

/-- (`rec`: a wire record.)  Where `applyRec`'s "the payload alone, consumed exactly" becomes "the payload followed by the
rest": the second half of `mergeFieldWith_reader`, at `x := rest` (`foldSlot_loop` does the same for one arm). -/
theorem mergeField_rec (s : Schema) (c : Nat) (D : List FieldDecl) (M M' : Slots) (r : Rec) (rest : Bytes)
    (h : applyRec s (recurOf s c) c D M r = .ok M') :
    mergeField s c D M r.tag r.wt (r.payload ++ rest) = .ok (M', rest) := by
  rw [mergeField_eq]
  exact (mergeFieldWith_reader s rest _ (recurOf_reader s rest c) c D M r.tag r.wt r.payload).ext (applyRec_ok h)

theorem decodeKey_rec (r : Rec) (ht : tagOk r.tag = true) (rest : Bytes) :
    decodeKey (r.bytes ++ rest) = .ok ((r.tag, r.wt), r.payload ++ rest) := by
  obtain ⟨t, w, p⟩ := r
  have ht := of_decide_eq_true ht
  rw [rec_bytes, List.append_assoc, decodeKey_keyBytes t w ht.1 ht.2]

theorem foldRecs_loop (s : Schema) (c : Nat) (D : List FieldDecl) :
    ∀ (rs : List Rec) (M M1 : Slots), (∀ r ∈ rs, tagOk r.tag = true) →
      foldRecs s (recurOf s c) c D M rs = .ok M1 →
      ∀ (rest : Bytes) (f : Nat), (flat rs ++ rest).length ≤ f →
        mergeLoopGo (fieldStep (mergeField s c) D) (f + 1) M (flat rs ++ rest) rest.length = .ok (M1, rest) := by
  refine recs_loop _ (applyRec s (recurOf s c) c D) _ ?_ _ (fun _ => rfl) (fun _ _ _ _ => foldRecs_cons_ok)
  intro M r M' rest ht h
  simp only [fieldStep, decodeKey_rec r ht, mergeField_rec s c D M M' r rest h]

theorem foldSlot_loop (s : Schema) (c : Nat) (d : FieldDecl) :
    ∀ (rs : List Rec) (m m1 : Slot), (∀ r ∈ rs, tagOk r.tag = true ∧ d.tags.contains r.tag = true) →
      foldSlot s (recurOf s c) d m rs = .ok m1 →
      ∀ (rest : Bytes) (f : Nat), (flat rs ++ rest).length ≤ f →
        mergeLoopGo (slotStep s (recurOf s c) d) (f + 1) m (flat rs ++ rest) rest.length = .ok (m1, rest) := by
  refine recs_loop _ (applySlot s (recurOf s c) d) _ ?_ _ (fun _ => rfl) (fun _ _ _ _ => foldSlot_cons_ok)
  intro m r m' rest ht h
  simp only [slotStep, decodeKey_rec r ht.1, ht.2, if_true]
  exact (mergeSlot_reader s rest _ (recurOf_reader s rest c) d m r.tag ht.2 r.wt r.payload).ext (applySlot_ok h)

theorem mergeLoop_flat (s : Schema) (c : Nat) (D : List FieldDecl) (rs : List Rec) (M M1 : Slots) (rest : Bytes)
    (htag : ∀ r ∈ rs, tagOk r.tag = true) (hfold : foldRecs s (recurOf s c) c D M rs = .ok M1) (hlen : (flat rs).length < 2 ^ 64) :
    mergeLoop (fieldStep (mergeField s c) D) M (lenDelim (flat rs) ++ rest) = .ok (M1, rest) := by
  rw [lenDelim_eq, List.append_assoc, mergeLoop_exact _ _ _ _ hlen]
  exact foldRecs_loop s c D rs M M1 htag hfold rest _ (Nat.le_refl _)

end Pilota.Proto
