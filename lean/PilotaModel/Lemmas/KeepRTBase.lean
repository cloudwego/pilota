import PilotaModel.Lemmas.TValList
/-  What the round trips through a reader's document (C13, C08b) and the lowering of literals (C20c) share below the typed
    values: the restricted document, `HashSet` / `HashMap` construction by `setInsert` / `mapInsert`, the element-wise
    relation `All2`, the slot table. -/
namespace Pilota.TGen
open Pilota Pilota.Thrift

theorem restrict_find (d : Doc) (keep : String → Field → Bool) (n : String) :
    (restrict d keep).find n = (d.find n).map (restrictDef keep n) := by
  unfold restrict Doc.find
  induction d with
  | nil => rfl
  | cons p d ih =>
    simp only [List.map_cons, List.find?_cons]
    by_cases h : (p.1 == n) = true
    · simp only [h, Option.map_some]
      have : p.1 = n := by simpa using h
      rw [this]
    · simp only [h]
      exact ih

section
variable (d : Doc) (keep : String → Field → Bool) {n : String}

theorem restrict_find_struct {fs : List Field} (h : d.find n = some (.struct fs)) :
    (restrict d keep).find n = some (.struct (fs.filter (keep n))) := by rw [restrict_find, h]; rfl

theorem restrict_find_union {vs : List (Int × STy)} (h : d.find n = some (.union vs)) :
    (restrict d keep).find n = some (.union (vs.filter (keepVariant keep n))) := by rw [restrict_find, h]; rfl

/-- a union whose head is the `Ok(())` of a void method: the head is never removed -/
theorem restrict_find_unit {i : Int} {tl : List (Int × STy)} (h : d.find n = some (.union ((i, .void) :: tl))) :
    (restrict d keep).find n = some (.union ((i, .void) :: tl.filter (keepVariant keep n))) := by
  rw [restrict_find_union d keep h]
  simp [keepVariant, (by decide : (STy.void == STy.void) = true)]

theorem restrict_find_union_all {vs : List (Int × STy)} (h : d.find n = some (.union vs)) (hv : ∀ x ∈ vs, keepVariant keep n x = true) :
    (restrict d keep).find n = some (.union vs) := by
  rw [restrict_find_union d keep h, List.filter_eq_self.mpr hv]

theorem restrict_find_enum (h : d.find n = some .enum) : (restrict d keep).find n = some .enum := by rw [restrict_find, h]; rfl

theorem restrict_find_typedef {t : STy} (h : d.find n = some (.typedef t)) : (restrict d keep).find n = some (.typedef t) := by
  rw [restrict_find, h]; rfl
end

theorem restrict_length (d : Doc) (keep : String → Field → Bool) : (restrict d keep).length = d.length := by
  simp [restrict]

theorem restrict_ttypeOf (d : Doc) (keep : String → Field → Bool) : ∀ (f : Nat) (t : STy),
    ttypeOf (restrict d keep) f t = ttypeOf d f t := by
  intro f
  induction f with
  | zero => intro t; cases t <;> simp [ttypeOf]
  | succ f ih =>
    intro t
    cases t <;> simp only [ttypeOf]
    rename_i n
    rw [restrict_find]
    cases hd : d.find n with
    | none => simp
    | some df => cases df <;> simp [restrictDef, ih]

theorem restrict_ttype (d : Doc) (keep : String → Field → Bool) (t : STy) : (restrict d keep).ttype t = d.ttype t := by
  unfold Doc.ttype
  rw [restrict_length, restrict_ttypeOf]

theorem setInsert_eq (acc : List TVal) (x : TVal) : setInsert acc x = if x ∈ acc then acc else acc ++ [x] := by
  unfold setInsert
  have : acc.any (TVal.beq x) = true ↔ x ∈ acc := by
    simp only [List.any_eq_true, TVal.beq_iff]
    constructor
    · rintro ⟨y, hy, rfl⟩; exact hy
    · intro h; exact ⟨x, h, rfl⟩
  by_cases h : x ∈ acc
  · simp [h, this.mpr h]
  · have h' : acc.any (TVal.beq x) = false := by
      cases hc : acc.any (TVal.beq x) with
      | false => rfl
      | true => exact absurd (this.mp hc) h
    simp [h, h']

theorem foldl_setInsert_nodup : ∀ (xs acc : List TVal), xs.Nodup → (∀ x ∈ xs, x ∉ acc) → xs.foldl setInsert acc = acc ++ xs := by
  intro xs
  induction xs with
  | nil => intro acc _ _; simp
  | cons x xs ih =>
    intro acc hn hd
    have hn' := List.nodup_cons.mp hn
    simp only [List.foldl_cons]
    rw [setInsert_eq, if_neg (hd x (by simp))]
    rw [ih (acc ++ [x]) hn'.2]
    · simp
    · intro y hy hm
      simp only [List.mem_append, List.mem_singleton] at hm
      rcases hm with hm | hm
      · exact hd y (by simp [hy]) hm
      · subst hm; exact hn'.1 hy

theorem mapInsert_fresh (acc : List (TVal × TVal)) (k v : TVal) (h : k ∉ acc.map (·.1)) : mapInsert acc k v = acc ++ [(k, v)] := by
  unfold mapInsert
  have : acc.any (fun p => TVal.beq p.1 k) = false := by
    cases hc : acc.any (fun p => TVal.beq p.1 k) with
    | false => rfl
    | true =>
      obtain ⟨p, hp, hb⟩ := List.any_eq_true.mp hc
      exact absurd (List.mem_map.mpr ⟨p, hp, (TVal.beq_iff _ _).mp hb⟩) h
  simp [this]

theorem foldl_mapInsert_nodup : ∀ (ps acc : List (TVal × TVal)), (ps.map (·.1)).Nodup → (∀ p ∈ ps, p.1 ∉ acc.map (·.1)) →
    ps.foldl (fun a p => mapInsert a p.1 p.2) acc = acc ++ ps := by
  intro ps
  induction ps with
  | nil => intro acc _ _; simp
  | cons p ps ih =>
    intro acc hn hd
    simp only [List.map_cons, List.nodup_cons] at hn
    simp only [List.foldl_cons]
    rw [mapInsert_fresh acc p.1 p.2 (hd p (by simp))]
    rw [ih (acc ++ [(p.1, p.2)]) hn.2]
    · simp
    · intro q hq hm
      simp only [List.map_append, List.map_cons, List.map_nil, List.mem_append, List.mem_singleton] at hm
      rcases hm with hm | hm
      · exact hd q (by simp [hq]) hm
      · exact hn.1 (hm ▸ List.mem_map.mpr ⟨q, hq, rfl⟩)

theorem nodup_foldl_setInsert : ∀ (ys acc : List TVal), acc.Nodup → (ys.foldl setInsert acc).Nodup := by
  intro ys
  induction ys with
  | nil => intro acc h; exact h
  | cons y ys ih =>
    intro acc h
    simp only [List.foldl_cons]
    apply ih
    rw [setInsert_eq]
    split
    · exact h
    · rename_i hm
      rw [List.nodup_append]
      refine ⟨h, by simp, ?_⟩
      intro a ha b hb
      simp only [List.mem_singleton] at hb
      subst hb
      exact fun heq => hm (heq ▸ ha)

theorem mapInsert_keys (acc : List (TVal × TVal)) (k v : TVal) :
    (mapInsert acc k v).map (·.1) = if k ∈ acc.map (·.1) then acc.map (·.1) else acc.map (·.1) ++ [k] := by
  unfold mapInsert
  have hany : acc.any (fun p => TVal.beq p.1 k) = true ↔ k ∈ acc.map (·.1) := by
    simp only [List.any_eq_true, TVal.beq_iff, List.mem_map]
  by_cases h : k ∈ acc.map (·.1)
  · simp only [hany.mpr h, if_true, h]
    rw [List.map_map]
    apply List.map_congr_left
    intro p _
    simp only [Function.comp]
    split <;> rfl
  · have : acc.any (fun p => TVal.beq p.1 k) = false := by
      cases hc : acc.any (fun p => TVal.beq p.1 k) with
      | false => rfl
      | true => exact absurd (hany.mp hc) h
    simp [this, h]

theorem keys_foldl_mapInsert : ∀ (ps acc : List (TVal × TVal)),
    (ps.foldl (fun a p => mapInsert a p.1 p.2) acc).map (·.1) = (ps.map (·.1)).foldl setInsert (acc.map (·.1))
  | [], _ => rfl
  | p :: ps, acc => by
    rw [List.foldl_cons, keys_foldl_mapInsert ps, mapInsert_keys, ← setInsert_eq]; rfl

theorem nodup_keys_foldl_mapInsert (ps acc : List (TVal × TVal)) (h : (acc.map (·.1)).Nodup) :
    ((ps.foldl (fun a p => mapInsert a p.1 p.2) acc).map (·.1)).Nodup := by
  rw [keys_foldl_mapInsert]; exact nodup_foldl_setInsert _ _ h

theorem foldl_setInsert_sub : ∀ (ys acc : List TVal),
    (∀ z ∈ ys.foldl setInsert acc, z ∈ acc ∨ z ∈ ys) ∧ (ys.foldl setInsert acc).length ≤ acc.length + ys.length := by
  intro ys
  induction ys with
  | nil => intro acc; simp
  | cons y ys ih =>
    intro acc
    simp only [List.foldl_cons]
    obtain ⟨h1, h2⟩ := ih (setInsert acc y)
    have hsub : ∀ z ∈ setInsert acc y, z ∈ acc ∨ z = y := by
      intro z hz; rw [setInsert_eq] at hz
      split at hz
      · exact .inl hz
      · simpa using hz
    have hlen : (setInsert acc y).length ≤ acc.length + 1 := by
      rw [setInsert_eq]; split <;> simp
    constructor
    · intro z hz
      rcases h1 z hz with h | h
      · rcases hsub z h with h | h
        · exact .inl h
        · exact .inr (by simp [h])
      · exact .inr (by simp [h])
    · simp only [List.length_cons]; omega

theorem mapInsert_vals (acc : List (TVal × TVal)) (k v : TVal) : ∀ p ∈ mapInsert acc k v, p.2 ∈ acc.map (·.2) ∨ p.2 = v := by
  unfold mapInsert
  split
  · intro p hp
    obtain ⟨q, hq, hpq⟩ := List.mem_map.mp hp
    split at hpq
    · subst hpq; exact .inr rfl
    · subst hpq; exact .inl (List.mem_map.mpr ⟨q, hq, rfl⟩)
  · intro p hp
    rcases List.mem_append.mp hp with h | h
    · exact .inl (List.mem_map.mpr ⟨p, h, rfl⟩)
    · exact .inr (by rw [List.mem_singleton.mp h])

theorem foldl_mapInsert_vals : ∀ (ps acc : List (TVal × TVal)),
    ∀ p ∈ ps.foldl (fun a q => mapInsert a q.1 q.2) acc, p.2 ∈ acc.map (·.2) ∨ p.2 ∈ ps.map (·.2)
  | [], _, p, hp => .inl (List.mem_map.mpr ⟨p, hp, rfl⟩)
  | q :: ps, acc, p, hp => by
    rw [List.map_cons, List.mem_cons]
    rcases foldl_mapInsert_vals ps _ p hp with h | h
    · obtain ⟨r, hr, hrp⟩ := List.mem_map.mp h
      exact (mapInsert_vals acc q.1 q.2 r hr).imp (hrp ▸ ·) fun e => .inl (hrp ▸ e)
    · exact .inr (.inr h)

/-- keys and size through the set of keys (`keys_foldl_mapInsert`), values by `foldl_mapInsert_vals` -/
theorem foldl_mapInsert_sub : ∀ (ps acc : List (TVal × TVal)),
    (∀ p ∈ ps.foldl (fun a q => mapInsert a q.1 q.2) acc, (p.1 ∈ acc.map (·.1) ∨ p.1 ∈ ps.map (·.1)) ∧ (p.2 ∈ acc.map (·.2) ∨ p.2 ∈ ps.map (·.2))) ∧
      (ps.foldl (fun a q => mapInsert a q.1 q.2) acc).length ≤ acc.length + ps.length := by
  intro ps acc
  obtain ⟨h1, h2⟩ := foldl_setInsert_sub (ps.map (·.1)) (acc.map (·.1))
  rw [← keys_foldl_mapInsert] at h1 h2
  exact ⟨fun p hp => ⟨h1 _ (List.mem_map.mpr ⟨p, hp, rfl⟩), foldl_mapInsert_vals ps acc p hp⟩, by simpa only [List.length_map] using h2⟩

theorem hasTy_set_fold (d : Doc) (F : Nat) (e : STy) (ys : List TVal) (h : ∀ y ∈ ys, hasTy d F e y = true) :
    hasTy d (F + 1) (.set e) (.set (d.ttype e) (TVals.ofList (ys.foldl setInsert []))) = true := by
  simp only [hasTy, beq_self_eq_true, Bool.true_and, Bool.and_eq_true, allV_iff, distinctL_iff, TVals.toList_ofList]
  exact ⟨fun y hy => ((foldl_setInsert_sub ys []).1 y hy).elim nofun (h y), nodup_foldl_setInsert ys [] .nil⟩

theorem hasTy_map_fold (d : Doc) (F : Nat) (k v : STy) (ps : List (TVal × TVal))
    (h : ∀ p ∈ ps, hasTy d F k p.1 = true ∧ hasTy d F v p.2 = true) :
    hasTy d (F + 1) (.map k v) (.map (d.ttype k) (d.ttype v) (TPairs.ofList (ps.foldl (fun a p => mapInsert a p.1 p.2) []))) = true := by
  simp only [hasTy, beq_self_eq_true, Bool.true_and, Bool.and_eq_true, allP_iff, distinctL_iff, TPairs.toList_ofList]
  refine ⟨fun p hp => ?_, nodup_keys_foldl_mapInsert ps [] .nil⟩
  obtain ⟨h1, h2⟩ := (foldl_mapInsert_sub ps []).1 p hp
  constructor
  · obtain ⟨q, hq, hqp⟩ := List.mem_map.mp (h1.resolve_left nofun); rw [← hqp]; exact (h q hq).1
  · obtain ⟨q, hq, hqp⟩ := List.mem_map.mp (h2.resolve_left nofun); rw [← hqp]; exact (h q hq).2

inductive All2 {α β : Type} (R : α → β → Prop) : List α → List β → Prop
  | nil : All2 R [] []
  | cons {a b as bs} : R a b → All2 R as bs → All2 R (a :: as) (b :: bs)

theorem All2.mem_right {α β : Type} {R : α → β → Prop} {as : List α} {bs : List β} (h : All2 R as bs) :
    ∀ b ∈ bs, ∃ a ∈ as, R a b := by
  induction h with
  | nil => intro b hb; cases hb
  | cons hr _ ih =>
    intro b hb
    rcases List.mem_cons.mp hb with rfl | hb
    · exact ⟨_, by simp, hr⟩
    · obtain ⟨a, ha, hab⟩ := ih b hb; exact ⟨a, by simp [ha], hab⟩

theorem All2.mem_left {α β : Type} {R : α → β → Prop} {as : List α} {bs : List β} (h : All2 R as bs) :
    ∀ a ∈ as, ∃ b ∈ bs, R a b := by
  induction h with
  | nil => intro a ha; cases ha
  | cons hr _ ih =>
    intro a ha
    rcases List.mem_cons.mp ha with rfl | ha
    · exact ⟨_, by simp, hr⟩
    · obtain ⟨b, hb, hab⟩ := ih a ha; exact ⟨b, by simp [hb], hab⟩

theorem All2.append {α β : Type} {R : α → β → Prop} {as as' : List α} {bs bs' : List β} (h : All2 R as bs) (h' : All2 R as' bs') :
    All2 R (as ++ as') (bs ++ bs') := by
  induction h with
  | nil => simpa using h'
  | cons hr _ ih => exact .cons hr ih

theorem All2.imp {α β : Type} {R S : α → β → Prop} (hrs : ∀ a b, R a b → S a b) {as : List α} {bs : List β} (h : All2 R as bs) :
    All2 S as bs := by
  induction h with
  | nil => exact .nil
  | cons hr _ ih => exact .cons (hrs _ _ hr) ih

theorem All2.map {α β γ δ : Type} {R : α → β → Prop} {S : γ → δ → Prop} (f : α → γ) (g : β → δ) (hrs : ∀ a b, R a b → S (f a) (g b))
    {as : List α} {bs : List β} (h : All2 R as bs) : All2 S (as.map f) (bs.map g) := by
  induction h with
  | nil => exact .nil
  | cons hr _ ih => exact .cons (hrs _ _ hr) ih

theorem All2.map_left {α β : Type} {R : α → β → Prop} (g : β → α) : ∀ (l : List β), (∀ x ∈ l, R (g x) x) → All2 R (l.map g) l
  | [], _ => .nil
  | a :: l, h => .cons (h a (by simp)) (All2.map_left g l fun x hx => h x (by simp [hx]))

theorem All2.refl_of {α : Type} {R : α → α → Prop} : ∀ (as : List α), (∀ a ∈ as, R a a) → All2 R as as
  | [], _ => .nil
  | a :: as, h => .cons (h a (by simp)) (All2.refl_of as (fun x hx => h x (by simp [hx])))

theorem All2.nodup_right {α β : Type} {R : α → β → Prop} (hinj : ∀ a a' b, R a b → R a' b → a = a')
    {as : List α} {bs : List β} (h : All2 R as bs) (hn : as.Nodup) : bs.Nodup := by
  induction h with
  | nil => simp
  | cons hr hrest ih =>
    rename_i a b as bs
    have hn' := List.nodup_cons.mp hn
    refine List.nodup_cons.mpr ⟨?_, ih hn'.2⟩
    intro hb
    obtain ⟨a', ha', hab'⟩ := hrest.mem_right b hb
    have := hinj a a' b hr hab'
    subst this
    exact hn'.1 ha'

theorem All2.length_eq {α β : Type} {R : α → β → Prop} {as : List α} {bs : List β} (h : All2 R as bs) : bs.length = as.length := by
  induction h with
  | nil => rfl
  | cons _ _ ih => simp [ih]

theorem slotGet_slotSet (s : List (Int × TVal)) (i j : Int) (v : TVal) :
    slotGet (slotSet s i v) j = if i = j then some v else slotGet s j := by
  unfold slotGet slotSet
  by_cases h : i = j
  · subst h
    rw [List.find?_append]
    have : (s.filter (fun x => x.1 != i)).find? (fun x => x.1 == i) = none := by
      rw [List.find?_eq_none]; intro x hx; simp at hx; simpa using hx.2
    simp [this]
  · simp only [h, if_false]
    rw [List.find?_append]
    have hij : ((i, v).1 == j) = false := by simpa using h
    have : (s.filter (fun x => x.1 != i)).find? (fun x => x.1 == j) = s.find? (fun x => x.1 == j) := by
      rw [List.find?_filter]
      congr 1; funext x
      by_cases hx : x.1 = j
      · have : x.1 ≠ i := fun hh => h (hh ▸ hx)
        simp [hx]; exact fun hh => h (hh ▸ rfl)
      · simp [hx]
    rw [this]
    cases s.find? (fun x => x.1 == j) with
    | some p => simp
    | none => simp [List.find?, hij]

theorem admitsB_mono (dp : Option Nat) (a b : Nat) (h : a ≤ b) (hb : admitsB dp b = true) : admitsB dp a = true := by
  cases dp with
  | none => rfl
  | some d => simp only [admitsB, decide_eq_true_eq] at hb ⊢; omega

end Pilota.TGen
