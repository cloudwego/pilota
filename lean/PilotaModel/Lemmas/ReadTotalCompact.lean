import PilotaModel.Lemmas.ReadBasicsCompact
import PilotaModel.Lemmas.WalkCompact
/-
  Compact reading interpreter on EVERY input and from EVERY reader state: never panics, consumes at
  least what it builds, never runs out of the top-level budget, does not look past what it consumes.
  A pending bool (value carried by a field header) is worth one unit of the measure.
-/
namespace Pilota.Thrift.Compact
open Pilota Pilota.Thrift

theorem leaf_reads (l : Walk.Leaf) {s : CR} {bs : Bytes} (q : Bytes) :
    Out.Beside False False (fun x => 3 * x.2.2.length + mu x.2.1 < 3 * bs.length + mu s ∧
        x.1.weight + (3 * x.2.2.length + mu x.2.1) ≤ 3 * bs.length + mu s)
      (fun x => (x.1, x.2.1, x.2.2 ++ q)) (readVal 1 l.ttype s bs) (readVal 1 l.ttype s (bs ++ q)) := by
  cases l <;> dsimp only [Walk.Leaf.ttype] <;> unfold readVal
  case bool => beside_step readBool_reads q; exact ⟨by dsimp only [TVal.weight]; omega, rfl⟩
  case i8 => beside_step Binary.readI_reads q; exact ⟨by dsimp only [TVal.weight]; omega, rfl⟩
  case i16 | i32 | i64 => beside_step readVarS_reads q; exact ⟨by dsimp only [TVal.weight]; omega, rfl⟩
  case double => beside_step Binary.readU_reads q; exact ⟨by dsimp only [TVal.weight]; omega, rfl⟩
  case binary => beside_step readBytes_reads q; exact ⟨by dsimp only [TVal.weight]; omega, rfl⟩
  case uuid => beside_step Binary.takeN_reads q; exact ⟨by dsimp only [TVal.weight]; omega, rfl⟩

theorem walkPrims_safe : walkPrims.Safe fun s => 3 * s.2.length + mu s.1 where
  leaf l _ := (leaf_reads l []).safe
  structBegin _ := rfl
  structEnd s := (readStructEnd_safe s.1).bind fun _ _ h => Nat.le_of_eq (congrArg (3 * s.2.length + ·) h)
  fieldBegin s := (readFieldBegin_reads []).mono id id fun _ h => by omega
  listBegin s := onInput_safe ((readCollBegin_reads []).mono id id fun _ h => by dsimp only; omega)
  mapBegin s := onInput_safe ((readMapBegin_reads []).mono id id fun _ h => by dsimp only; omega)

theorem readVal_safe (f : Nat) (t : TType) (s : CR) (bs : Bytes) : (readVal f t s bs).Safe False (f < 3 * bs.length + mu s + 2) fun x =>
    3 * x.2.2.length + mu x.2.1 < 3 * bs.length + mu s ∧ x.1.weight + (3 * x.2.2.length + mu x.2.1) ≤ 3 * bs.length + mu s :=
  (readVal_eq_walk f).1 t s bs ▸ (Walk.safe walkPrims_safe f).1 t (s, bs)

theorem readFields_len {f s bs fs s' r} (h : readFields f s bs = .ok (fs, s', r)) : 3 * r.length + mu s' + 1 ≤ 3 * bs.length + mu s :=
  (((Walk.safe walkPrims_safe f).2.1 (s, bs)).ok (a := (fs, s', r)) ((readVal_eq_walk f).2.1 s bs ▸ h)).1
theorem readN_len {f et n s bs xs s' r} (h : readN f et n s bs = .ok (xs, s', r)) : 3 * r.length + mu s' ≤ 3 * bs.length + mu s :=
  Nat.le_trans (Nat.le_add_left _ _) (((Walk.safe walkPrims_safe f).2.2.1 et n (s, bs)).ok (a := (xs, s', r)) ((readVal_eq_walk f).2.2.1 et n s bs ▸ h))
theorem readPairs_len {f kt vt n s bs xs s' r} (h : readPairs f kt vt n s bs = .ok (xs, s', r)) : 3 * r.length + mu s' ≤ 3 * bs.length + mu s :=
  Nat.le_trans (Nat.le_add_left _ _)
    (((Walk.safe walkPrims_safe f).2.2.2 kt vt n (s, bs)).ok (a := (xs, s', r)) ((readVal_eq_walk f).2.2.2 kt vt n s bs ▸ h))

theorem walkPrims_ext (q : Bytes) : walkPrims.Sim walkPrims (Out.more q) fun _ _ => True where
  leaf l _ _ hs := hs ▸ .of_app fun _ _ => (leaf_reads l q).ext
  structBegin hs := hs ▸ rfl
  structEnd hs s1 e := by subst hs; exact ⟨(s1.1, s1.2 ++ q), structEnd_ok.mpr ⟨(structEnd_ok.mp e).1, congrArg (· ++ q) (structEnd_ok.mp e).2⟩, rfl⟩
  fieldBegin hs _ _ _ e := hs ▸ ⟨_, (readFieldBegin_reads q).ext e, rfl⟩
  listBegin _ hs _ _ s1 e _ := by
    subst hs; exact ⟨(s1.1, s1.2 ++ q), onInput_ok.mpr ⟨(readCollBegin_reads q).ext (onInput_ok.mp e).1, (onInput_ok.mp e).2⟩, rfl⟩
  mapBegin hs _ _ _ s1 e _ := by
    subst hs; exact ⟨(s1.1, s1.2 ++ q), onInput_ok.mpr ⟨(readMapBegin_reads q).ext (onInput_ok.mp e).1, (onInput_ok.mp e).2⟩, rfl⟩

theorem readVal_ext (q : Bytes) {f f' t s p v s' r} (hf : f ≤ f') (h : readVal f t s p = .ok (v, s', r)) :
    readVal f' t s (p ++ q) = .ok (v, s', r ++ q) := by
  rw [(readVal_eq_walk f).1] at h
  rw [(readVal_eq_walk f').1]
  exact ((Walk.simV (walkPrims_ext q) (fun _ => trivial) (fun _ => trivial) f f' hf).1 t rfl).app h

end Pilota.Thrift.Compact
