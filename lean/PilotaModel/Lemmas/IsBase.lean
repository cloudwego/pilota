import PilotaModel.TGen.Typed
/-  Values of the nine base types: every specification function of the emitted-decoder cluster (`projTy`, `projTyK`,
    `hasTy`) treats them as leaves. -/
namespace Pilota.TGen
open Pilota Pilota.Thrift

/-- a leaf value at the base type that reads it -/
def isBase : STy → TVal → Bool
  | .bool, .bool _ | .i8, .i8 _ | .i16, .i16 _ | .i32, .i32 _ | .i64, .i64 _ | .double, .dbl _
  | .string, .bin _ | .binary, .bin _ | .uuid, .uuid _ => true
  | _, _ => false

variable (d : Doc) (dp : Option Nat) (f : Nat) {ty : STy} {w : TVal} (h : isBase ty w = true)
include h

theorem projTy_base : projTy d dp (f + 1) ty w = some (.ok w) := by
  unfold isBase at h; split at h <;> first | rfl | cases h

theorem projTyK_base : projTyK d dp (f + 1) ty w = some (.ok w) := by
  unfold isBase at h; split at h <;> first | rfl | cases h

theorem hasTy_base : hasTy d (f + 1) ty w = true := by
  unfold isBase at h; split at h <;> first | rfl | cases h

end Pilota.TGen
