import PilotaModel.Lemmas.OutSafe
import PilotaModel.Lemmas.Base
import PilotaModel.Thrift.Binary
/-
  Facts about the reader primitives that hold for EVERY input (not only valid encodings):
  `_reads q`: the read beside the read of the input followed by `q` (`Out.Beside`): it never takes the `panic` or
  `fuel` branch, a successful read consumes a known number of bytes (`_len` is that projection) and is the same read,
  with `q` behind what it left, when `q` follows the input.
-/
namespace Pilota
open Pilota Pilota.Thrift

namespace Thrift.Binary
open Out

theorem takeN_ok {n bs a r} (h : takeN n bs = .ok (a, r)) : n ≤ bs.length ∧ a = bs.take n ∧ r = bs.drop n := by
  unfold takeN at h
  split at h
  · cases h; exact ⟨‹_›, rfl, rfl⟩
  · cases h
theorem takeN_append_of_le {n p} (q : Bytes) (h : n ≤ p.length) : takeN n (p ++ q) = .ok (p.take n, p.drop n ++ q) := by
  unfold takeN
  rw [if_pos (by rw [List.length_append]; omega), List.take_append_of_le_length h, List.drop_append_of_le_length h]
theorem takeN_reads {n bs} (q : Bytes) :
    Beside False False (fun x => n + x.2.length = bs.length) (withTail q) (takeN n bs) (takeN n (bs ++ q)) := by
  unfold takeN
  split
  · exact ⟨by show n + (bs.drop n).length = _; rw [List.length_drop]; omega, takeN_append_of_le q ‹_›⟩
  · trivial
theorem takeN_len {n bs a r} (h : takeN n bs = .ok (a, r)) : n + r.length = bs.length := (Safe.ok (takeN_reads []) h).1

theorem readU_ok {e w bs n r} (h : readU e w bs = .ok (n, r)) : w ≤ bs.length ∧ r = bs.drop w := by
  unfold readU at h
  ok_step h
  cases h
  exact ⟨(takeN_ok ‹_›).1, (takeN_ok ‹_›).2.2⟩
theorem readByte_as_readU (bs : Bytes) : readByte bs = readU .be 1 bs := by
  cases bs with
  | nil => rfl
  | cons b r => simp [readByte, readU, takeN, decFixed, beToNat, leToNat]

theorem readU_reads {e w bs} (q : Bytes) :
    Beside False False (fun x => w + x.2.length = bs.length) (withTail q) (readU e w bs) (readU e w (bs ++ q)) := by
  unfold readU
  beside_step takeN_reads q
  exact ⟨‹_›, rfl⟩
theorem readU_len {e w bs n r} (h : readU e w bs = .ok (n, r)) : w + r.length = bs.length := (Safe.ok (readU_reads []) h).1

theorem readI_ok {e w bs n r} (h : readI e w bs = .ok (n, r)) : w ≤ bs.length ∧ r = bs.drop w := by
  unfold readI at h
  ok_step h
  cases h
  exact readU_ok ‹_›
theorem readI_reads {e w bs} (q : Bytes) :
    Beside False False (fun x => w + x.2.length = bs.length) (withTail q) (readI e w bs) (readI e w (bs ++ q)) := by
  unfold readI
  beside_step readU_reads q
  exact ⟨‹_›, rfl⟩
theorem readI_len {e w bs n r} (h : readI e w bs = .ok (n, r)) : w + r.length = bs.length := (Safe.ok (readI_reads []) h).1
theorem readI_inS (e : Endian) (w : Nat) (hw : 0 < w) (bs : Bytes) (n : Int) (r : Bytes) (h : readI e w bs = .ok (n, r)) :
    inS w n := by
  unfold readI at h
  ok_step h
  cases h
  exact inS_toS w hw _

/-! `len as usize` of an `i32`: the value itself when it is not negative, at least `2 ^ 63` when it is. -/

theorem inS4_bounds {n : Int} (h : inS 4 n) : -2 ^ 31 ≤ n ∧ n < 2 ^ 31 := by
  unfold inS at h
  rw [show (256 ^ 4 / 2 : Nat) = 2 ^ 31 by decide] at h
  omega
theorem asUsize_of_nonneg (n : Int) (h0 : 0 ≤ n) (h : inS 4 n) : asUsize n = n.toNat := by
  unfold asUsize toU
  rw [Int.emod_eq_of_lt h0 (by have := inS4_bounds h; omega)]
theorem asUsize_of_neg (n : Int) (h0 : n < 0) (h : inS 4 n) : 2 ^ 63 ≤ asUsize n := by
  unfold asUsize toU
  have := inS4_bounds h
  rw [← Int.add_emod_right, Int.emod_eq_of_lt (by omega) (by omega)]
  omega

theorem readByte_reads {bs} (q : Bytes) :
    Beside False False (fun x => 1 + x.2.length = bs.length) (withTail q) (readByte bs) (readByte (bs ++ q)) := by
  cases bs with
  | nil => trivial
  | cons b r => exact ⟨Nat.add_comm .., rfl⟩
theorem readByte_len {bs b r} (h : readByte bs = .ok (b, r)) : 1 + r.length = bs.length := (Safe.ok (readByte_reads []) h).1

theorem readTType_reads {bs} (q : Bytes) :
    Beside False False (fun x => 1 + x.2.length = bs.length) (withTail q) (readTType bs) (readTType (bs ++ q)) := by
  unfold readTType
  beside_step readByte_reads q
  split
  · exact ⟨‹_›, rfl⟩
  · trivial
theorem readTType_len {bs t r} (h : readTType bs = .ok (t, r)) : 1 + r.length = bs.length := (Safe.ok (readTType_reads []) h).1

theorem splitTo_of_le {n bs} (h : n ≤ bs.length) : splitTo n bs = .ok (bs.take n, bs.drop n) := if_pos h

theorem readBytes_ok {e bs b r} (h : readBytes e bs = .ok (b, r)) :
    ∃ len r0, readI e 4 bs = .ok (len, r0) ∧ asUsize len ≤ r0.length ∧ b = r0.take (asUsize len) ∧ r = r0.drop (asUsize len) := by
  unfold readBytes at h
  ok_step h
  dsimp only at h
  split at h
  · rw [splitTo_of_le ‹_›] at h
    cases h
    exact ⟨_, _, ‹_›, ‹_›, rfl, rfl⟩
  · cases h
/-- the bounds check in front of `split_to` makes its panic unreachable. -/
theorem readBytes_reads {e bs} (q : Bytes) :
    Beside False False (fun x => 4 + x.1.length + x.2.length = bs.length) (withTail q) (readBytes e bs) (readBytes e (bs ++ q)) := by
  unfold readBytes
  beside_step readI_reads q
  dsimp only
  split
  · rename_i len r _ _ h
    have h3 : asUsize len ≤ (r ++ q).length := by rw [List.length_append]; omega
    rw [splitTo_of_le h, if_pos h3, splitTo_of_le h3, List.take_append_of_le_length h, List.drop_append_of_le_length h]
    exact ⟨by show 4 + (List.take _ _).length + (List.drop _ _).length = _; rw [List.length_take, List.length_drop]; omega, rfl⟩
  · trivial
theorem readBytes_len {e bs b r} (h : readBytes e bs = .ok (b, r)) : 4 + b.length + r.length = bs.length :=
  (Safe.ok (readBytes_reads []) h).1

theorem readFieldBegin_reads {e bs} (q : Bytes) : Beside False False (fun x =>
    x.1.1 = .stop ∧ 1 + x.2.length = bs.length ∨ x.1.1 ≠ .stop ∧ 3 + x.2.length = bs.length) (withTail q)
    (readFieldBegin e bs) (readFieldBegin e (bs ++ q)) := by
  unfold readFieldBegin
  beside_step readTType_reads q
  split
  · exact ⟨.inl ⟨‹_›, ‹_›⟩, rfl⟩
  · beside_step readI_reads q
    exact ⟨.inr ⟨‹_›, by dsimp only; omega⟩, rfl⟩
theorem readFieldBegin_len {e bs x r} (h : readFieldBegin e bs = .ok (x, r)) : 1 + r.length ≤ bs.length := by
  have := (Safe.ok (readFieldBegin_reads []) h).1
  dsimp only at this; omega

theorem checkSize_reads {n r} (q : Bytes) :
    Beside False False (fun k => k ≤ r.length ∧ 0 ≤ n ∧ k = n.toNat) (fun k => k) (checkSize n r) (checkSize n (r ++ q)) := by
  unfold checkSize
  split
  · trivial
  · split
    · exact ⟨⟨‹_›, by omega, rfl⟩, if_pos (by rw [List.length_append]; omega)⟩
    · trivial
theorem checkSize_inv {n r k} (h : checkSize n r = .ok k) : k ≤ r.length ∧ 0 ≤ n ∧ k = n.toNat := (Safe.ok (checkSize_reads []) h).1
theorem asUsize_of_checkSize {n r k} (hn : inS 4 n) (h : checkSize n r = .ok k) : asUsize n = k := by
  obtain ⟨_, h0, rfl⟩ := checkSize_inv h
  exact asUsize_of_nonneg n h0 hn

theorem readListBegin_reads {e bs} (q : Bytes) :
    Beside False False (fun x => 5 + x.2.length = bs.length) (withTail q) (readListBegin e bs) (readListBegin e (bs ++ q)) := by
  unfold readListBegin
  beside_step readTType_reads q
  beside_step readI_reads q
  beside_step checkSize_reads q
  exact ⟨by dsimp only; omega, rfl⟩
theorem readListBegin_len {e bs x r} (h : readListBegin e bs = .ok (x, r)) : 5 + r.length = bs.length :=
  (Safe.ok (readListBegin_reads []) h).1

theorem readMapBegin_reads {e bs} (q : Bytes) :
    Beside False False (fun x => 6 + x.2.length = bs.length) (withTail q) (readMapBegin e bs) (readMapBegin e (bs ++ q)) := by
  unfold readMapBegin
  beside_step readTType_reads q
  beside_step readTType_reads q
  beside_step readI_reads q
  beside_step checkSize_reads q
  exact ⟨by dsimp only; omega, rfl⟩
theorem readMapBegin_len {e bs x r} (h : readMapBegin e bs = .ok (x, r)) : 6 + r.length = bs.length :=
  (Safe.ok (readMapBegin_reads []) h).1

end Thrift.Binary
end Pilota
