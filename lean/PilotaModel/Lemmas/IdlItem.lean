import PilotaModel.Lemmas.IdlTypeRT
namespace Pilota.Idl

/-- the text after a definition at item level, once the blanks are read: the end of the input or the keyword of the next item -/
def ItemStart (R : List Char) : Prop := hdP (fun c => c.isAlpha) R = true

theorem alpha_identStart {c : Char} (h : c.isAlpha = true) : isIdentStart c = true := by simp [isIdentStart, h]

theorem ItemStart.nb {R} (h : ItemStart R) : NB R :=
  hdP_mono (fun _ hc => identStart_NB (alpha_identStart hc)) h
theorem ItemStart.noSep {R} (h : ItemStart R) : NoSepStart R :=
  hdP_mono (fun _ hc => identStart_noSep (alpha_identStart hc)) h
theorem ItemStart.ne {R} (x : Char) (hx : x.isAlpha = false) (h : ItemStart R) : hdP (fun c => c != x) R = true :=
  hdP_mono (fun c hc => by simp only [bne_iff_ne, ne_eq]; intro e; subst e; rw [hc] at hx; cases hx) h

theorem typeFollow_name (t : TypeA) {g name X : List Char} (hg : BT g) (hopen : g ≠ [] ∨ t.endsOpen = false)
    (hn : identOk name = true) (hcpp : nameAfterTypeOk t name = true)
    (hX : hdP (fun c => !isIdentChar c) X = true) : TypeFollow t (g ++ (name ++ X)) := by
  obtain ⟨c, cs, rfl, hc, _⟩ := identOk_cons hn
  have hnb : NB ((c :: cs) ++ X) := identStart_NB hc
  have h2 : AnnsStop (g ++ ((c :: cs) ++ X)) := annsStop_of hg hnb (bne_iff_ne.mpr (ne_of_class hc (by decide)))
  have h3 : PathStop (g ++ ((c :: cs) ++ X)) := pathStop_of hg hnb (bne_iff_ne.mpr (ne_of_class hc (by decide)))
  cases t with
  | mk ty as =>
    by_cases has : as = []
    · subst has
      refine Or.inr ⟨?_, h2⟩
      have hsep : ty.endsOpen = true → Sep (g ++ ((c :: cs) ++ X)) := by
        intro ho
        rcases hopen with h | h
        · exact hg.sep_append (Or.inl h)
        · simp [TypeA.endsOpen, ho] at h
      cases ty with
      | path p => exact ⟨(hsep rfl).noIdent, h3⟩
      | list v cpp =>
        cases cpp with
        | some _ => trivial
        | none =>
          have hne : (c :: cs) ≠ cs!"cpp_type" := by
            simp only [nameAfterTypeOk, TypeA.endsInListGt, Bool.true_and, Bool.not_eq_true', decide_eq_false_iff_not] at hcpp
            exact hcpp
          exact noCpp_of hg hnb (cppType_err_word hn hX hne)
      | set v cpp => trivial
      | map k v cpp => trivial
      | _ => exact hsep rfl
    · exact Or.inl has

theorem rOptAnns_nil (l : Layout) : (rOptAnns [] l).1 = [] ∧ (rOptAnns [] l).2 = l := ⟨rfl, rfl⟩

def SplitNot (c : Char) (T : List Char) : Prop :=
  ∃ B T0, T = B ++ T0 ∧ BT B ∧ NB T0 ∧ hdP (fun x => x != c) T0 = true

theorem splitNot_of {c : Char} {T : List Char} (h1 : NB T) (h2 : hdP (fun x => x != c) T = true) : SplitNot c T :=
  ⟨[], T, rfl, BT.nil, h1, h2⟩

theorem pathStop_of_ahead {T : List Char} (h : Ahead (Hd (· != '.')) T) : PathStop T := by
  obtain ⟨B, T0, rfl, hB, h1, h2⟩ := h
  exact pathStop_of hB h1 h2

theorem tailAdj_splitNot {c : Char} (hc : c ≠ ',' ∧ c ≠ ';') (endsOpen last : Bool) (l : Layout) {R : List Char}
    (hR : NB R) (hd : hdP (fun x => x != c) R = true) : SplitNot c ((rTailAdj endsOpen last l).1 ++ R) :=
  (rTailAdj_tail ..).split hR hd fun s y hs => by
    rw [hdP_cons, bne_iff_ne]; rcases hs with h | h <;> subst h; exact hc.1.symm; exact hc.2.symm

/- After the body of a field or definition come optional annotations and a tail (the parsers end
`opt(blank), opt(Annotations), [opt(blank),] opt(list_separator)`): `rOptAnns as +> rTail e last` for fields and namespaces
(a blank may stand between the annotations and the separator), `rOptAnns as +> rDefTail as e last` for definitions (it may not). -/

/-- what `opt(Annotations::parse)` returns for a rendered annotation list -/
def annOpt (as : Annotations) : Option Annotations := if as.isEmpty then none else some as

theorem annOpt_getD (as : Annotations) : (annOpt as).getD [] = as := by
  cases as <;> rfl

namespace Follows
variable {F G E : List Char → Prop} {as : Annotations} {e last : Bool} {t : R}

theorem tail_sep (h : ∀ x, F x → (e && !last) = true ∨ Sep x) : Follows (rTail e last) F Sep :=
  fun l x hx => (rTail_tail e last l x).toSep (h x hx)

theorem tail_ahead (hs : ∀ s y, s = ',' ∨ s = ';' → E (s :: y)) (h : ∀ x, F x → NB x ∧ E x) : Follows (rTail e last) F (Ahead E) :=
  fun l x hx => (rTail_tail e last l x).split (h x hx).1 (h x hx).2 hs

theorem annsTail_sep (h : as = [] → ∀ x, F x → (e && !last) = true ∨ Sep x) : Follows (rOptAnns as +> rTail e last) F Sep :=
  optAnns (fun has => tail_sep (h has)) fun _ _ hB => hB.sep_append (.inr rfl)

theorem defTail_sep (h : ∀ x, F x → (e && !last) = true ∨ Sep x) : Follows (rOptAnns as +> rDefTail as e last) F Sep :=
  optAnns (fun has => by subst has; exact tail_sep h) fun _ _ hB => hB.sep_append (.inr rfl)

theorem annsTail_ahead (hs : ∀ s y, s = ',' ∨ s = ';' → E (s :: y)) (hp : ∀ y, E ('(' :: y)) (h : ∀ x, F x → NB x ∧ E x) :
    Follows (rOptAnns as +> rTail e last) F (Ahead E) :=
  optAnns (fun _ => tail_ahead hs h) fun B y hB => ⟨B, _, rfl, hB, rfl, hp y⟩

theorem defTail_ahead (hs : ∀ s y, s = ',' ∨ s = ';' → E (s :: y)) (hp : ∀ y, E ('(' :: y)) (h : ∀ x, F x → NB x ∧ E x) :
    Follows (rOptAnns as +> rDefTail as e last) F (Ahead E) :=
  optAnns (fun has => by subst has; exact tail_ahead hs h) fun B y hB => ⟨B, _, rfl, hB, rfl, hp y⟩

theorem ne_punct {c : Char} (hc : c ≠ ',' ∧ c ≠ ';' ∧ c ≠ '(') :
    (∀ s y, s = ',' ∨ s = ';' → Hd (· != c) (s :: y)) ∧ ∀ y, Hd (· != c) ('(' :: y) :=
  ⟨fun s y hs => by rw [Hd, hdP_cons, bne_iff_ne]; rcases hs with h | h <;> subst h; exact hc.1.symm; exact hc.2.1.symm,
   fun _ => bne_iff_ne.mpr hc.2.2.symm⟩

theorem annsTail_aheadNe {c : Char} (hc : c ≠ ',' ∧ c ≠ ';' ∧ c ≠ '(') (h : ∀ x, F x → NB x ∧ Hd (· != c) x) :
    Follows (rOptAnns as +> rTail e last) F (Ahead (Hd (· != c))) := annsTail_ahead (ne_punct hc).1 (ne_punct hc).2 h

theorem defTail_aheadNe {c : Char} (hc : c ≠ ',' ∧ c ≠ ';' ∧ c ≠ '(') (h : ∀ x, F x → NB x ∧ Hd (· != c) x) :
    Follows (rOptAnns as +> rDefTail as e last) F (Ahead (Hd (· != c))) := defTail_ahead (ne_punct hc).1 (ne_punct hc).2 h

theorem typeName {r a : R} [IsBlank a] {t : TypeA} {name : Ident} (hopen : ∀ l, (a l).1 ≠ [] ∨ t.endsOpen = false)
    (hn : identOk name = true) (hcpp : nameAfterTypeOk t name = true) (hs : Follows r F Sep) :
    Follows (a +> rLit name +> r) F (TypeFollow t) := fun l x hx => by
  simp only [rSeq_fst, rLit_fst, List.append_assoc]
  exact typeFollow_name t (IsBlank.bt l) (hopen l) hn hcpp (hs _ x hx).noIdent

end Follows

namespace Reads
variable {β : Type} {r : R} {F : List Char → Prop} {Q : β → List Char → Prop} {k : Option Annotations → P β} {as : Annotations}
  {e last : Bool}

theorem type {t : TypeA} (hw : t.wf = true) {d : Nat} (hd : t.depth < d) {f : TypeA → P β}
    (hfo : Follows r F (TypeFollow t)) (hf : Reads (f t) r F Q) : Reads (andThen (typeParse (Ty.parse d)) f) (rType t +> r) F Q :=
  seq (of_exact fun l x hx => type_rt t hw d hd l x hx) hfo hf

theorem annsTail {v : β} (hw : Annotations.wf as = true) (hF : ∀ x, F x → NB x ∧ NoSepStart x ∧ Hd (· != '(') x)
    (hk : k (annOpt as) = ret v) :
    Reads (andThen (opt blank) fun _ => andThen (opt Annotations.parse) fun anns => andThen (opt blank) fun _ =>
        andThen (opt listSeparator) fun _ => k anns) (rOptAnns as +> rTail e last) F (Exact v) := by
  have hF' : ∀ x, F x → NB x ∧ NoSepStart x := fun x hx => ⟨(hF x hx).1, (hF x hx).2.1⟩
  by_cases has : as = []
  · subst has
    simp only [rOptAnns, List.isEmpty_nil, if_true, rLit_nil_seq]
    exact .optAbsent (.tail_ahead (fun _ _ hs => annotations_err (by rcases hs with h | h <;> subst h <;> rfl))
        fun x hx => ⟨(hF x hx).1, annotations_err (hF x hx).2.2⟩) <|
      .tail hF' (by rw [show none = annOpt [] from rfl, hk]; exact .done ⟨rfl, rfl⟩)
  · have he := isEmpty_false_of_ne has
    rw [rOptAnns, if_neg (by simp [he]), rSeq_assoc]
    exact .optBlank (.starts (rAnns_starts has)) <| .optSome (annotations_reads hw has) (fun _ _ _ => trivial) <|
      .tail hF' (by rw [show some as = annOpt as by simp [annOpt, he], hk]; exact .done ⟨rfl, rfl⟩)

/-- a separator is consumed with the blanks around it; without one the blank after the annotations is left to `k` -/
theorem defTailK (hw : Annotations.wf as = true) (hF : ∀ x, F x → NB x ∧ NoSepStart x ∧ Hd (· != '(') x)
    (hk : ∀ ann g x, ann.getD [] = as → BT g → F x →
      ∃ a g', Q a g' ∧ g'.length ≤ g.length ∧ k ann (g ++ x) = .ok a (g' ++ x)) :
    Reads (andThen (opt blank) fun _ => andThen (opt Annotations.parse) fun anns => andThen (opt listSeparator) fun _ => k anns)
      (rOptAnns as +> rDefTail as e last) F Q := by
  intro l x hx
  obtain ⟨hR, hS, hP⟩ := hF x hx
  rw [rSeq_fst, List.append_assoc]
  by_cases has : as = []
  · subst has
    obtain ⟨a, g', hq, hl', e'⟩ := hk none [] x rfl .nil hx
    refine ⟨a, g', hq, .inl (List.eq_nil_of_length_eq_zero (Nat.le_zero.mp hl')), ?_⟩
    simp only [rOptAnns, rDefTail, List.isEmpty_nil, if_true, rLit_fst, rLit_snd, List.nil_append]
    rw [(rTail_tail ..).rt_none hR hS (annotations_err hP)
      fun s y hs => annotations_err (by rcases hs with h | h <;> subst h <;> rfl)]
    exact e'
  · have he := isEmpty_false_of_ne has
    simp only [rOptAnns, rDefTail, he, Bool.false_eq_true, if_false, rSeq_fst, rSeq_snd, List.append_assoc]
    obtain ⟨g, hg, hlen, h⟩ := (rTailAdj_tail false last (rAnns as (rB0 l).2).2 x).rtAdj (k := k (some as)) hR hS
    obtain ⟨a, g', hq, hl', e'⟩ := hk (some as) g x rfl hg hx
    refine ⟨a, g', hq, .inr ?_, ?_⟩
    · have : 0 < (rAnns as (rB0 l).2).1.length := by simp [rAnns, he]
      simp only [List.length_append] at hlen ⊢; omega
    · rw [andThen_optBlank (rB0_BT _) ((rAnns_starts has _).2 _), andThen_of_ok (opt_of_ok (annotations_rt hw has _ _)), h]
      exact e'

theorem defTail {v : β} (hw : Annotations.wf as = true) (hF : ∀ x, F x → NB x ∧ NoSepStart x ∧ Hd (· != '(') x)
    (hk : ∀ ann, ann.getD [] = as → k ann = ret v) :
    Reads (andThen (opt blank) fun _ => andThen (opt Annotations.parse) fun anns => andThen (opt listSeparator) fun _ => k anns)
      (rOptAnns as +> rDefTail as e last) F (UpToBlank v) :=
  defTailK hw hF fun ann g _ h hg _ => ⟨v, g, ⟨rfl, hg⟩, Nat.le_refl _, by rw [hk ann h]; rfl⟩

theorem defTailBlank {v : β} (hw : Annotations.wf as = true) (hF : ∀ x, F x → NB x ∧ NoSepStart x ∧ Hd (· != '(') x)
    (hk : ∀ ann, ann.getD [] = as → k ann = andThen (opt blank) fun _ => ret v) :
    Reads (andThen (opt blank) fun _ => andThen (opt Annotations.parse) fun anns => andThen (opt listSeparator) fun _ => k anns)
      (rOptAnns as +> rDefTail as e last) F (Exact v) :=
  defTailK hw hF fun ann g x h hg hx =>
    ⟨v, [], ⟨rfl, rfl⟩, Nat.zero_le _, by rw [hk ann h, andThen_optBlank hg (hF x hx).1]; rfl⟩

end Reads

theorem ItemStart.punct {T : List Char} (h : ItemStart T) : NB T ∧ NoSepStart T ∧ Hd (· != '(') T :=
  ⟨h.nb, h.noSep, h.ne '(' (by decide)⟩

/-- `ItemStart`, and after the last item the input ends (so a tail needs no forced blank there) -/
abbrev ItemAfter := After ItemStart

theorem typedef_reads {t : Typedef} (hw : Item.wf (.typedef t) = true) {d : Nat} (hd : t.ty.depth < d) (last : Bool) :
    Reads (Typedef.parse d) (rTypedef t last) (ItemAfter last) (UpToBlank t) := by
  obtain ⟨ty, alias, anns⟩ := t
  simp only [Item.wf, Bool.and_eq_true] at hw
  obtain ⟨⟨⟨hty, hal⟩, hcpp⟩, han⟩ := hw
  have hsep : Follows (rOptAnns anns +> rDefTail anns true last) (ItemAfter last) Sep := .defTail_sep fun _ h => h.need rfl
  unfold Typedef.parse Type.parse rTypedef
  exact .lit <| .blank1 (.starts (rType_starts hty)) <|
    .type hty hd (.typeName (fun l => .inl (rB1_ne l)) hal hcpp hsep) <| .blank1 (.ident hal) <| .ident hal hsep <|
    .defTail han (fun _ h => h.1.punct) fun _ h => h ▸ rfl

/-- `include` and `cpp_include`: the same parser under two keywords -/
theorem include_reads (kw : List Char) {q : P Literal}
    (hq : q = andThen (tag kw) fun _ => andThen blank fun _ => andThen Literal.parse fun path =>
      andThen (opt listSeparator) fun _ => ret path)
    {p : Literal} (hw : literalOk p = true) (last : Bool) :
    Reads q (rLit kw +> rB1 +> rLiteral p +> rTailAdj false last) (ItemAfter last) (UpToBlank p) := by
  subst hq
  refine .lit <| .blank1 (.starts (rLiteral_starts hw)) fun l x hx => ?_
  obtain ⟨g, hg, hlen, ht⟩ := (rTailAdj_tail false last (rLiteral p l).2 x).rtAdj (k := ret p) hx.1.nb hx.1.noSep
  refine ⟨p, g, ⟨rfl, hg⟩, .inr ?_, ?_⟩
  · have := List.length_pos_iff.mpr (rLiteral_starts hw l).1
    simp only [rSeq_fst, List.length_append] at hlen ⊢; omega
  · rw [rSeq_fst, List.append_assoc, andThen_of_ok (rLiteral_rt hw _ _), ht]; rfl

/-- a text that ends before a character `c` no tag contains: the first tag that is a prefix of the text wins -/
theorem alt_tags_stop (ts : List (List Char)) (s : List Char) {c : Char} (x : List Char) (hc : ∀ t ∈ ts, c ∉ t) :
    alt (ts.map tag) (s ++ c :: x) =
      match ts.find? (fun t => (stripPrefix t s).isSome) with
      | some t => .ok t ((stripPrefix t s).getD [] ++ c :: x)
      | none => .err := by
  induction ts with
  | nil => rfl
  | cons t ts ih =>
    simp only [List.map, alt, tag, stripPrefix_stop x (hc t (by simp)), List.find?]
    cases h : stripPrefix t s with
    | none => simpa using ih (fun u hu => hc u (by simp [hu]))
    | some m => simp [h]

/-- the scope `alt` returns the scope that was written (`py.twisted` is tried before `py`) -/
theorem scope_rt {sc : Str} (h : scopeTags.contains sc = true) {c : Char} (hc : notBlankStart c = false) (x : List Char) :
    Scope.parse (sc ++ c :: x) = .ok sc (c :: x) := by
  have first : ∀ sc ∈ scopeTags,
      scopeTags.find? (fun t => (stripPrefix t sc).isSome) = some sc ∧ stripPrefix sc sc = some [] := by decide
  have hno : ∀ t ∈ scopeTags, ∀ d ∈ t, notBlankStart d = true := by decide
  obtain ⟨h1, h2⟩ := first sc (List.contains_iff_mem.mp h)
  unfold Scope.parse
  rw [alt_tags_stop _ _ _ (fun t ht hct => by rw [hno t ht c hct] at hc; cases hc), h1]
  simp [h2]

theorem Tail.pathStop {need adj : Bool} {R T : List Char} (h : Tail need adj R T) (hR : ∀ b, BT b → PathStop (b ++ R)) :
    PathStop T := by
  cases h with
  | gap hg _ => exact hR _ hg
  | sep hb _ hs _ => exact pathStop_of hb (listSep_NB hs _) (by rcases hs with h | h <;> subst h <;> rfl)

theorem rPath_starts {p : Path} (hp : p.wf = true) : Starts (rPath p) NB := fun l => by
  obtain ⟨s, rest, hs, _, e, _⟩ := rPath_cons hp l
  rw [e]
  exact ⟨fun h => ident_ne_nil hs (List.append_eq_nil_iff.mp h).1, fun x => by rw [List.append_assoc]; exact ident_NB hs⟩

theorem path_reads {p : Path} (hp : p.wf = true) :
    Reads Path.parse (rPath p) (fun T => Sep T ∧ Ahead (Hd (· != '.')) T) (Exact p) :=
  .of_exact fun l _ hx => path_rt hp l hx.1.noIdent (pathStop_of_ahead hx.2)

theorem Reads.path {β : Type} {r : R} {F : List Char → Prop} {Q : β → List Char → Prop} {p : Path} (hp : p.wf = true) {f : Path → P β}
    (hs : Follows r F Sep) (ha : Follows r F (Ahead (Hd (· != '.')))) (hf : Reads (f p) r F Q) :
    Reads (andThen Path.parse f) (rPath p +> r) F Q :=
  .seq (path_reads hp) (fun l x hx => ⟨hs l x hx, ha l x hx⟩) hf

theorem rNamespace_eq (n : Namespace) (last : Bool) :
    rNamespace n last = rLit cs!"namespace" +> rB1 +> rLit n.scope +> rB1 +> rPath n.name +>
      rOptAnns (n.annotations.getD []) +> rTail n.annotations.isNone last := by
  obtain ⟨_, _, anns⟩ := n
  cases anns <;> rfl

theorem namespace_reads {n : Namespace} (hw : Item.wf (.namespace n) = true) (last : Bool) :
    Reads Namespace.parse (rNamespace n last) (ItemAfter last) (Exact n) := by
  rw [rNamespace_eq]
  obtain ⟨scope, name, anns⟩ := n
  simp only [Item.wf, Bool.and_eq_true] at hw
  obtain ⟨⟨hsc, hname⟩, han⟩ := hw
  -- the annotations as a list: `Some([])` is not well-formed
  obtain ⟨as, hasw, hao, rfl⟩ : ∃ as, Annotations.wf as = true ∧ annOpt as = anns ∧ as = anns.getD [] := by
    cases anns with
    | none => exact ⟨[], rfl, rfl, rfl⟩
    | some as =>
      simp only [Bool.and_eq_true, Bool.not_eq_true'] at han
      exact ⟨as, han.2, by simp [annOpt, han.1], rfl⟩
  have hnb : ∀ {r : R}, Follows (rLit scope +> r) (ItemAfter last) NB := by
    have : ∀ sc ∈ scopeTags, ∀ c ∈ sc, notBlankStart c = true := by decide
    intro r
    cases scope with
    | nil => exact absurd (List.contains_iff_mem.mp hsc) (by decide)
    | cons c cs => exact .lit (this _ (List.contains_iff_mem.mp hsc) c (.head _))
  -- the scope is read up to the blank starter that follows it
  have hscope : Reads Scope.parse (rLit scope) (fun T => ∃ c x, T = c :: x ∧ notBlankStart c = false) (Exact scope) :=
    .of_exact fun _ _ hx => by obtain ⟨c, x, rfl, hc⟩ := hx; exact scope_rt hsc hc x
  have hb1 : ∀ {r : R}, Follows (rB1 +> r) (ItemAfter last) fun T => ∃ c x, T = c :: x ∧ notBlankStart c = false := by
    intro r l x _
    rw [rSeq_fst, List.append_assoc]
    cases hb : (rB1 l).1 with
    | nil => exact absurd hb (rB1_ne l)
    | cons c t => have := rB1_BT l; rw [hb] at this; exact ⟨c, _, rfl, this.head_blankStart⟩
  unfold Namespace.parse
  exact .lit <| .preceded <| .blank1 hnb <| .seq hscope hb1 <| .preceded <| .blank1 (.starts (rPath_starts hname)) <|
    .path hname
      (.annsTail_sep fun has _ h => by
        have : anns = none := by rw [← hao, has]; rfl
        rw [this]; exact h.need rfl)
      (.annsTail_aheadNe (by decide) fun _ h => ⟨h.1.nb, h.1.ne '.' (by decide)⟩) <|
    .annsTail hasw (fun _ h => h.1.punct) (by rw [hao])

end Pilota.Idl
