import PilotaModel.TGen.AsyncC
import PilotaModel.Lemmas.AsyncCmpSkipSim
import PilotaModel.Lemmas.AsyncGen
/-
  Emitted `decode_async` on the compact async protocol returns what the emitted in-memory `decode` returns, in the same
  reader state and at the same place, whenever the latter succeeds — on arbitrary bytes, for every document and type.
-/
namespace Pilota.TGen
open Pilota Pilota.Thrift Pilota.Thrift.Async Pilota.Thrift.Async.ACmp Pilota.Thrift.Compact

variable (d : Doc) (sf : Nat)

/-- a stateless read of the compact reader, as the emitted decoder wraps it -/
theorem cleaf {α} {p : Prog α} {bs : Bytes} {x : Out (α × Bytes)} (hp : runF p bs = x) (g : α → TVal) (cr : CR)
    (v : TVal) (cr' : CR) (r : Bytes)
    (h : mapOut (fun y : α × CR × Bytes => (g y.1, y.2)) (mapOut (fun y : α × Bytes => (y.1, cr, y.2)) x) = .ok (v, (cr', r))) :
    runF (p.bind fun a => Prog.ret (g a, cr)) bs = .ok ((v, cr'), r) := by
  obtain ⟨⟨_, _, _⟩, h1, ⟨⟩⟩ := (mapOut_eq_ok _ _ _).mp h
  obtain ⟨⟨a, _⟩, h2, ⟨⟩⟩ := (mapOut_eq_ok _ _ _).mp h1
  exact runF_bind_ok.mpr ⟨a, _, hp.trans h2, rfl⟩

theorem cskip_of_cmpRd (t : TType) (cr : CR) (bs : Bytes) (cr' : CR) (r : Bytes) (hsf : 3 * bs.length + 3 ≤ sf)
    (h : cmpRd.skip t (cr, bs) = .ok (cr', r)) : runF (skip sf skipDepth t cr) bs = .ok (cr', r) := by
  obtain ⟨⟨k, s1, r1⟩, h1, ⟨⟩⟩ := (mapOut_eq_ok _ _ _).mp h
  unfold Skip.cskip Skip.cskipVal at h1
  ok_step h1; rename_i hx; cases h1
  exact (acskip_sim _).1 sf skipDepth t cr bs _ _ hsf hx

theorem adecC_sim : ∀ f : Nat,
    (∀ ty cr bs v cr' r, 3 * bs.length + 3 ≤ sf → decTy cmpRd d f ty (cr, bs) = .ok (v, (cr', r)) →
      runF (adecTyC d sf f ty cr) bs = .ok ((v, cr'), r)) ∧
    (∀ el n acc cr bs xs cr' r, 3 * bs.length + 3 ≤ sf → decN cmpRd d f el n acc (cr, bs) = .ok (xs, (cr', r)) →
      runF (adecNC d sf f el n acc cr) bs = .ok ((xs, cr'), r)) ∧
    (∀ k v n acc cr bs xs cr' r, 3 * bs.length + 3 ≤ sf → decPairs cmpRd d f k v n acc (cr, bs) = .ok (xs, (cr', r)) →
      runF (adecPairsC d sf f k v n acc cr) bs = .ok ((xs, cr'), r)) ∧
    (∀ fs slots cr bs out cr' r, 3 * bs.length + 3 ≤ sf → decFields cmpRd d f fs slots (cr, bs) = .ok (out, (cr', r)) →
      runF (adecFieldsC d sf f fs slots cr) bs = .ok ((out, cr'), r)) ∧
    (∀ vs ret cr bs out cr' r, 3 * bs.length + 3 ≤ sf → decUnion cmpRd d f vs ret (cr, bs) = .ok (out, (cr', r)) →
      runF (adecUnionC d sf f vs ret cr) bs = .ok ((out, cr'), r)) := by
  intro f
  induction f with
  | zero =>
    refine ⟨?_, ?_, ?_, ?_, ?_⟩
    · intro _ _ _ _ _ _ _ h; unfold decTy at h; cases h
    · intro _ _ _ _ _ _ _ _ _ h; unfold decN at h; cases h
    · intro _ _ _ _ _ _ _ _ _ _ h; unfold decPairs at h; cases h
    · intro _ _ _ _ _ _ _ _ h; unfold decFields at h; cases h
    · intro _ _ _ _ _ _ _ _ h; unfold decUnion at h; cases h
  | succ f ih =>
    obtain ⟨ihT, ihN, ihP, ihF, ihU⟩ := ih
    have sub : ∀ {α} {p : Prog α} {bs : Bytes} {a : α} {r : Bytes}, runF p bs = .ok (a, r) → 3 * bs.length + 3 ≤ sf →
        3 * r.length + 3 ≤ sf := fun h hsf => by have := runF_le h; omega
    refine ⟨?_, ?_, ?_, ?_, ?_⟩
    · intro ty cr bs v cr' r hsf h
      cases ty
      all_goals (unfold decTy at h; unfold adecTyC)
      case void => cases h
      case bool =>
        obtain ⟨⟨_, _, _⟩, h1, ⟨⟩⟩ := (mapOut_eq_ok _ _ _).mp h
        obtain ⟨⟨b, s1, _⟩, h2, ⟨⟩⟩ := (mapOut_eq_ok _ _ _).mp h1
        exact runF_bind_ok.mpr ⟨(b, s1), _, (runF_readBool cr bs).trans ((pack_ok _ _ _ _).mpr h2), rfl⟩
      case i8 => exact cleaf (ABin.runF_readI .be 1 bs) _ cr v cr' r h
      case i16 | i32 | i64 => exact cleaf (runF_readVarS _ bs) _ cr v cr' r h
      case double => exact cleaf (ABin.runF_readU .le 8 bs) _ cr v cr' r h
      case string | binary => exact cleaf (runF_readBytes bs) _ cr v cr' r h
      case uuid =>
        obtain ⟨⟨_, _, _⟩, h1, ⟨⟩⟩ := (mapOut_eq_ok _ _ _).mp h
        obtain ⟨⟨b, _⟩, h2, ⟨⟩⟩ := (mapOut_eq_ok _ _ _).mp h1
        rw [runF_need, show Binary.takeN 16 bs = _ from h2]; rfl
      case list el | set el =>
        ok_step h; rename_i hx; ok_step h; rename_i hy; cases h
        obtain ⟨⟨_, r0⟩, hx', ⟨⟩⟩ := (mapOut_eq_ok _ _ _).mp hx
        have ha := readCollBegin_of_sync hx'
        exact runF_bind_ok.mpr ⟨_, _, ha, runF_bind_ok.mpr ⟨_, _, ihN el _ [] cr r0 _ _ _ (sub ha hsf) hy, rfl⟩⟩
      case map k v' =>
        ok_step h; rename_i hx; ok_step h; rename_i hy; cases h
        obtain ⟨⟨_, r0⟩, hx', ⟨⟩⟩ := (mapOut_eq_ok _ _ _).mp hx
        have ha := readMapBegin_of_sync hx'
        exact runF_bind_ok.mpr ⟨_, _, ha, runF_bind_ok.mpr ⟨_, _, ihP k v' _ [] cr r0 _ _ _ (sub ha hsf) hy, rfl⟩⟩
      case ref n =>
        cases hfind : d.find n with
        | none => rw [hfind] at h; cases h
        | some df =>
          rw [hfind] at h
          cases df with
          | struct fs =>
            dsimp only at h ⊢
            ok_step h; rename_i hy; ok_step h; rename_i hse; ok_step h; rename_i hfin
            obtain ⟨s2, hz, ⟨⟩⟩ := (mapOut_eq_ok _ _ _).mp hse
            rw [runF_bind, ihF fs [] _ bs _ _ _ hsf hy]
            dsimp only [bindP]
            rw [runF_bind, runF_readStructEnd, hz]
            dsimp only [bindP]
            rw [hfin]; cases h; rfl
          | union vs =>
            dsimp only at h ⊢
            ok_step h; rename_i ret _ hy; ok_step h; rename_i hse
            obtain ⟨s2, hz, ⟨⟩⟩ := (mapOut_eq_ok _ _ _).mp hse
            rw [runF_bind, ihU vs none _ bs _ _ _ hsf hy]
            dsimp only [bindP]
            rw [runF_bind, runF_readStructEnd, hz]
            dsimp only [bindP]
            cases ret with
            | some p => cases h; rfl
            | none =>
              dsimp only at h ⊢
              split at h
              · cases h; rfl
              · cases h
          | enum => exact cleaf (runF_readVarS 4 bs) _ cr v cr' r h
          | typedef t => exact ihT t cr bs v cr' r hsf h
    · intro el n acc cr bs xs cr' r hsf h
      cases n with
      | zero => unfold decN at h; cases h; unfold adecNC; rfl
      | succ n =>
        unfold decN at h
        ok_step h; rename_i q hy
        have h1 := ihT el cr bs _ q.1 q.2 hsf hy
        unfold adecNC
        exact runF_bind_ok.mpr ⟨_, _, h1, ihN el n _ q.1 q.2 xs cr' r (sub h1 hsf) h⟩
    · intro k v n acc cr bs xs cr' r hsf h
      cases n with
      | zero => unfold decPairs at h; cases h; unfold adecPairsC; rfl
      | succ n =>
        unfold decPairs at h
        ok_step h; rename_i q hy; ok_step h; rename_i q2 hz
        have h1 := ihT k cr bs _ q.1 q.2 hsf hy
        have h2 := ihT v q.1 q.2 _ q2.1 q2.2 (sub h1 hsf) hz
        unfold adecPairsC
        exact runF_bind_ok.mpr ⟨_, _, h1, runF_bind_ok.mpr ⟨_, _, h2, ihP k v n _ q2.1 q2.2 xs cr' r (sub h2 (sub h1 hsf)) h⟩⟩
    · intro fs slots cr bs out cr' r hsf h
      unfold decFields at h
      ok_step h; rename_i t id _ hx
      obtain ⟨⟨_, s0, r0⟩, hx', ⟨⟩⟩ := (mapOut_eq_ok _ _ _).mp hx
      have h0 := (runF_readFieldBegin cr bs).trans ((pack_ok _ _ _ _).mpr hx')
      have hsf0 := sub h0 hsf
      unfold adecFieldsC
      rw [runF_bind, h0]
      dsimp only [bindP]
      by_cases hs : t = .stop
      · rw [if_pos hs] at h ⊢; cases h; rfl
      · rw [if_neg hs] at h ⊢
        cases hfind : fs.find? (fun fl => fl.id == id && d.ttype fl.ty == t) with
        | some fl =>
          rw [hfind] at h
          dsimp only at h ⊢
          ok_step h; rename_i q hy
          have h1 := ihT fl.ty s0 r0 _ q.1 q.2 hsf0 hy
          exact runF_bind_ok.mpr ⟨_, _, h1, ihF fs _ q.1 q.2 out cr' r (sub h1 hsf0) h⟩
        | none =>
          rw [hfind] at h
          dsimp only at h ⊢
          ok_step h; rename_i q hy
          have h1 := cskip_of_cmpRd sf t s0 r0 q.1 q.2 hsf0 hy
          exact runF_bind_ok.mpr ⟨_, _, h1, ihF fs slots q.1 q.2 out cr' r (sub h1 hsf0) h⟩
    · intro vs ret cr bs out cr' r hsf h
      unfold decUnion at h
      ok_step h; rename_i t id _ hx
      obtain ⟨⟨_, s0, r0⟩, hx', ⟨⟩⟩ := (mapOut_eq_ok _ _ _).mp hx
      have h0 := (runF_readFieldBegin cr bs).trans ((pack_ok _ _ _ _).mpr hx')
      have hsf0 := sub h0 hsf
      unfold adecUnionC
      rw [runF_bind, h0]
      dsimp only [bindP]
      by_cases hs : t = .stop
      · rw [if_pos hs] at h ⊢; cases h; rfl
      · rw [if_neg hs] at h ⊢
        cases hfind : vs.find? (fun x => x.1 == id && !(x.2 == .void)) with
        | some pr =>
          rw [hfind] at h
          dsimp only at h ⊢
          split at h
          · cases h
          · rw [if_neg ‹_›]
            ok_step h; rename_i q hy
            have h1 := ihT pr.2 s0 r0 _ q.1 q.2 hsf0 hy
            exact runF_bind_ok.mpr ⟨_, _, h1, ihU vs _ q.1 q.2 out cr' r (sub h1 hsf0) h⟩
        | none =>
          rw [hfind] at h
          dsimp only at h ⊢
          ok_step h; rename_i q hy
          have h1 := cskip_of_cmpRd sf t s0 r0 q.1 q.2 hsf0 hy
          exact runF_bind_ok.mpr ⟨_, _, h1, ihU vs ret q.1 q.2 out cr' r (sub h1 hsf0) h⟩

end Pilota.TGen
