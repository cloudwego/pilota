import PilotaModel.Lemmas.GenTotal
import PilotaModel.Lemmas.ReadTotalCompact
import PilotaModel.Lemmas.SkipTotal
import PilotaModel.Lemmas.SkipPrims
import PilotaModel.Lemmas.SkipExt
/-
  The checked binary / LE readers and the compact reader satisfy `Rd.Safe` (measure: the bytes left, resp.
  3 · bytes left + one unit for a bool carried by a field header): each primitive's own `_reads` fact (`Out.Beside` at an empty tail) weakened to the measure.
-/
namespace Pilota.TGen
open Pilota Pilota.Thrift Pilota.Out

theorem PrimOk.of_safe {σ α : Type} {M : σ → Nat} {k : Nat} {p : σ → Out (α × σ)}
    (h : ∀ s, (p s).Safe False False fun x => M x.2 + k ≤ M s) : PrimOk M k p :=
  fun s => ⟨(h s).ne_panic, (h s).ne_fuel, fun _ _ hs => (h s).ok hs⟩

theorem binRd_safe (e : Endian) (dpt : Nat) : (binRd e (some dpt)).Safe List.length 1 where
  sb _ := Nat.le_refl _
  se s := Safe.triple (x := .ok s) (Nat.le_refl s.length)
  fb := .of_safe fun bs => (Binary.readFieldBegin_reads []).mono id id fun _ h => by omega
  bool := .of_safe fun bs => Safe.mapOut ((Binary.readI_reads []).mono id id fun _ h => by dsimp only; omega)
  i8 := .of_safe fun bs => (Binary.readI_reads []).mono id id fun _ h => by omega
  i16 := .of_safe fun bs => (Binary.readI_reads []).mono id id fun _ h => by omega
  i32 := .of_safe fun bs => (Binary.readI_reads []).mono id id fun _ h => by omega
  i64 := .of_safe fun bs => (Binary.readI_reads []).mono id id fun _ h => by omega
  double := .of_safe fun bs => (Binary.readU_reads []).mono id id fun _ h => by omega
  bytes := .of_safe fun bs => (Binary.readBytes_reads []).mono id id fun _ h => by omega
  uuid := .of_safe fun bs => (Binary.takeN_reads []).mono id id fun _ h => by omega
  lb := .of_safe fun bs => (Binary.readListBegin_reads []).mono id id fun _ h => by omega
  mb := .of_safe fun bs => (Binary.readMapBegin_reads []).mono id id fun _ h => by omega
  skip t bs := Safe.triple (Safe.mapOut (((Skip.skipVal_safe e _).1 (dpt : Int) t bs).mono (fun h => by omega) (fun h => by omega)
    fun _ h => by omega))

def cmpM (s : Compact.CR × Bytes) : Nat := 3 * s.2.length + Compact.mu s.1

theorem primOk_cmp {α : Type} {p : Bytes → Out (α × Bytes)} {Q : α × Bytes → Prop} (bs : Bytes)
    (h : (p bs).Safe False False Q) (hQ : ∀ x, Q x → 1 + x.2.length ≤ bs.length) (c : Compact.CR) :
    (mapOut (fun x => (x.1, c, x.2)) (p bs)).Safe False False fun x => cmpM x.2 + 1 ≤ cmpM (c, bs) :=
  Safe.mapOut (h.mono id id fun x hx => by have := hQ x hx; simp only [cmpM]; omega)

theorem cmpRd_safe : cmpRd.Safe cmpM 1 where
  sb s := by simp [cmpRd, cmpM]
  se s := Safe.triple (Safe.mapOut ((Compact.readStructEnd_safe s.1).mono id id fun _ h => by simp only [cmpM]; omega))
  fb := .of_safe fun s => Safe.mapOut ((Compact.readFieldBegin_reads []).mono id id fun _ h => by simp only [cmpM]; omega)
  bool := .of_safe fun s => Safe.mapOut ((Compact.readBool_reads []).mono id id fun _ h => by simp only [cmpM]; omega)
  i8 := .of_safe fun s => primOk_cmp s.2 (Binary.readI_reads []).safe (fun _ h => by omega) s.1
  i16 := .of_safe fun s => primOk_cmp s.2 (readVarS_reads []).safe (fun _ h => h) s.1
  i32 := .of_safe fun s => primOk_cmp s.2 (readVarS_reads []).safe (fun _ h => h) s.1
  i64 := .of_safe fun s => primOk_cmp s.2 (readVarS_reads []).safe (fun _ h => h) s.1
  double := .of_safe fun s => primOk_cmp s.2 (Binary.readU_reads []).safe (fun _ h => by omega) s.1
  bytes := .of_safe fun s => primOk_cmp s.2 (Compact.readBytes_reads []).safe (fun _ h => by omega) s.1
  uuid := .of_safe fun s => primOk_cmp s.2 (Binary.takeN_reads []).safe (fun _ h => by omega) s.1
  lb := .of_safe fun s => primOk_cmp s.2 (Compact.readCollBegin_reads []).safe (fun _ h => h) s.1
  mb := .of_safe fun s => primOk_cmp s.2 (Compact.readMapBegin_reads []).safe (fun _ h => h) s.1
  skip t s := by
    have h := (Skip.rdSkip_safe _ _ Skip.compactPrims_good (3 * s.2.length + 3)).1 (skipDepth : Int) t s.1 s.2
    -- `Skip.cskip` unfolded: it runs `rdSkip` over the compact primitives with fuel 3 · input length + 3
    have hs : cmpRd.skip t s = mapOut (fun x => (x.2.1, x.2.2)) (match Skip.rdSkip Skip.compactPrims (3 * s.2.length + 3) (skipDepth : Int) t s.1 s.2 with
      | .ok (c, r) => .ok (s.2.length - r.length, c, r)
      | .err k => .err k | .panic m => .panic m | .fuel => .fuel) := rfl
    have := Compact.mu_le s.1
    rw [hs]
    refine Safe.triple (Safe.mapOut ?_)
    safe_step h
    show cmpM _ ≤ cmpM _
    simp only [cmpM]; omega

end Pilota.TGen
