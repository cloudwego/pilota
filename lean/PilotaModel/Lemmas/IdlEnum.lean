import PilotaModel.Lemmas.IdlStruct
namespace Pilota.Idl

def EnumFollow (R : List Char) : Prop :=
  NB R ∧ NoSepStart R ∧ hdP (fun c => c != '(') R = true ∧ hdP (fun c => c != '=') R = true

theorem enumFollow_of_ident {R : List Char} (h : hdP isIdentStart R = true) : EnumFollow R :=
  ⟨hdP_mono (fun _ hc => identStart_NB hc) h, hdP_mono (fun _ hc => identStart_noSep hc) h,
   hdP_mono (fun _ hc => bne_iff_ne.mpr (ne_of_class hc (by decide))) h, hdP_mono (fun _ hc => bne_iff_ne.mpr (ne_of_class hc (by decide))) h⟩

theorem enumFollow_close (R : List Char) : EnumFollow ('}' :: R) ∧ Sep ('}' :: R) :=
  ⟨⟨rfl, rfl, rfl, rfl⟩,
   by rw [Sep, hdP_cons]; decide⟩

theorem intText_starts (n : Int) : Starts (rLit (intText n)) NB := fun _ => by
  rw [rLit_fst]; unfold intText; split
  · exact ⟨List.cons_ne_nil _ _, fun _ => rfl⟩
  · obtain ⟨c0, cs, e, hc⟩ := decDigits_head n.toNat
    rw [e]; exact ⟨List.cons_ne_nil _ _, fun _ => (digit_props hc).1⟩

theorem enumValue_reads {v : EnumValue} (hw : v.wf = true) (last : Bool) :
    Reads EnumValue.parse (rEnumValue v last) (After EnumFollow last) (Exact v) := by
  obtain ⟨name, value, anns⟩ := v
  simp only [EnumValue.wf, Bool.and_eq_true] at hw
  obtain ⟨⟨hname, hval⟩, han⟩ := hw
  have hsep : Follows (rOptAnns anns +> rDefTail anns true last) (After EnumFollow last) Sep := .defTail_sep fun _ h => h.need rfl
  unfold EnumValue.parse rEnumValue
  cases value with
  | none =>
    simp only [rLit_nil_seq]
    -- no blank is rendered in front of the absent `= value`
    exact .ident hname hsep <|
      .optAbsent ((Follows.defTail_aheadNe (c := '=') (by decide) fun _ h => ⟨h.1.1, h.1.2.2.2⟩).mono
        fun _ h => h.mono fun _ h => andThen_of_err (tag_hd h)) <|
      .defTailBlank han (fun _ h => ⟨h.1.1, h.1.2.1, h.1.2.2.1⟩) fun _ h => h ▸ rfl
  | some n =>
    simp only [rSeq_assoc]
    exact .ident hname (.sep_lit rfl) <| .optBlank (.lit rfl) <| .group3 <|
      .optSome (.lit <| .optBlank (intText_starts n).follows <| .of_exact fun _ _ hx => intConstant_rt hval hx) hsep <|
      .defTailBlank han (fun _ h => ⟨h.1.1, h.1.2.1, h.1.2.2.1⟩) fun _ h => h ▸ rfl

theorem rEnumValue_starts {v : EnumValue} (hw : v.wf = true) (last : Bool) : Starts (rEnumValue v last) (Hd isIdentStart) := by
  simp only [EnumValue.wf, Bool.and_eq_true] at hw
  unfold rEnumValue; exact (ident_starts hw.1.1).seq

theorem enum_loop {vs : List EnumValue} (hvs : ∀ v ∈ vs, v.wf = true) :
    Reads.Loop EnumValue.parse rEnumValue Eq (· = []) (After EnumFollow) '}' vs where
  step v hv last _ hbl := by subst hbl; rw [rLit_nil_seq]; exact (enumValue_reads (hvs v hv) last).loopStep _ rfl
  start v hv last := (rEnumValue_starts (hvs v hv) last).mono fun _ h => ⟨enumFollow_of_ident h, fun h => by cases h⟩
  atClose T := ⟨(enumFollow_close T).1, fun _ => (enumFollow_close T).2⟩
  stop _ T hbl := by subst hbl; unfold EnumValue.parse; exact andThen_of_err (First.err_cons rfl _)

/-- `opt(blank), opt(Annotations)` at the end of an `enum`, in front of the blank `b` of the item slot -/
theorem Reads.annsEnd {β : Type} {F : List Char → Prop} {k : Option Annotations → P β} {v : β} {as : Annotations}
    (hw : Annotations.wf as = true) {b : R} [IsBlank b] (hF : ∀ x, F x → NB x ∧ Hd (· != '(') x)
    (hk : ∀ ann, ann.getD [] = as → k ann = ret v) :
    Reads (andThen (opt blank) fun _ => andThen (opt Annotations.parse) k) (rOptAnns as +> b) F (UpToBlank v) := by
  intro l x hx
  have hb := IsBlank.bt (a := b) (rOptAnns as l).2
  rw [rSeq_fst, List.append_assoc]
  by_cases has : as = []
  · subst has
    refine ⟨v, [], ⟨rfl, .nil⟩, .inl rfl, ?_⟩
    simp only [rOptAnns, List.isEmpty_nil, if_true, rLit_fst, List.nil_append] at hb ⊢
    rw [andThen_optBlank hb (hF x hx).1, andThen_of_ok (opt_of_err (annotations_err (hF x hx).2)), hk none rfl]; rfl
  · have he := isEmpty_false_of_ne has
    refine ⟨v, _, ⟨rfl, hb⟩, .inr ?_, ?_⟩
    · simp [rOptAnns, he, rAnns]; omega
    · simp only [rOptAnns, he, Bool.false_eq_true, if_false, rSeq_fst, List.append_assoc]
      rw [andThen_optBlank (rB0_BT _) ((rAnns_starts has _).2 _), andThen_of_ok (opt_of_ok (annotations_rt hw has _ _)),
        hk (some as) rfl]; rfl

theorem enum_reads {e : Enum} (hw : e.wf = true) {b : R} [IsBlank b] : Reads Enum.parse (rEnum e +> b) ItemStart (UpToBlank e) := by
  obtain ⟨name, values, anns⟩ := e
  simp only [Enum.wf, Bool.and_eq_true, List.all_eq_true] at hw
  obtain ⟨⟨hname, hvs⟩, han⟩ := hw
  unfold Enum.parse rEnum
  simp only [rSeq_assoc]
  exact .lit <| .blank1 (.ident hname) <| .ident hname (.sep_lit rfl) <| .optBlank (.lit rfl) <| .lit <|
    .optBlank (.slots (fun v hv last => (rEnumValue_starts (hvs v hv) last).mono fun _ h => hdP_mono (fun _ => identStart_NB) h)
      fun _ => rfl) <|
    .many0 (bl := []) (enum_loop hvs) rfl (fun _ _ _ h => by subst h; exact Reads.closeK rfl .nil) fun ys h => by
      rw [← All2.eq h]
      exact .annsEnd han (fun _ h => ⟨h.nb, h.ne '(' (by decide)⟩) fun _ h => h ▸ rfl

theorem enum_rt {e : Enum} (hw : e.wf = true) (l : Layout) {b R : List Char} (hb : BT b)
    (hR : ItemStart R) : ∃ g, BT g ∧ Enum.parse ((rEnum e l).1 ++ (b ++ R)) = .ok e (g ++ R) := by
  have : IsBlank (rLit b) := ⟨fun _ => hb⟩
  simpa using (enum_reads hw (b := rLit b)).upToBlank l hR

end Pilota.Idl
