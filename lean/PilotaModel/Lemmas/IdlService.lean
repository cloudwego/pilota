import PilotaModel.Lemmas.IdlEnum
namespace Pilota.Idl

/-- a keyword that is neither a type word nor the head of the type's name is not read at the
start of a rendered type, provided its continuation fails on a word character -/
theorem Follows.kwArmErr {β} {kw : List Char} {k : P β} {t : TypeA} (hw : t.wf = true) {r : R} {F : List Char → Prop}
    (hr : t.endsOpen = true → Follows r F (Hd fun c => !isIdentChar c))
    (hk : ∀ c ∈ kw, isIdentChar c = true) (h1 : kw ∉ typeWords) (h2 : t.headIs kw = false)
    (hfail : ∀ c y, isIdentChar c = true → k (c :: y) = .err) :
    Follows (rType t +> r) F fun T => andThen (tag kw) (fun _ => k) T = .err := fun l x hx => by
  obtain ⟨w, rest, e, hw', hrest, hor, _⟩ := rType_firstWord hw l _ fun ho => hr ho _ x hx
  rw [rSeq_fst, List.append_assoc, e]
  apply wordArm_err hk hw' hrest ?_ hfail
  intro heq; subst heq
  rcases hor with h | h
  · exact h1 h
  · rw [h] at h2; cases h2

theorem argRequired_of_rel : ∀ {xs ys : List Field}, All2 (FieldRel true) xs ys → (∀ x ∈ xs, x.attr ≠ .default) →
    ys.map argRequired = xs
  | _, _, .nil, _ => rfl
  | x :: xs, y :: ys, .cons h t, hne => by
    have hx := hne x (by simp)
    have ih := argRequired_of_rel t (fun z hz => hne z (by simp [hz]))
    simp only [List.map_cons, ih]
    congr 1
    rcases h with h | ⟨_, hreq, h⟩
    · subst h
      obtain ⟨id, name, attr, ty, dflt, anns⟩ := y
      cases attr <;> simp [argRequired] at hx ⊢
    · subst h
      obtain ⟨id, name, attr, ty, dflt, anns⟩ := x
      simp only at hreq
      subst hreq
      rfl

/-- the `throws` clause of function.rs:32-42 -/
def throwsP (d : Nat) : P (List Field) :=
  andThen (tag cs!"throws") fun _ => andThen (opt blank) fun _ => andThen (tag ['(']) fun _ =>
  andThen (many1 (skip (opt blank) (Field.parse d))) fun fields => andThen (opt blank) fun _ =>
  andThen (tag [')']) fun _ => ret fields

def Function.depth (f : Function) : Nat :=
  max f.resultType.depth (max ((f.arguments.map Field.depth).foldl max 0) ((f.throws.map Field.depth).foldl max 0))
def Function.supported (f : Function) : Bool := f.arguments.all Field.supported && f.throws.all Field.supported

/-- what a function needs of the text after its tail: the next function or the closing brace -/
def FnFollow (d : Nat) (R : List Char) : Prop :=
  NB R ∧ NoSepStart R ∧ hdP (fun c => c != '(') R = true ∧ throwsP d R = .err

theorem throwsP_err_hd (d : Nat) {R : List Char} (h : hdP (fun c => c != 't') R = true) : throwsP d R = .err :=
  andThen_of_err (tag_hd h)

theorem fnFollow_close (d : Nat) (R : List Char) : FnFollow d ('}' :: R) :=
  ⟨rfl, rfl, rfl,
   throwsP_err_hd d rfl⟩

/-- the `throws` clause after its keyword: `throwsP d` unfolds to `andThen (tag "throws") fun _ => throwsBody d` -/
def throwsBody (d : Nat) : P (List Field) :=
  andThen (opt blank) fun _ => andThen (tag ['(']) fun _ =>
  andThen (many1 (skip (opt blank) (Field.parse d))) fun fields => andThen (opt blank) fun _ =>
  andThen (tag [')']) fun _ => ret fields

theorem throws_cont_fail (d : Nat) {c : Char} {y : List Char} (hc : isIdentChar c = true) :
    throwsBody d (c :: y) = .err := by
  unfold throwsBody
  have hnb : NB (c :: y) := identChar_NB hc
  rw [andThen_of_ok (opt_of_err (blank_err hnb))]
  exact andThen_of_err (tag_cons_ne (ne_of_class hc (by decide)).symm)

/-- the optional `throws` clause as `rFunction` renders it -/
def rThrows (ts : List Field) : R :=
  if ts.isEmpty then rLit []
  else rB0 +> rLit cs!"throws" +> rB0 +> rLit ['('] +> rB0 +> rSlots (rField false) ts +> rLit [')']

theorem throws_reads {d : Nat} {t : Field} {ts : List Field} (hall : ∀ f ∈ t :: ts, FieldOk d false f) :
    Reads (throwsP d) (rLit cs!"throws" +> rB0 +> rLit ['('] +> rB0 +> rSlots (rField false) (t :: ts) +> rLit [')'])
      (fun _ => True) (Exact (t :: ts)) := by
  apply Reads.seqNil
  simp only [rSeq_assoc]
  unfold throwsP
  exact .lit <| .optBlank (.lit rfl) <| .lit <|
    .many1 (.blankLit fun _ hbl => field_reads (hall t (.head _)) _ hbl) (fields_loop (.inr rfl) fun f hf => hall f (.tail _ hf))
      (fun _ _ _ h => Reads.closeK rfl h) fun ys h => by rw [← all2_fieldRel_false h]; exact .done ⟨rfl, rfl⟩

theorem Reads.fnTail {β : Type} {d : Nat} {K : Option (List Field) → Option Annotations → P β} {ts : List Field}
    (hall : ∀ f ∈ ts, FieldOk d false f) {as : Annotations} (hw : Annotations.wf as = true) {last : Bool} {v : β}
    (hK : ∀ thr ann, thr.getD [] = ts → ann.getD [] = as → K thr ann = ret v) :
    Reads (andThen (opt blank) fun _ => andThen (opt (throwsP d)) fun throws => andThen (opt blank) fun _ =>
        andThen (opt Annotations.parse) fun anns => andThen (opt listSeparator) fun _ => K throws anns)
      (rThrows ts +> rOptAnns as +> rDefTail as false last) (FnFollow d) (UpToBlank v) := by
  have hF : ∀ x, FnFollow d x → NB x ∧ NoSepStart x ∧ Hd (· != '(') x := fun _ h => ⟨h.1, h.2.1, h.2.2.1⟩
  cases ts with
  | nil =>
    simp only [rThrows, List.isEmpty_nil, if_true, rLit_nil_seq]
    exact .optAbsent (.defTail_ahead (fun _ _ hs => throwsP_err_hd d (by rcases hs with h | h <;> subst h <;> rfl))
        (fun _ => throwsP_err_hd d rfl) fun _ h => ⟨h.1, h.2.2.2⟩) <|
      .defTail hw hF fun ann h => hK none ann rfl h
  | cons t ts =>
    simp only [rThrows, List.isEmpty_cons, Bool.false_eq_true, if_false]
    rw [rSeq_assoc]
    exact .optBlank (.starts (Starts.lit rfl).seq) <| .optSome (throws_reads hall) (fun _ _ _ => trivial) <|
      .defTail hw hF fun ann h => hK (some (t :: ts)) ann rfl h

def FnOk (d : Nat) (f : Function) : Prop := f.wf = true ∧ f.depth < d

theorem rFunction_throws (f : Function) (last : Bool) :
    rFunction f last = (if f.oneway then rLit cs!"oneway" +> rB1 else rLit []) +>
      rType f.resultType +> rB1 +> rLit f.name +> rB0 +> rLit ['('] +> rB0 +>
      rSlots (rField true) f.arguments +> rLit [')'] +> rThrows f.throws +>
      rOptAnns f.annotations +> rDefTail f.annotations false last := rfl

theorem fnOk_fields {d : Nat} {f : Function} (h : FnOk d f) :
    (∀ a ∈ f.arguments, FieldOk d true a) ∧ (∀ t ∈ f.throws, FieldOk d false t) ∧
    (∀ a ∈ f.arguments, a.attr ≠ .default) := by
  obtain ⟨hw, hd⟩ := h
  simp only [Function.wf, Bool.and_eq_true, List.all_eq_true, Bool.or_eq_true, bne_iff_ne, ne_eq, Bool.not_eq_true'] at hw
  simp only [Function.depth] at hd
  refine ⟨?_, ?_, ?_⟩
  · intro a ha
    have := hw.1.1.2 a ha
    refine ⟨this.1.1, ?_, ?_⟩
    · have := (foldl_max_le (f.arguments.map Field.depth) 0).2 _ (List.mem_map_of_mem ha); omega
    · intro h
      rcases h with h | ⟨_, h⟩
      · exact absurd h this.1.2
      · rcases this.2 with h' | h'
        · exact absurd h h'
        · exact h'
  · intro t ht
    exact fieldOk_of_wf (hw.1.2 t ht)
      (by have := (foldl_max_le (f.throws.map Field.depth) 0).2 _ (List.mem_map_of_mem ht); omega)
  · intro a ha; exact (hw.1.1.2 a ha).1.2

theorem Reads.oneway {β : Type} {r : R} {F : List Char → Prop} {Q : β → List Char → Prop} {ow : Bool} {f : Bool → P β}
    (hnb : Follows r F NB)
    (hno : ow = false → Follows r F fun T => (andThen (tag cs!"oneway") fun _ => blank) T = .err)
    (hf : Reads (f ow) r F Q) :
    Reads (andThen (pmap (fun (o : Option Unit) => o.isSome) (opt (andThen (tag cs!"oneway") fun _ => blank))) f)
      ((if ow = true then rLit cs!"oneway" +> rB1 else rLit []) +> r) F Q := by
  cases ow with
  | false => exact .skipEmpty ((hno rfl).mono fun _ h => pmap_of_ok (opt_of_err h)) hf
  | true =>
    refine .seq (F' := NB) (.of_exact fun l x hx => ?_) hnb hf
    rw [if_pos rfl, rSeq_fst, rLit_fst, List.append_assoc]
    exact pmap_of_ok (a := some ()) (opt_of_ok (by rw [andThen_of_ok (tag_append _ _)]; exact blank_rt (rB1_BT l) (rB1_ne l) hx))

theorem function_reads {d : Nat} {f : Function} (hok : FnOk d f) (last : Bool) {bl : List Char} (hbl : BT bl) :
    Reads (skip (opt blank) (Function.parse d)) (rLit bl +> rFunction f last) (FnFollow d) (UpToBlank f) := by
  obtain ⟨hargs, hthrows, hnd⟩ := fnOk_fields hok
  obtain ⟨hw, hd⟩ := hok
  obtain ⟨name, oneway, rt, args, throws, anns⟩ := f
  simp only [Function.wf, Bool.and_eq_true, Bool.or_eq_true, Bool.not_eq_true'] at hw
  obtain ⟨⟨⟨⟨⟨⟨⟨hname, hrt⟩, hcpp⟩, how⟩, hth⟩, _⟩, _⟩, han⟩ := hw
  simp only [Function.depth] at hd
  simp only at hargs hthrows hnd
  rw [rFunction_throws]
  unfold skip Function.parse Type.parse
  dsimp only
  have hty : ∀ {r : R}, Follows (rType rt +> rB1 +> r) (FnFollow d) NB := .starts (rType_starts hrt)
  refine .optBlankLit hbl ?_ <| .oneway hty (fun how' => ?_) <|
    .type hrt (by omega) (.typeName (fun l => .inl (rB1_ne l)) hname hcpp (.sep_lit rfl)) <|
    .blank1 (.ident hname) <|
    .ident hname (.sep_lit rfl) <| .optBlank (.lit rfl) <| .lit <|
    .optMany1 (fields_loop (.inr rfl) hargs) rfl fun yo hys =>
      .fnTail hthrows han fun thr ann h1 h2 => by rw [argRequired_of_rel hys hnd, h1, h2]
  · cases oneway with
    | true => rw [if_pos rfl]; exact .starts (Starts.lit rfl).seq
    | false => rw [if_neg Bool.false_ne_true, rLit_nil_seq]; exact hty
  · exact .kwArmErr hrt (fun _ => Follows.sep_b1.mono fun _ => Sep.noIdent) (by decide) (by decide)
      (how.resolve_left (by simp [how'])) fun c y hc => blank_err (show NB (c :: y) from identChar_NB hc)

/-- the `+ 1` is slack: `service_reads` needs only that every function's depth is below the budget -/
def Service.depth (s : Service) : Nat := (s.functions.map Function.depth).foldl max 0 + 1
def Service.supported (s : Service) : Bool := s.functions.all Function.supported

theorem rFunction_starts {d : Nat} {f : Function} (hok : FnOk d f) (last : Bool) : Starts (rFunction f last) (FnFollow d) := by
  obtain ⟨hw, _⟩ := hok
  obtain ⟨name, oneway, rt, args, throws, anns⟩ := f
  simp only [Function.wf, Bool.and_eq_true, Bool.or_eq_true, Bool.not_eq_true'] at hw
  obtain ⟨⟨⟨⟨⟨⟨⟨hname, hrt⟩, hcpp⟩, how⟩, hth⟩, _⟩, _⟩, han⟩ := hw
  rw [rFunction_throws]
  dsimp only
  cases oneway with
  | true =>
    rw [if_pos rfl, rSeq_assoc]
    exact fun _ => ⟨List.cons_ne_nil _ _, fun _ => ⟨rfl, rfl, rfl, throwsP_err_hd d rfl⟩⟩
  | false =>
    rw [if_neg Bool.false_ne_true, rLit_nil_seq]
    -- only that a non-empty blank follows the result type matters
    suffices key : ∀ r : R, Starts (rType rt +> rB1 +> r) (FnFollow d) from key _
    refine fun r l => ⟨((rType_starts hrt).seq l).1, fun x => ?_⟩
    have hx : rt.endsOpen = true → Follows (rB1 +> r) (fun _ => True) (Hd fun c => !isIdentChar c) :=
      fun _ => Follows.sep_b1.mono fun _ => Sep.noIdent
    have hthr := Follows.kwArmErr (kw := cs!"throws") (k := throwsBody d) hrt hx (by decide) (by decide) hth
      (fun c y hc => throws_cont_fail d hc) l x trivial
    obtain ⟨w, rest, e, hw', _, _, hwne⟩ := rType_firstWord hrt l _ fun ho => hx ho _ x trivial
    rw [rSeq_fst, List.append_assoc, e] at hthr ⊢
    cases w with
    | nil => exact absurd rfl hwne
    | cons c cs =>
      have hc := hw' c (by simp)
      exact ⟨identChar_NB hc, (identChar_props hc).1, (identChar_props hc).2, hthr⟩

theorem function_close_err (d : Nat) {bl R : List Char} (hbl : BT bl) :
    skip (opt blank) (Function.parse (d + 1)) (bl ++ '}' :: R) = .err := by
  rw [skip_of_ok (optBlank_rt hbl rfl)]
  unfold Function.parse Type.parse typeParse Ty.parse
  exact First.err_cons rfl _

/-- `opt(tuple((blank, tag("extends"), blank, Path::parse)))` as rendered -/
def rExt : Option Path → R
  | none => rLit []
  | some p => rB1 +> rLit cs!"extends" +> rB1 +> rPath p

theorem rService_ext (s : Service) (last : Bool) :
    rService s last = rLit cs!"service" +> rB1 +> rLit s.name +> rExt s.ext +>
      rB0 +> rLit ['{'] +> rB0 +> rSlots rFunction s.functions +> rLit ['}'] +>
      rOptAnns s.annotations +> rDefTail s.annotations false last := by
  obtain ⟨_, ext, _, _⟩ := s
  cases ext <;> rfl

theorem function_rt {d : Nat} {f : Function} (hok : FnOk d f) (last : Bool) (l : Layout) {bl R : List Char}
    (hbl : BT bl) (hR : FnFollow d R) :
    ∃ g, BT g ∧ g.length < (bl ++ (rFunction f last l).1).length ∧
      skip (opt blank) (Function.parse d) (bl ++ ((rFunction f last l).1 ++ R)) = .ok f (g ++ R) := by
  obtain ⟨_, g, ⟨rfl, hg⟩, hlen, h⟩ := function_reads hok last hbl l R hR
  refine ⟨g, hg, ?_, by simpa using h⟩
  have := List.length_pos_iff.mpr (rFunction_starts hok last l).1
  rcases hlen with rfl | hlen
  · simp only [List.length_append, List.length_nil]; omega
  · simpa using hlen

theorem function_loop {d : Nat} {fns : List Function} (hall : ∀ f ∈ fns, FnOk (d + 1) f) :
    Reads.Loop (skip (opt blank) (Function.parse (d + 1))) rFunction Eq BT (fun _ => FnFollow (d + 1)) '}' fns where
  step f hf last _ hbl := function_reads (hall f hf) last hbl
  start f hf last := rFunction_starts (hall f hf) last
  atClose T := fnFollow_close _ T
  stop _ _ hbl := function_close_err d hbl

theorem Reads.ext {β : Type} {r a : R} [IsBlank a] {F : List Char → Prop} {Q : β → List Char → Prop} {K : Option Path → P β}
    {ext : Option Path} (hw : (match ext with | none => true | some p => p.wf) = true) (hf : Reads (K ext) r F Q) :
    Reads (andThen (opt (andThen blank fun _ => andThen (tag cs!"extends") fun _ => andThen blank fun _ => Path.parse))
        fun e => andThen (opt blank) fun _ => andThen (tag ['{']) fun _ => K e)
      (rExt ext +> a +> rLit ['{'] +> r) F Q := by
  cases ext with
  | none =>
    rw [rExt, rLit_nil_seq]
    refine .optNone (fun l x _ => ?_) <| .optBlank (.lit rfl) <| .lit hf
    simp only [rSeq_fst, rLit_fst, List.append_assoc]
    by_cases hne : (a l).1 = []
    · rw [hne]; exact andThen_of_err (blank_err rfl)
    · rw [andThen_blank (IsBlank.bt l) hne rfl]; exact andThen_of_err (tag_cons_ne (by decide))
  | some p =>
    rw [rExt]
    exact .optSome (.blank1 (.lit rfl) <| .lit <| .blank1 (rPath_starts hw).follows <| path_reads hw)
      (fun l x _ => ⟨Follows.sep_lit (F := fun _ => True) rfl l x trivial, by
        rw [rSeq_fst, rSeq_fst, rLit_fst, List.append_assoc]; exact ⟨_, _, rfl, IsBlank.bt l, rfl, rfl⟩⟩) <|
      .optBlank (.lit rfl) <| .lit hf

theorem service_reads {s : Service} (hw : s.wf = true) {d : Nat} (hd : s.depth < d) (last : Bool) :
    Reads (Service.parse d) (rService s last) ItemStart (UpToBlank s) := by
  obtain ⟨name, ext, fns, anns⟩ := s
  simp only [Service.wf, Bool.and_eq_true, List.all_eq_true] at hw
  obtain ⟨⟨⟨hname, hext⟩, hfns⟩, han⟩ := hw
  simp only [Service.depth] at hd
  obtain ⟨d', rfl⟩ : ∃ d', d = d' + 1 := ⟨d - 1, by omega⟩
  have hall : ∀ f ∈ fns, FnOk (d' + 1) f := fun f hf =>
    ⟨hfns f hf, by have := (foldl_max_le (fns.map Function.depth) 0).2 _ (List.mem_map_of_mem hf); omega⟩
  rw [rService_ext]
  unfold Service.parse
  dsimp only
  refine .lit <| .blank1 (.ident hname) <| .ident hname ?_ <| .ext hext <| .blankLit fun _ hbl =>
    .many0 (function_loop hall) hbl (fun _ _ _ h => Reads.closeK rfl h) fun ys h => by
      rw [← All2.eq h]
      exact .defTail han (fun _ h => h.punct) fun _ h => h ▸ rfl
  cases ext with
  | none => rw [rExt, rLit_nil_seq]; exact .sep_lit rfl
  | some p => rw [rExt, rSeq_assoc]; exact .sep_b1

theorem service_rt {s : Service} (hw : s.wf = true) (hsup : s.supported = true) {d : Nat} (hd : s.depth < d)
    (last : Bool) (l : Layout) {R : List Char} (hR : ItemStart R) :
    ∃ g, BT g ∧ Service.parse d ((rService s last l).1 ++ R) = .ok s (g ++ R) :=
  (service_reads hw hd last).upToBlank l hR

end Pilota.Idl
