import PilotaModel.Lemmas.IdlItem
namespace Pilota.Idl

-- `supported` is true of every value (`cv_supported`); the hypothesis of `const_rt` that asks for it always holds
mutual
def ConstValue.supported : ConstValue → Bool
  | .double _ => true
  | .list xs => ConstValue.supportedList xs
  | .map kvs => ConstValue.supportedPairs kvs
  | _ => true
def ConstValue.supportedList : List ConstValue → Bool
  | [] => true
  | x :: xs => x.supported && ConstValue.supportedList xs
def ConstValue.supportedPairs : List (ConstValue × ConstValue) → Bool
  | [] => true
  | (k, v) :: kvs => k.supported && v.supported && ConstValue.supportedPairs kvs
end

mutual
def ConstValue.depth : ConstValue → Nat
  | .list xs => ConstValue.depthList xs + 1
  | .map kvs => ConstValue.depthPairs kvs + 1
  | _ => 0
def ConstValue.depthList : List ConstValue → Nat
  | [] => 0
  | x :: xs => max x.depth (ConstValue.depthList xs)
def ConstValue.depthPairs : List (ConstValue × ConstValue) → Nat
  | [] => 0
  | (k, v) :: kvs => max (max k.depth v.depth) (ConstValue.depthPairs kvs)
end

mutual
theorem cv_supported : (c : ConstValue) → c.supported = true
  | .bool _ => rfl
  | .path _ => rfl
  | .string _ => rfl
  | .int _ => rfl
  | .double _ => rfl
  | .list xs => by simp only [ConstValue.supported]; exact cvl_supported xs
  | .map kvs => by simp only [ConstValue.supported]; exact cvp_supported kvs
theorem cvl_supported : (xs : List ConstValue) → ConstValue.supportedList xs = true
  | [] => rfl
  | x :: xs => by simp only [ConstValue.supportedList, cv_supported x, cvl_supported xs, Bool.and_self]
theorem cvp_supported : (kvs : List (ConstValue × ConstValue)) → ConstValue.supportedPairs kvs = true
  | [] => rfl
  | (k, v) :: kvs => by simp only [ConstValue.supportedPairs, cv_supported k, cv_supported v, cvp_supported kvs, Bool.and_self]
end

def rConstElem (x : ConstValue) (last : Bool) : R := rConst x +> rTail x.endsOpen last
def rConstPair (kv : ConstValue × ConstValue) (last : Bool) : R :=
  rConst kv.1 +> rB0 +> rLit [':'] +> rB0 +> rConst kv.2 +> rTail kv.2.endsOpen last

theorem rConstElems_slots : ∀ xs : List ConstValue, rConstElems xs = rSlots rConstElem xs
  | [] => rfl
  | x :: xs => by rw [rConstElems, rSlots, rConstElem, rConstElems_slots xs, rSeq_assoc]
theorem rConstPairs_slots : ∀ kvs : List (ConstValue × ConstValue), rConstPairs kvs = rSlots rConstPair kvs
  | [] => rfl
  | (k, v) :: kvs => by rw [rConstPairs, rSlots, rConstPair, rConstPairs_slots kvs]; simp only [rSeq_assoc]

theorem decDigits_head (n : Nat) : ∃ c cs, decDigits n = c :: cs ∧ isDecDigit c = true := by
  obtain ⟨h1, h2, _⟩ := decDigits_spec n
  cases h : decDigits n with
  | nil => exact absurd h h1
  | cons c cs => exact ⟨c, cs, rfl, h2 c (by simp [h])⟩

theorem digit_identChar {c : Char} (h : isDecDigit c = true) : isIdentChar c = true := by
  simp [isIdentChar, Char.isAlphanum, show c.isDigit = true from h]

theorem digit_props {c : Char} (h : isDecDigit c = true) :
    notBlankStart c = true ∧ (!(c == ',' || c == ';')) = true ∧ (c != '(') = true ∧ (c != '=') = true ∧ (c != '.') = true :=
  have hi := digit_identChar h
  ⟨identChar_NB hi, (identChar_props hi).1, (identChar_props hi).2, bne_iff_ne.mpr (ne_of_class hi (by decide)),
    bne_iff_ne.mpr (ne_of_class hi (by decide))⟩

theorem digit_not_identStart {c : Char} (h : isDecDigit c = true) : isIdentStart c = false := by
  cases hi : isIdentStart c with
  | false => rfl
  | true =>
    exfalso
    simp only [isIdentStart, Bool.or_eq_true, beq_iff_eq] at hi
    rcases hi with hi | hi
    · simp only [isDecDigit, Char.isDigit, Char.isAlpha, Char.isUpper, Char.isLower, Bool.and_eq_true,
        Bool.or_eq_true, decide_eq_true_eq] at h hi
      have h1 := UInt32.le_iff_toNat_le.mp h.1; have h2 := UInt32.le_iff_toNat_le.mp h.2
      rcases hi with ⟨a, b⟩ | ⟨a, b⟩ <;>
        (have a' := UInt32.le_iff_toNat_le.mp a; have b' := UInt32.le_iff_toNat_le.mp b; simp at h1 h2 a' b'; omega)
    · subst hi; revert h; decide

/-- a character a number can begin with is in the first set of none of the arms tried before the numbers -/
theorem numHead_not_word {c : Char} (h : c = '-' ∨ c = '+' ∨ c = '.' ∨ isDecDigit c = true) :
    (c == '\'' || c == '"') = false ∧ (c == 't') = false ∧ (c == 'f') = false ∧ isIdentStart c = false := by
  rcases h with h | h | h | h
  · subst h; decide
  · subst h; decide
  · subst h; decide
  · have hne : ∀ x : Char, isDecDigit x = false → (c == x) = false := fun x hx => beq_false_of_ne (ne_of_class h hx)
    exact ⟨by rw [hne _ rfl, hne _ rfl]; rfl, hne _ rfl, hne _ rfl, digit_not_identStart h⟩

theorem doubleBody_err_digits {ds r : List Char} (hne : ds ≠ []) (hd : ∀ c ∈ ds, isDecDigit c = true) (hr : Sep r) :
    doubleBody (ds ++ r) = .err := by
  have h1 := digit1_rt hne hd hr.noDigit
  have hdot : tag ['.'] r = .err := tag_hd (sep_not (f := fun c => c == '.') (by decide) hr)
  have he : tagNoCase ['e'] r = .err := First.err _ (sep_not (by decide) hr)
  unfold doubleBody
  rw [alt_cons_of_err (by rw [andThen_of_ok h1]; exact andThen_of_err hdot),
    alt_cons_of_err (by rw [andThen_of_ok (opt_of_ok h1)]; exact andThen_of_err hdot),
    alt_cons_of_err (by rw [andThen_of_ok h1]; exact andThen_of_err he)]
  rfl

theorem double_err_of_body {s s1 s2 : List Char} {a b}
    (h1 : opt (tag ['-']) s = .ok a s1) (h2 : opt (tag ['+']) s1 = .ok b s2) (h3 : doubleBody s2 = .err) :
    DoubleConstant.parse s = .err := by
  rw [double_of_body]
  have : doubleSigned s = .err := by
    unfold doubleSigned; rw [andThen_of_ok h1, andThen_of_ok h2]; exact h3
  simp [mapRes, recognize, this, PR.bind]

/-- `Double` is tried before `Int`: it must fail on the decimal spelling of an integer -/
theorem double_err_int {n : Int} {r : List Char} (hr : Sep r) : DoubleConstant.parse (intText n ++ r) = .err := by
  unfold intText
  split
  · obtain ⟨h1, h2, _⟩ := decDigits_spec (-n).toNat
    obtain ⟨c, cs, e, hc⟩ := decDigits_head (-n).toNat
    have hplus : tag ['+'] (decDigits (-n).toNat ++ r) = .err := by
      rw [e]; exact tag_cons_ne (by intro h; subst h; revert hc; decide)
    exact double_err_of_body (opt_of_ok (tag_append ['-'] _)) (opt_of_err hplus) (doubleBody_err_digits h1 h2 hr)
  · obtain ⟨h1, h2, _⟩ := decDigits_spec n.toNat
    obtain ⟨c, cs, e, hc⟩ := decDigits_head n.toNat
    have hplus : tag ['+'] (decDigits n.toNat ++ r) = .err := by
      rw [e]; exact tag_cons_ne (by intro h; subst h; revert hc; decide)
    exact double_err_of_body (opt_of_err (digits_no_minus h2 h1)) (opt_of_err hplus) (doubleBody_err_digits h1 h2 hr)

end Pilota.Idl
