import PilotaModel.Lemmas.HasTy
import PilotaModel.Lemmas.DefaultCanon
/-  A struct in declaration order is `fs.filterMap g` for a `g` that answers for a field with an entry under that field's
    id: what `finish` returns (`finish_eq`), what `Default` builds (`dfltEntry`), what a typed wire struct is
    (`hasFields_elim`, with `g` the lookup in the struct itself).  Statements about these structs become statements about
    `g`, field by field (`hasFields_filterMap`, `finish_typed`). -/
namespace Pilota.TGen
open Pilota Pilota.Thrift

theorem slotGet_cons (a : Int × TVal) (l : List (Int × TVal)) (j : Int) : slotGet (a :: l) j = if a.1 = j then some a.2 else slotGet l j := by
  by_cases h : a.1 = j <;> simp [slotGet, h]

theorem slotGet_none_of_not_mem (l : List (Int × TVal)) (id : Int) (h : ∀ p ∈ l, p.1 ≠ id) : slotGet l id = none := by
  unfold slotGet
  rw [Option.map_eq_none_iff, List.find?_eq_none]
  intro p hp; simpa using h p hp

theorem slotGet_some_mem (l : List (Int × TVal)) (id : Int) (v : TVal) (h : slotGet l id = some v) : (id, v) ∈ l := by
  obtain ⟨p, hf, rfl⟩ := Option.map_eq_some_iff.mp h
  obtain rfl : p.1 = id := by simpa using List.find?_some hf
  exact List.mem_of_find?_eq_some hf

section
variable {g : Field → Option (Int × TVal)} (hg : ∀ fl p, g fl = some p → p.1 = fl.id)
include hg

theorem slotGet_filterMap_of_not_mem {fs : List Field} {id : Int} (h : ∀ fl ∈ fs, fl.id ≠ id) : slotGet (fs.filterMap g) id = none :=
  slotGet_none_of_not_mem _ _ fun p hp e => by
    obtain ⟨x, hx, hxp⟩ := List.mem_filterMap.mp hp
    exact h x hx (by rw [← hg x p hxp, e])

theorem nodup_filterMap {fs : List Field} (hpw : fs.Pairwise (fun a b => a.id ≠ b.id)) : ((fs.filterMap g).map (·.1)).Nodup := by
  rw [List.Nodup, List.pairwise_map]
  exact hpw.filterMap g fun a a' hne b hb b' hb' => by
    rw [hg a b (Option.mem_def.mp hb), hg a' b' (Option.mem_def.mp hb')]; exact hne

end

/-- the entry an entry list has for the declared field `fl` -/
def entryOf (l : List (Int × TVal)) (fl : Field) : Option (Int × TVal) := (slotGet l fl.id).map (fl.id, ·)

theorem entryOf_id (l : List (Int × TVal)) (fl : Field) (p : Int × TVal) (h : entryOf l fl = some p) : p.1 = fl.id := by
  obtain ⟨v, _, rfl⟩ := Option.map_eq_some_iff.mp h; rfl

section
variable (d : Doc) (P : STy → TVal → Bool)

/-- what `hasFields` asks of the declared field `fl` and its entry in the struct, if it has one -/
def FieldOk (fl : Field) : Option TVal → Prop
  | some v => inS 2 fl.id ∧ d.ttype fl.ty = v.ttype ∧ P fl.ty v = true
  | none => fl.required = false ∧ fl.dflt = none

theorem hasFields_elim (fs : List Field) (wfs : TFields) (hpw : fs.Pairwise (fun a b => a.id ≠ b.id)) (h : hasFields d P fs wfs = true) :
    wfs.toList = fs.filterMap (entryOf wfs.toList) ∧ ∀ fl ∈ fs, FieldOk d P fl (slotGet wfs.toList fl.id) := by
  fun_induction hasFields d P fs wfs with
  | case1 => exact ⟨rfl, nofun⟩
  | case2 => cases h
  | case3 fl fs ih =>
    simp only [Bool.and_eq_true, Bool.not_eq_true', Option.isNone_iff_eq_none] at h
    obtain ⟨e, hall⟩ := ih (List.pairwise_cons.mp hpw).2 h.2
    exact ⟨by rw [List.filterMap_cons]; exact e, List.forall_mem_cons.mpr ⟨h.1, hall⟩⟩
  | case4 fl fs id v r hid ih =>
    simp only [Bool.and_eq_true, decide_eq_true_eq, beq_iff_eq] at h hid
    subst hid
    have hp := List.pairwise_cons.mp hpw
    obtain ⟨e, hall⟩ := ih hp.2 h.2
    have hrest : ∀ x ∈ fs, slotGet ((fl.id, v) :: r.toList) x.id = slotGet r.toList x.id := fun x hx => by
      rw [slotGet_cons, if_neg (hp.1 x hx)]
    have hhead : slotGet ((fl.id, v) :: r.toList) fl.id = some v := by rw [slotGet_cons, if_pos rfl]
    refine ⟨?_, List.forall_mem_cons.mpr ⟨?_, fun x hx => (hrest x hx).symm ▸ hall x hx⟩⟩
    · rw [TFields.toList, List.filterMap_cons, entryOf, hhead]
      exact congrArg _ (e.trans (filterMap_congr fun x hx => by rw [entryOf, entryOf, hrest x hx]))
    · rw [TFields.toList, hhead]; exact ⟨h.1.1.1, h.1.1.2, h.1.2⟩
  | case5 fl fs id v r hid ih =>
    simp only [Bool.and_eq_true, Bool.not_eq_true', Option.isNone_iff_eq_none] at h
    have hp := List.pairwise_cons.mp hpw
    obtain ⟨e, hall⟩ := ih hp.2 h.2
    have hnone : slotGet (TFields.cons id v r).toList fl.id = none := by
      rw [e]; exact slotGet_filterMap_of_not_mem (entryOf_id _) fun x hx e' => hp.1 x hx e'.symm
    exact ⟨by rw [List.filterMap_cons, entryOf, hnone]; exact e, List.forall_mem_cons.mpr ⟨by rw [hnone]; exact h.1, hall⟩⟩

theorem hasFields_filterMap {g : Field → Option (Int × TVal)} (hg : ∀ fl p, g fl = some p → p.1 = fl.id) : ∀ (fs : List Field),
    fs.Pairwise (fun a b => a.id ≠ b.id) → (∀ fl ∈ fs, FieldOk d P fl ((g fl).map (·.2))) →
    hasFields d P fs (TFields.ofList (fs.filterMap g)) = true
  | [], _, _ => rfl
  | fl :: fs, hpw, h => by
    have hp := List.pairwise_cons.mp hpw
    have ih := hasFields_filterMap hg fs hp.2 fun x hx => h x (List.mem_cons_of_mem _ hx)
    have hfl := h fl (List.mem_cons_self ..)
    rw [List.filterMap_cons]
    cases he : g fl with
    | none =>
      rw [he] at hfl
      refine hasFields_skip d P fl fs _ hfl.1 hfl.2 (fun p hp' e => ?_) ih
      rw [TFields.toList_ofList] at hp'
      obtain ⟨x, hx, hxp⟩ := List.mem_filterMap.mp hp'
      exact hp.1 x hx (by rw [← e, hg x p hxp])
    | some p =>
      rw [he] at hfl
      obtain ⟨hin, htt, hP⟩ := hfl
      obtain ⟨i, v⟩ := p
      cases hg _ _ he
      simp only [TFields.ofList, hasFields, beq_self_eq_true, if_true, Bool.and_eq_true, decide_eq_true_eq, beq_iff_eq]
      exact ⟨⟨⟨hin, htt⟩, hP⟩, ih⟩

/-- an absent field has no default to fall back on and is not required (`FieldOk` at `none`), so `finish` emits the slots -/
theorem finish_typed (fs : List Field) (slots : List (Int × TVal)) (o : Field → Option TVal) (t : Field → TVal → TVal)
    (hok : ∀ fl ∈ fs, FieldOk d P fl (o fl)) (hs : ∀ fl ∈ fs, slotGet slots fl.id = (o fl).map (t fl)) :
    finish fs slots = .ok (fs.filterMap fun fl => (o fl).map fun v => (fl.id, t fl v)) := by
  have hent : ∀ fl ∈ fs, slotOrDflt slots fl = (o fl).map fun v => (fl.id, t fl v) := fun fl hfl => by
    have := hok fl hfl
    rw [slotOrDflt, hs fl hfl]
    cases hv : o fl with
    | some v => rfl
    | none => rw [hv] at this; rw [this.2]; rfl
  refine (finish_ok_iff fs slots _).mpr ⟨fun fl hfl hreq => ?_, filterMap_congr hent⟩
  have := hok fl hfl
  rw [hent fl hfl]
  cases hv : o fl with
  | some v => rfl
  | none => rw [hv] at this; rw [this.1] at hreq; cases hreq

end
end Pilota.TGen
