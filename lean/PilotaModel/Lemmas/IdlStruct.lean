import PilotaModel.Lemmas.IdlFieldRT
namespace Pilota.Idl

/-- `wf`, the budget, and: where no requiredness keyword is printed (`default`, or a `required` argument, whose keyword the
layout may leave out) the type does not begin with a word that `Attribute::parse` would read as one -/
def FieldOk (d : Nat) (argMode : Bool) (f : Field) : Prop :=
  f.wf = true ∧ f.depth < d ∧
  ((f.attr = .default ∨ (argMode = true ∧ f.attr = .required)) →
    f.ty.headIs cs!"required" = false ∧ f.ty.headIs cs!"optional" = false)

theorem attrOpt_none {argMode : Bool} {a : Attribute} {l : Layout} (h : attrOpt argMode a l = none) :
    a = .default ∨ (argMode = true ∧ a = .required) := by
  cases a with
  | optional => simp [attrOpt] at h
  | default => exact Or.inl rfl
  | required =>
    cases argMode with
    | false => simp [attrOpt] at h
    | true => exact Or.inr ⟨rfl, rfl⟩

/-- what `Field::parse` returns for the printed `x`, BEFORE function.rs turns a missing requiredness of an argument back into
`required` (`argRequired`): `x`, or `x` without its `required` when the layout left the keyword out -/
def FieldRel (argMode : Bool) (x y : Field) : Prop :=
  y = x ∨ (argMode = true ∧ x.attr = .required ∧ y = { x with attr := .default })

theorem fieldRead_rel (argMode : Bool) (f : Field) (l : Layout) : FieldRel argMode f (fieldRead argMode f l) := by
  obtain ⟨id, name, attr, ty, dflt, anns⟩ := f
  cases attr with
  | optional => exact Or.inl rfl
  | default => exact Or.inl rfl
  | required =>
    cases argMode with
    | false => exact Or.inl rfl
    | true =>
      simp only [fieldRead, attrOpt, Bool.true_and]
      cases (rB0 (rB0 l).2).2.pop.1.flag with
      | true => exact Or.inr ⟨rfl, rfl, rfl⟩
      | false => exact Or.inl rfl

theorem fieldFollow_of_digit {R : List Char} (h : hdP isDecDigit R = true) : FieldFollow R :=
  ⟨hdP_mono (fun _ hc => (digit_props hc).1) h, hdP_mono (fun _ hc => (digit_props hc).2.1) h,
   hdP_mono (fun _ hc => (digit_props hc).2.2.1) h, hdP_mono (fun _ hc => (digit_props hc).2.2.2.1) h,
   hdP_mono (fun _ hc => (digit_props hc).2.2.2.2) h⟩

theorem fieldFollow_close {c : Char} (hc : c = '}' ∨ c = ')') (R : List Char) : FieldFollow (c :: R) ∧ Sep (c :: R) := by
  rcases hc with h | h <;> subst h <;>
    exact ⟨⟨rfl, rfl, rfl,
      by rw [hdP_cons]; decide, rfl⟩, rfl⟩

theorem rField_starts (argMode : Bool) (f : Field) (last : Bool) : Starts (rField argMode f last) (Hd isDecDigit) := by
  obtain ⟨c0, cs, e, hc⟩ := decDigits_head f.id.toNat
  unfold rField; rw [e]; exact .seq (.lit hc)

theorem field_close_err (d : Nat) {c : Char} (hc : c = '}' ∨ c = ')') {bl R : List Char} (hbl : BT bl) :
    skip (opt blank) (Field.parse d) (bl ++ c :: R) = .err := by
  rw [skip_of_ok (optBlank_rt hbl (fieldFollow_close hc R).1.1)]
  unfold Field.parse
  rcases hc with h | h <;> subst h <;> exact First.err_cons rfl _

theorem field_reads {d : Nat} {argMode : Bool} {f : Field} (hok : FieldOk d argMode f) (last : Bool) {bl : List Char} (hbl : BT bl) :
    Reads (skip (opt blank) (Field.parse d)) (rLit bl +> rField argMode f last) (FieldAfter last)
      fun y g => FieldRel argMode f y ∧ BT g := fun l x hx =>
  ⟨fieldRead argMode f l, [], ⟨fieldRead_rel argMode f l, .nil⟩, .inl rfl, by
    simpa using field_step hok.1 hok.2.1 argMode last l (fun hn => hok.2.2 (attrOpt_none hn)) hbl hx.1 hx.2⟩

theorem fields_loop {d : Nat} {argMode : Bool} {close : Char} (hc : close = '}' ∨ close = ')') {fs : List Field}
    (hall : ∀ f ∈ fs, FieldOk d argMode f) :
    Reads.Loop (skip (opt blank) (Field.parse d)) (rField argMode) (FieldRel argMode) BT FieldAfter close fs where
  step f hf last _ hbl := field_reads (hall f hf) last hbl
  start f _ last := (rField_starts argMode f last).mono fun _ h => ⟨fieldFollow_of_digit h, fun h => by cases h⟩
  atClose T := ⟨(fieldFollow_close hc T).1, fun _ => (fieldFollow_close hc T).2⟩
  stop _ _ hbl := field_close_err d hc hbl

theorem all2_fieldRel_false : ∀ {xs ys : List Field}, All2 (FieldRel false) xs ys → xs = ys
  | _, _, .nil => rfl
  | _, _, .cons h t => by
    rcases h with h | ⟨h, _⟩
    · rw [h, all2_fieldRel_false t]
    · cases h

def StructLike.depth (s : StructLike) : Nat := (s.fields.map Field.depth).foldl max 0
def StructLike.supported (s : StructLike) : Bool := s.fields.all Field.supported

theorem fieldOk_of_wf {d : Nat} {f : Field} (hw : f.wf = true) (hd : f.depth < d) :
    FieldOk d false f := by
  refine ⟨hw, hd, ?_⟩
  intro h
  rcases h with h | ⟨h, _⟩
  · simp only [Field.wf, Bool.and_eq_true, Bool.or_eq_true, bne_iff_ne, ne_eq, Bool.not_eq_true'] at hw
    rcases hw.2 with h' | h'
    · exact absurd h h'
    · exact h'
  · cases h

theorem structLike_reads {s : StructLike} (hw : s.wf = true) {d : Nat} (hd : s.depth < d) (last : Bool) :
    Reads (StructLike.parse d) (rStructLike s last) ItemStart (UpToBlank s) := by
  obtain ⟨name, fields, anns⟩ := s
  simp only [StructLike.wf, Bool.and_eq_true, List.all_eq_true] at hw
  obtain ⟨⟨hname, hfs⟩, han⟩ := hw
  simp only [StructLike.depth] at hd
  have hall : ∀ f ∈ fields, FieldOk d false f := fun f hf =>
    fieldOk_of_wf (hfs f hf) (Nat.lt_of_le_of_lt ((foldl_max_le _ 0).2 _ (List.mem_map_of_mem hf)) hd)
  unfold StructLike.parse rStructLike
  exact .ident hname (.sep_lit rfl) <| .optBlank (.lit rfl) <| .lit <| .blankLit fun _ hbl =>
    .many0 (fields_loop (.inl rfl) hall) hbl (fun _ _ _ h => Reads.closeK rfl h) fun ys h => by
      rw [← all2_fieldRel_false h]
      exact .defTail han (fun _ h => h.punct) fun _ h => h ▸ rfl

theorem rStructLike_starts {s : StructLike} (hw : s.wf = true) (last : Bool) : Starts (rStructLike s last) NB := by
  simp only [StructLike.wf, Bool.and_eq_true] at hw
  unfold rStructLike
  exact ((ident_starts hw.1.1).mono fun _ h => hdP_mono (fun _ => identStart_NB) h).seq

end Pilota.Idl
