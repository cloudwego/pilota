import PilotaModel.Lemmas.IdlType
/-
  C15: `type_rt` — types (base types, containers with `cpp_type`, paths, annotations) are read
  back from every rendering, by mutual structural recursion over `Ty` / `TypeA`.  The keyword arms of
  `Ty::parse` are handled as a table (`alt_keywords_none` / `alt_keywords_some`).
-/
namespace Pilota.Idl

mutual
def Ty.depth : Ty → Nat
  | .list v _ => v.depth + 1
  | .set v _ => v.depth + 1
  | .map k v _ => max k.depth v.depth + 1
  | _ => 0
def TypeA.depth : TypeA → Nat
  | .mk t _ => t.depth
end

/-- What a type needs of the text that follows it.  A word (base type, name) needs a separator character, a name also
that no further segment follows; `list<..>` reads its `cpp_type` clause AFTER the `>` (ty.rs), so without one the text
must not offer one (`NoCpp`), while `set` / `map` read theirs before the `<` and end in `>`: nothing is needed. -/
def TyFollow : Ty → List Char → Prop
  | .path _, r => hdP (fun c => !isIdentChar c) r = true ∧ PathStop r
  | .list _ none, r => NoCpp r
  | .list _ (some _), _ => True
  | .set .., _ => True
  | .map .., _ => True
  | _, r => Sep r

/-- a type with annotations ends in `)` and needs nothing; one without must also not be followed by an annotation list -/
def TypeFollow : TypeA → List Char → Prop
  | .mk t as, r => as ≠ [] ∨ (TyFollow t r ∧ AnnsStop r)

theorem tyFollow_general {t : Ty} {r : List Char} (h1 : Sep r) (h2 : PathStop r) (h3 : NoCpp r) : TyFollow t r := by
  cases t with
  | path p => exact ⟨h1.noIdent, h2⟩
  | list v c => cases c <;> simp [TyFollow, h3]
  | set v c => trivial
  | map k v c => trivial
  | _ => exact h1

/-- a type in a container is followed, after an optional blank, by `>` or the separator of a map -/
def ClosesType (T : List Char) : Prop := ∃ c y, T = c :: y ∧ (c = '>' ∨ c = ',' ∨ c = ';')

theorem Follows.typeClose {a r : R} [IsBlank a] {F : List Char → Prop} (t : TypeA) (h : Follows r F ClosesType) :
    Follows (a +> r) F (TypeFollow t) := fun l x hx => by
  obtain ⟨c, y, e, hc⟩ := h (a l).2 x hx
  rw [rSeq_fst, List.append_assoc, e]
  obtain ⟨h1, h2, h3, h4⟩ := follow_punct (c := c) (r := y) (IsBlank.bt (a := a) l) (by rcases hc with h | h | h <;> simp [h])
  cases t with
  | mk ty as => exact Or.inr ⟨tyFollow_general h1 h2 h3, h4 (by rcases hc with h | h | h <;> subst h <;> decide)⟩

theorem Follows.closesType {r : R} {F : List Char → Prop} {c : Char} {t : List Char} (hc : c = '>' ∨ c = ',' ∨ c = ';') :
    Follows (rLit (c :: t) +> r) F ClosesType := fun _ _ _ => ⟨c, _, rfl, hc⟩

theorem ltArm_fail {β} (k : List Char → P β) {c : Char} {x : List Char} (hc : isIdentChar c = true) :
    (andThen (opt blank) fun _ => andThen (tag ['<']) k) (c :: x) = .err := by
  have h1 : opt blank (c :: x) = .ok none (c :: x) := opt_of_err (blank_err (identChar_NB hc))
  rw [andThen_of_ok h1]
  exact andThen_of_err (tag_cons_ne (ne_of_class hc (by decide)).symm)

theorem cppLtArm_fail {β} (k : Option CppType → List Char → P β) {c : Char} {x : List Char} (hc : isIdentChar c = true) :
    (andThen (opt (skip blank CppType.parse)) fun cpp => andThen (opt blank) fun _ => andThen (tag ['<']) (k cpp)) (c :: x) = .err := by
  have h0 : opt (skip blank CppType.parse) (c :: x) = .ok none (c :: x) :=
    opt_of_err (skip_of_err (blank_err (identChar_NB hc)))
  rw [andThen_of_ok h0]
  exact ltArm_fail _ hc

theorem rPath_cons {p : Path} (hp : p.wf = true) (l : Layout) :
    ∃ s rest, identOk s = true ∧ p.head = s ∧ (rPath p l).1 = s ++ rest ∧
      ∀ r, hdP (fun c => !isIdentChar c) r = true → hdP (fun c => !isIdentChar c) (rest ++ r) = true := by
  obtain ⟨segs⟩ := p
  simp only [Path.wf, Bool.and_eq_true, Bool.not_eq_true', List.all_eq_true] at hp
  cases segs with
  | nil => simp at hp
  | cons s ss =>
    refine ⟨s, (rSlots (fun seg _ => rB0 +> rLit ['.'] +> rB0 +> rLit seg) ss l).1, hp.2 s (by simp), rfl, by simp only [rPath, rSeq_fst, rLit_fst, rLit_snd], ?_⟩
    exact fun r hr => pathSegs_noIdent ss l hr

theorem rType_starts {t : TypeA} (hw : t.wf = true) : Starts (rType t) NB := by
  obtain ⟨ty, as⟩ := t
  simp only [TypeA.wf, Bool.and_eq_true] at hw
  unfold rType
  refine Starts.seq ?_
  cases ty with
  | path p =>
    simp only [Ty.wf, Bool.and_eq_true] at hw
    intro l
    obtain ⟨s, rest, hs, _, e, _⟩ := rPath_cons hw.1.1 l
    simp only [rTy, e, List.append_assoc]
    exact ⟨fun h => ident_ne_nil hs (List.append_eq_nil_iff.mp h).1, fun _ => ident_NB hs⟩
  | list _ _ | set _ _ | map _ _ => unfold rTy; exact .seq (.lit rfl)
  | _ => exact .lit rfl

theorem Reads.typeOf {tyP : P Ty} {t : Ty} {as : Annotations} (hwa : Annotations.wf as = true)
    (hty : Reads tyP (rTy t) (TyFollow t) (Exact t)) :
    Reads (typeParse tyP) (rType (.mk t as)) (TypeFollow (.mk t as)) (Exact (.mk t as)) := by
  refine .seqNil ?_
  unfold typeParse rType
  rw [rSeq_assoc]
  by_cases hne : as = []
  · subst hne
    simp only [rOptAnns, List.isEmpty_nil, if_true, rLit_nil_seq]
    exact .seq hty (.nil fun _ hx => (hx.resolve_left (· rfl)).1) <|
      .skipEmpty (v := none) (.nil fun _ hx => (hx.resolve_left (· rfl)).2) <| .done ⟨rfl, rfl⟩
  · exact .seq hty (.optAnns (fun h => absurd h hne) fun B y hB => by
        obtain ⟨h1, h2, h3, _⟩ := follow_punct (c := '(') (r := y) hB (by simp)
        exact tyFollow_general h1 h2 h3) <|
      .seq (typeAnns_reads hwa hne) (fun _ _ _ => trivial) <| .done ⟨rfl, rfl⟩

/- `alt` over keyword arms, on a word: the arm whose keyword is the word answers, if there is one -/

theorem alt_keywords_none {α} {w r : List Char} (hw : ∀ c ∈ w, isIdentChar c = true)
    (hr : hdP (fun c => !isIdentChar c) r = true) (ps : List (P α)) :
    ∀ (tbl : List (List Char × α)), (∀ kv ∈ tbl, ∀ c ∈ kv.1, isIdentChar c = true) → tbl.lookup w = none →
      alt (tbl.map (fun kv => keyword kv.1 kv.2) ++ ps) (w ++ r) = alt ps (w ++ r)
  | [], _, _ => rfl
  | (k, v) :: tbl, hk, h => by
    rw [List.lookup_cons] at h
    split at h
    · cases h
    · rename_i hne
      exact (alt_cons_of_err (keyword_word_err (hk _ (.head _)) hw hr (by simpa using hne))).trans
        (alt_keywords_none hw hr ps tbl (fun kv hkv => hk kv (.tail _ hkv)) h)

theorem alt_keywords_some {α} {w r : List Char} {v : α} (hw : ∀ c ∈ w, isIdentChar c = true) (hr : Sep r) (ps : List (P α)) :
    ∀ (tbl : List (List Char × α)), (∀ kv ∈ tbl, ∀ c ∈ kv.1, isIdentChar c = true) → tbl.lookup w = some v →
      alt (tbl.map (fun kv => keyword kv.1 kv.2) ++ ps) (w ++ r) = .ok v r
  | [], _, h => by cases h
  | (k, v') :: tbl, hk, h => by
    rw [List.lookup_cons] at h
    split at h
    · rename_i he
      cases h; rw [beq_iff_eq] at he; subst he
      exact alt_cons_of_ok (keyword_rt hr)
    · rename_i hne
      exact (alt_cons_of_err (keyword_word_err (hk _ (.head _)) hw hr.noIdent (by simpa using hne))).trans
        (alt_keywords_some hw hr ps tbl (fun kv hkv => hk kv (.tail _ hkv)) h)

theorem Reads.altKeywords {β : Type} {r : R} {F : List Char → Prop} {Q : β → List Char → Prop} {w : List Char}
    (hw : ∀ c ∈ w, isIdentChar c = true) (hr : Follows r F (Hd fun c => !isIdentChar c)) {tbl : List (List Char × β)}
    (htbl : ∀ kv ∈ tbl, ∀ c ∈ kv.1, isIdentChar c = true) (hno : tbl.lookup w = none) {ps : List (P β)}
    (h : Reads (alt ps) (rLit w +> r) F Q) :
    Reads (alt (tbl.map (fun kv => keyword kv.1 kv.2) ++ ps)) (rLit w +> r) F Q := fun l x hx => by
  obtain ⟨a, g, hq, hg, e⟩ := h l x hx
  refine ⟨a, g, hq, hg, ?_⟩
  rw [rSeq_fst, rLit_fst, List.append_assoc] at e ⊢
  exact (alt_keywords_none hw (hr _ x hx) ps tbl htbl hno).trans e

/-- the keyword arms of `Ty::parse` -/
def baseTypes : List (List Char × Ty) := [
  (cs!"string", .string), (cs!"void", .void), (cs!"byte", .byte), (cs!"bool", .bool), (cs!"binary", .binary),
  (cs!"i8", .i8), (cs!"i16", .i16), (cs!"i32", .i32), (cs!"i64", .i64), (cs!"double", .double), (cs!"uuid", .uuid)]

theorem baseTypes_ident : ∀ kv ∈ baseTypes, ∀ c ∈ kv.1, isIdentChar c = true := by decide

theorem ty_base_rt {w : List Char} {t : Ty} (h : baseTypes.lookup w = some t) (d : Nat) {r : List Char} (hr : Sep r) :
    Ty.parse (d + 1) (w ++ r) = .ok t r := by
  obtain ⟨l₁, l₂, e, _⟩ := List.lookup_eq_some_iff.mp h
  have hw := baseTypes_ident (w, t) (by rw [e]; simp)
  unfold Ty.parse
  change alt (List.map (fun kv => keyword kv.1 kv.2) baseTypes ++ _) _ = _
  exact alt_keywords_some hw hr _ _ baseTypes_ident h

theorem baseTypes_not_typeWord {w : List Char} (h : ∀ kw ∈ typeWords, w ≠ kw) : baseTypes.lookup w = none :=
  List.lookup_eq_none_iff.mpr fun kv hkv => bne_iff_ne.mpr (h _ (by revert kv; decide))

theorem Follows.cppLt {r : R} {F : List Char → Prop} (c : Option CppType) :
    Follows (rCppOpt c +> rB0 +> rLit ['<'] +> r) F (Hd fun c => !isIdentChar c) := by
  cases c with
  | none => rw [rCppOpt, rLit_nil_seq]; exact .blank blankStart_not_identChar (.lit rfl)
  | some lit => rw [rCppOpt, rSeq_assoc]; exact Follows.sep_b1.mono fun _ => Sep.noIdent

theorem Follows.noCppLt {a r : R} [IsBlank a] {F : List Char → Prop} : Follows (a +> rLit ['<'] +> r) F NoCpp := fun l x _ => by
  simp only [rSeq_fst, rLit_fst, List.append_assoc]
  exact noCpp_of (IsBlank.bt l) rfl (cppType_err_hd rfl)

/-- the separator of a map: `listSeparator` takes the blank after it, the `opt(blank)` of `Ty::parse` finds none -/
theorem Reads.mapSep {β : Type} {r : R} {F : List Char → Prop} {Q : β → List Char → Prop} {k : P β} (hnb : Follows r F NB)
    (hk : Reads k r F Q) :
    Reads (andThen listSeparator fun _ => andThen (opt blank) fun _ => k)
      ((rWith fun c => rLit [if c.sep % 2 = 0 then ',' else ';']) +> rB0 +> r) F Q := by
  refine .choice fun ch l x hx => ?_
  obtain ⟨w, g, hq, hg, e⟩ := hk (rB0 l).2 x hx
  have hs : (if ch.sep % 2 = 0 then ',' else ';') = ',' ∨ (if ch.sep % 2 = 0 then ',' else ';') = ';' := by
    split; exact .inl rfl; exact .inr rfl
  have hn := hnb (rB0 l).2 x hx
  refine ⟨w, g, hq, hg.imp_right fun h => ?_, ?_⟩
  · simp only [rSeq_fst, rLit_snd, List.length_append]; omega
  · simp only [rSeq_fst, rLit_fst, rLit_snd, List.append_assoc, List.cons_append, List.nil_append]
    rw [andThen_of_ok (listSeparator_ok hs (rB0_BT _) hn), andThen_of_ok (opt_of_err (blank_err hn))]; exact e

/-- a rendered type in front of `x` begins with a maximal word `w` (what follows `w` is not a word character), and `w` is a
type word or the head of the type's name: what decides whether a keyword arm tried before the type reads it -/
theorem rType_firstWord {t : TypeA} (hw : t.wf = true) (l : Layout) (x : List Char)
    (hx : t.endsOpen = true → hdP (fun c => !isIdentChar c) x = true) :
    ∃ w rest, (rType t l).1 ++ x = w ++ rest ∧ (∀ c ∈ w, isIdentChar c = true) ∧
      hdP (fun c => !isIdentChar c) rest = true ∧ (w ∈ typeWords ∨ t.headIs w = true) ∧ w ≠ [] := by
  obtain ⟨ty, as⟩ := t
  simp only [TypeA.wf, Bool.and_eq_true] at hw
  simp only [rType, rSeq_fst, List.append_assoc]
  have hafter : ty.endsOpen = true → hdP (fun c => !isIdentChar c) ((rOptAnns as (rTy ty l).2).1 ++ x) = true := by
    intro ho
    by_cases has : as = []
    · subst has
      exact hx (by simp [TypeA.endsOpen, ho])
    · have he := isEmpty_false_of_ne has
      simp only [rOptAnns, rAnns, he, Bool.false_eq_true, if_false, rSeq_fst, rLit_fst, List.append_assoc]
      exact ((rB0_BT _).sep_append (Or.inr rfl)).noIdent
  cases ty with
  | path p =>
    simp only [Ty.wf, Bool.and_eq_true] at hw
    obtain ⟨s, rest, hs, hhead, e, hrest⟩ := rPath_cons hw.1.1 l
    refine ⟨s, rest ++ ((rOptAnns as (rTy (.path p) l).2).1 ++ x), ?_, identOk_all hs, hrest _ (hafter rfl), Or.inr ?_, ident_ne_nil hs⟩
    · simp only [rTy]; rw [e, List.append_assoc]
    · simp [TypeA.headIs, hhead]
  | list v c =>
    simp only [rTy, rSeq_fst, rSeq_snd, rLit_fst, rLit_snd, List.append_assoc]
    exact ⟨_, _, rfl, by decide, (rB0_BT _).hdP_append blankStart_not_identChar rfl, Or.inl (by decide), by simp⟩
  | set v c =>
    rw [rTy, rSeq_fst, rLit_fst, List.append_assoc]
    exact ⟨_, _, rfl, by decide, Follows.cppLt (F := fun _ => True) c _ _ trivial, Or.inl (by decide), by simp⟩
  | map k v c =>
    rw [rTy, rSeq_fst, rLit_fst, List.append_assoc]
    exact ⟨_, _, rfl, by decide, Follows.cppLt (F := fun _ => True) c _ _ trivial, Or.inl (by decide), by simp⟩
  | _ => simp only [rTy, rLit_fst]; exact ⟨_, _, rfl, by decide, hafter rfl, Or.inl (by decide), by simp⟩

mutual
theorem ty_rt : (t : Ty) → t.wf = true → (d : Nat) → t.depth < d → (l : Layout) → (r : List Char) → TyFollow t r →
    Ty.parse d ((rTy t l).1 ++ r) = .ok t r := fun t hw d hd l r hf => by
  obtain ⟨d, rfl⟩ : ∃ d', d = d' + 1 := ⟨d - 1, by omega⟩
  match t with
  | .path p =>
    simp only [Ty.wf, Bool.and_eq_true, Bool.not_eq_true'] at hw
    obtain ⟨s, rest, hs, hhead, e, hrest⟩ := rPath_cons hw.1 l
    have hr' := hrest r hf.1
    have hne : ∀ kw ∈ typeWords, s ≠ kw := fun kw hk e => by
      have h := hw.2; rw [hhead, e, List.contains_iff_mem.mpr hk] at h; cases h
    have hpath := path_rt hw.1 l hf.1 hf.2
    simp only [rTy] at hpath ⊢
    rw [e, List.append_assoc] at hpath ⊢
    unfold Ty.parse
    change alt (List.map (fun kv => keyword kv.1 kv.2) baseTypes ++ _) _ = _
    rw [alt_keywords_none (identOk_all hs) hr' _ _ baseTypes_ident (baseTypes_not_typeWord hne),
      alt_cons_of_err (wordArm_err (by decide) (identOk_all hs) hr' (hne _ (by decide)) (fun c x hc => ltArm_fail _ hc)),
      alt_cons_of_err (wordArm_err (by decide) (identOk_all hs) hr' (hne _ (by decide)) (fun c x hc => cppLtArm_fail _ hc)),
      alt_cons_of_err (wordArm_err (by decide) (identOk_all hs) hr' (hne _ (by decide)) (fun c x hc => cppLtArm_fail _ hc))]
    exact alt_cons_of_ok (pmap_of_ok hpath)
  | .list v c =>
    simp only [Ty.wf, Bool.and_eq_true] at hw
    simp only [Ty.depth] at hd
    refine Reads.exact (F := TyFollow (.list v c)) (.seqNil ?_) l hf
    unfold Ty.parse rTy
    simp only [rSeq_assoc]
    show Reads (alt (List.map (fun kv => keyword kv.1 kv.2) baseTypes ++ _)) _ _ _
    exact .altKeywords (by decide) (.blank blankStart_not_identChar (.lit rfl)) baseTypes_ident (by decide) <|
      .altHere <| .lit <| .optBlank (.lit rfl) <| .lit <| .optBlank (.starts (rType_starts hw.1)) <|
      .seq (.of_exact fun l r hf => type_rt v hw.1 d (by omega) l r hf) (.typeClose v (.closesType (.inl rfl))) <|
      .optBlank (.lit rfl) <| .lit <|
      .cppOpt hw.2 (fun h => .nil fun _ hx => by subst h; exact hx) <| .done ⟨rfl, rfl⟩
  | .set v c =>
    simp only [Ty.wf, Bool.and_eq_true] at hw
    simp only [Ty.depth] at hd
    refine Reads.exact (F := TyFollow (.set v c)) (.seqNil ?_) l hf
    unfold Ty.parse rTy
    simp only [rSeq_assoc]
    show Reads (alt (List.map (fun kv => keyword kv.1 kv.2) baseTypes ++ _)) _ _ _
    exact .altKeywords (by decide) (.cppLt c) baseTypes_ident (by decide) <| .altFirst <|
      .altHere <| .lit <| .cppOpt hw.2 (fun _ => .noCppLt) <| .optBlank (.lit rfl) <| .lit <|
      .optBlank (.starts (rType_starts hw.1)) <|
      .seq (.of_exact fun l r hf => type_rt v hw.1 d (by omega) l r hf) (.typeClose v (.closesType (.inl rfl))) <|
      .optBlank (.lit rfl) <| .lit <| .done ⟨rfl, rfl⟩
  | .map k v c =>
    simp only [Ty.wf, Bool.and_eq_true] at hw
    simp only [Ty.depth] at hd
    refine Reads.exact (F := TyFollow (.map k v c)) (.seqNil ?_) l hf
    unfold Ty.parse rTy
    simp only [rSeq_assoc]
    show Reads (alt (List.map (fun kv => keyword kv.1 kv.2) baseTypes ++ _)) _ _ _
    exact .altKeywords (by decide) (.cppLt c) baseTypes_ident (by decide) <| .altFirst <|
      .altFirst <| .altHere <| .lit <| .cppOpt hw.2 (fun _ => .noCppLt) <| .optBlank (.lit rfl) <| .lit <|
      .optBlank (.starts (rType_starts hw.1.1)) <|
      .seq (.of_exact fun l r hf => type_rt k hw.1.1 d (by omega) l r hf)
        (.typeClose k (.choice fun ch => by split; exact .closesType (.inr (.inl rfl)); exact .closesType (.inr (.inr rfl)))) <|
      .optBlank (.choice fun ch => by split <;> exact .lit rfl) <| .mapSep (.starts (rType_starts hw.1.2)) <|
      .seq (.of_exact fun l r hf => type_rt v hw.1.2 d (by omega) l r hf) (.typeClose v (.closesType (.inl rfl))) <|
      .optBlank (.lit rfl) <| .lit <| .done ⟨rfl, rfl⟩
  | .string | .void | .byte | .bool | .binary | .i8 | .i16 | .i32 | .i64 | .double | .uuid => exact ty_base_rt rfl d hf
termination_by structural t => t
theorem type_rt : (t : TypeA) → t.wf = true → (d : Nat) → t.depth < d → (l : Layout) → (r : List Char) → TypeFollow t r →
    typeParse (Ty.parse d) ((rType t l).1 ++ r) = .ok t r := fun t hw d hd l r hf => by
  match t with
  | .mk t as =>
    simp only [TypeA.wf, Bool.and_eq_true] at hw
    simp only [TypeA.depth] at hd
    exact (Reads.typeOf hw.2 (.of_exact fun l r hf => ty_rt t hw.1 d hd l r hf)).exact l hf
termination_by structural t => t
end

end Pilota.Idl
