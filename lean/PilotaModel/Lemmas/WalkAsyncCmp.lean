import PilotaModel.Lemmas.AsyncCmp
import PilotaModel.Lemmas.WalkCompact
/-
  The async compact reading interpreter, run on flat bytes, is the value walker over the in-memory compact reader's primitives
  with the unchecked container headers in place of the checked ones (`readVal_eq_walk`, an equation of all outcomes).
-/
namespace Pilota.Thrift.Async.ACmp
open Pilota Pilota.Thrift Pilota.Thrift.Compact

def walkPrims : Walk.Prims (CR × Bytes) :=
  { Compact.walkPrims with listBegin := onInput Skip.rawCollBegin, mapBegin := onInput Skip.rawCMapBegin }

theorem pack_bind {α β} (x : Out α) (k : α → Out (β × CR × Bytes)) : pack (x.bind k) = x.bind fun y => pack (k y) := by
  cases x <;> rfl

theorem bind_pack {α β} (x : Out (α × CR × Bytes)) (k : (α × CR) × Bytes → Out β) :
    (pack x).bind k = x.bind fun y => k ((y.1, y.2.1), y.2.2) := by
  cases x <;> rfl

/-- This way round, so that rewriting with it finds `l` in the walker's leaf (not from `l.ttype`). -/
theorem leaf_eq (f : Nat) (l : Walk.Leaf) (s : CR) (bs : Bytes) :
    pack (walkPrims.leaf l (s, bs)) = runF (readVal (f + 1) l.ttype s) bs := by
  symm
  cases l <;> dsimp only [walkPrims, Compact.walkPrims, Walk.Leaf.ttype] <;> unfold readVal Compact.readVal
  case bool => rw [runF_bind, runF_readBool]; cases Compact.readBool s bs <;> rfl
  case i8 => rw [runF_bind, ABin.runF_readI]; cases Binary.readI .be 1 bs <;> rfl
  case i16 | i32 | i64 => rw [runF_bind, runF_readVarS]; cases Pilota.readVarS _ bs <;> rfl
  case double => rw [runF_bind, ABin.runF_readU]; cases Binary.readU .le 8 bs <;> rfl
  case binary => rw [runF_bind, runF_readBytes]; cases Compact.readBytes bs <;> rfl
  case uuid => rw [runF_need]; cases Binary.takeN 16 bs <;> rfl

theorem wp_sb (s) : walkPrims.structBegin s = (readStructBegin s.1, s.2) := rfl
theorem wp_se (s) : walkPrims.structEnd s = (Compact.readStructEnd s.1).bind fun c => .ok (c, s.2) := rfl
theorem wp_fb (s) : walkPrims.fieldBegin s = Compact.readFieldBegin s.1 s.2 := rfl
theorem wp_lb (s) : walkPrims.listBegin s = (Skip.rawCollBegin s.2).bind fun x => .ok (x.1, s.1, x.2) := rfl
theorem wp_mb (s) : walkPrims.mapBegin s = (Skip.rawCMapBegin s.2).bind fun x => .ok (x.1, s.1, x.2) := rfl

theorem readVal_eq_walk : ∀ f,
    (∀ t s bs, runF (readVal f t s) bs = pack (Walk.val walkPrims f t (s, bs))) ∧
    (∀ s bs, runF (readFields f s) bs = pack (Walk.fields walkPrims f (s, bs))) ∧
    (∀ et n s bs, runF (readN f et n s) bs = pack (Walk.elems walkPrims f et n (s, bs))) ∧
    (∀ kt vt n s bs, runF (readPairs f kt vt n s) bs = pack (Walk.pairs walkPrims f kt vt n (s, bs))) := by
  intro f
  induction f with
  | zero => exact ⟨fun _ _ _ => rfl, fun _ _ => rfl, fun _ _ _ _ => rfl, fun _ _ _ _ _ => rfl⟩
  | succ f ih =>
    obtain ⟨ih1, ih2, ih3, ih4⟩ := ih
    refine ⟨fun t s bs => ?_, fun s bs => ?_, fun et n s bs => ?_, fun kt vt n s bs => ?_⟩
    · cases t <;> unfold Walk.val
      case struct =>
        unfold readVal
        simp only [runF_bind', ih2, pack_bind, bind_pack, wp_sb, wp_se, runF_readStructEnd]
        refine congrArg _ (funext fun y => ?_)
        cases Compact.readStructEnd y.2.1 <;> rfl
      case list | set =>
        unfold readVal
        simp only [runF_bind', runF_readCollBegin, ih3, pack_bind, bind_pack, wp_lb, Out.bind_bind, Out.ok_bind]
        rfl
      case map =>
        unfold readVal
        simp only [runF_bind', runF_readMapBegin, ih4, pack_bind, bind_pack, wp_mb, Out.bind_bind, Out.ok_bind]
        rfl
      case stop | void => rfl
      all_goals (rw [leaf_eq f]; rfl)
    · unfold readFields Walk.fields
      simp only [runF_bind', runF_readFieldBegin, wp_fb, pack_bind, bind_pack]
      refine congrArg _ (funext fun x => ?_)
      split
      · rfl
      · simp only [runF_bind', ih1, ih2, pack_bind, bind_pack]; rfl
    · cases n <;> unfold readN Walk.elems
      · rfl
      · simp only [runF_bind', ih1, ih3, pack_bind, bind_pack]; rfl
    · cases n <;> unfold readPairs Walk.pairs
      · rfl
      · simp only [runF_bind', ih1, ih4, pack_bind, bind_pack]; rfl
end Pilota.Thrift.Async.ACmp
