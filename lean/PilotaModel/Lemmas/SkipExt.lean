import PilotaModel.Lemmas.SkipPrims
import PilotaModel.Lemmas.WalkSkip
/-  A successful skip does not depend on the bytes after those it consumed, nor on spare fuel. -/
namespace Pilota.Thrift.Skip
open Pilota Pilota.Thrift

/-- every primitive that sees the input is stable under more input (`structBegin` / `structEnd` see none). -/
theorem Prims.sim_more {σ : Type} (P : Prims σ) (q : Bytes)
    (leaf : ∀ t s p s' r, P.leaf t s p = .ok (s', r) → P.leaf t s (p ++ q) = .ok (s', r ++ q))
    (fb : ∀ s p x s' r, P.fieldBegin s p = .ok (x, s', r) → P.fieldBegin s (p ++ q) = .ok (x, s', r ++ q))
    (lb : ∀ p x r, P.listBegin p = .ok (x, r) → P.listBegin (p ++ q) = .ok (x, r ++ q))
    (mb : ∀ p x r, P.mapBegin p = .ok (x, r) → P.mapBegin (p ++ q) = .ok (x, r ++ q)) : P.Sim P (Out.more q) where
  leaf t _ _ _ _ hr x e := by cases hr; exact ⟨_, leaf t _ _ _ _ e, rfl⟩
  structBegin hr := by cases hr; rfl
  structEnd hr s1 e := by cases hr; exact ⟨_, e, rfl⟩
  fieldBegin hr := by cases hr; exact .of_app fun _ _ e => fb _ _ _ _ _ e
  listBegin hr x r e := by cases hr; exact ⟨_, lb _ _ _ e, rfl⟩
  mapBegin hr x r e := by cases hr; exact ⟨_, mb _ _ _ e, rfl⟩

theorem rdSkip_ext {σ : Type} {P : Prims σ} {q : Bytes} (hP : P.Sim P (Out.more q)) {f f' : Nat} (hf : f ≤ f')
    {d t s p s' r} (h : rdSkip P f d t s p = .ok (s', r)) : rdSkip P f' d t s (p ++ q) = .ok (s', r ++ q) := by
  obtain ⟨_, e, rfl⟩ := (rdSkip_sim hP f f' hf).1 d t (s := s) (bs := p) rfl _ h
  exact e

theorem binaryPrims_ext (e : Endian) (q : Bytes) : (binaryPrims e).Sim (binaryPrims e) (Out.more q) :=
  (binaryPrims e).sim_more q (fun t _ _ _ _ h => by dsimp only [binaryPrims, drop1] at h ⊢; ok_step h with (binaryLeaf_reads e t q).ext; cases h; rfl)
    (fun _ _ _ _ _ h => by rw [bp_fb] at h ⊢; ok_step h with (Binary.readFieldBegin_reads q).ext; cases h; rfl)
    (fun _ _ _ => (Binary.readListBegin_reads q).ext) (fun _ _ _ => (Binary.readMapBegin_reads q).ext)

theorem counted_ext {p q : Bytes} {x x' : Out (Unit × Bytes)} (h : Out.Carries (Out.more q) x x') {k : Nat} {r : Bytes}
    (hx : counted p x = .ok (k, r)) : counted (p ++ q) x' = .ok (k, r ++ q) := by
  unfold counted at hx
  ok_step hx; cases hx
  obtain ⟨_, e, rfl⟩ := h _ rfl
  rw [e]
  exact congrArg (fun k => Out.ok (k, r ++ q)) (by rw [List.length_append, List.length_append, Nat.add_sub_add_right])

theorem skipVal_ext (e : Endian) (q : Bytes) {f f' d t p k r} (hf : f ≤ f') (h : skipVal e f d t p = .ok (k, r)) :
    skipVal e f' d t (p ++ q) = .ok (k, r ++ q) := by
  rw [(skipVal_eq e f').1]
  exact counted_ext ((rdSkip_sim (binaryPrims_ext e q) f f' hf).1 d t (s := ()) rfl)
    ((skipVal_eq e f).1 d t p ▸ h)

theorem compactPrims_ext (q : Bytes) : compactPrims.Sim compactPrims (Out.more q) :=
  compactPrims.sim_more q (fun t s _ _ _ => (compactLeaf_reads t s q).ext) (fun _ _ _ _ _ => (Compact.readFieldBegin_reads q).ext)
    (fun _ _ _ => (Compact.readCollBegin_reads q).ext) (fun _ _ _ => (Compact.readMapBegin_reads q).ext)

end Pilota.Thrift.Skip
