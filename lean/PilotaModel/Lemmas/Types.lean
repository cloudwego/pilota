import PilotaModel.Thrift.Types
/-  Facts about wire types and value trees that do not depend on a protocol. -/
namespace Pilota.Thrift
open Pilota

theorem TType.toByte_lt (t : TType) : t.toByte < 256 := by cases t <;> decide

theorem TType.ofByte_toByte (t : TType) : TType.ofByte t.toByte = some t := by cases t <;> rfl

theorem TType.isValue_ne_stop (t : TType) (h : t.isValue = true) : t ≠ .stop := by
  rintro rfl; cases h

theorem TVal.ttype_isValue (v : TVal) : v.ttype.isValue = true := by
  cases v <;> rfl

theorem TVal.wt_list {et : TType} {xs : TVals} :
    (TVal.list et xs).wt = true ↔ et.isValue = true ∧ xs.length < 2 ^ 31 ∧ xs.wt et = true := by
  simp only [TVal.wt, Bool.and_eq_true, decide_eq_true_eq, and_assoc]

theorem TVal.wt_set {et : TType} {xs : TVals} :
    (TVal.set et xs).wt = true ↔ et.isValue = true ∧ xs.length < 2 ^ 31 ∧ xs.wt et = true := by
  simp only [TVal.wt, Bool.and_eq_true, decide_eq_true_eq, and_assoc]

theorem TVal.wt_map {kt vt : TType} {kvs : TPairs} :
    (TVal.map kt vt kvs).wt = true ↔
      kt.isValue = true ∧ vt.isValue = true ∧ kvs.length < 2 ^ 31 ∧ kvs.wt kt vt = true := by
  simp only [TVal.wt, Bool.and_eq_true, decide_eq_true_eq, and_assoc]

theorem TVals.wt_cons {v : TVal} {vs : TVals} {et : TType} :
    (TVals.cons v vs).wt et = true ↔ v.ttype = et ∧ v.wt = true ∧ vs.wt et = true := by
  simp only [TVals.wt, Bool.and_eq_true, decide_eq_true_eq, and_assoc]

theorem TFields.wt_cons {id : Int} {v : TVal} {r : TFields} :
    (TFields.cons id v r).wt = true ↔ inS 2 id ∧ v.wt = true ∧ r.wt = true := by
  simp only [TFields.wt, Bool.and_eq_true, decide_eq_true_eq, and_assoc]

theorem TPairs.wt_cons {k v : TVal} {r : TPairs} {kt vt : TType} :
    (TPairs.cons k v r).wt kt vt = true ↔
      k.ttype = kt ∧ v.ttype = vt ∧ k.wt = true ∧ v.wt = true ∧ r.wt kt vt = true := by
  simp only [TPairs.wt, Bool.and_eq_true, decide_eq_true_eq, and_assoc]

theorem TVal.size_pos (v : TVal) : 0 < v.size := by cases v <;> exact Nat.succ_pos _
theorem TVal.need_pos (v : TVal) : 0 < v.need := by cases v <;> exact Nat.succ_pos _
theorem TVals.size_pos (xs : TVals) : 0 < xs.size := by cases xs <;> exact Nat.succ_pos _
theorem TFields.size_pos (fs : TFields) : 0 < fs.size := by cases fs <;> exact Nat.succ_pos _
theorem TPairs.size_pos (kvs : TPairs) : 0 < kvs.size := by cases kvs <;> exact Nat.succ_pos _

end Pilota.Thrift
