import PilotaModel.Lemmas.SpecCmp
/-  The reference's compact decoder recovers the value from every legal encoding. -/
namespace Pilota.Thrift.SpecCmp
open Pilota Pilota.Thrift Pilota.Thrift.Spec

theorem varint_uleb (k n : Nat) (r : Bytes) (h : varLen n ≤ k) : varint k (uleb n ++ r) = .ok (n, r) := by
  induction n using Nat.strongRecOn generalizing k with
  | _ n ih =>
    rw [varLen] at h
    rw [uleb, encVar]
    split
    · rename_i hn
      cases k with
      | zero => rw [dif_pos hn] at h; cases h
      | succ k =>
        simp only [List.cons_append, List.nil_append, varint, u8_toNat_ofNat_lt n (Nat.lt_trans hn (by decide)), if_pos hn]
    · rename_i hn
      rw [dif_neg hn] at h
      cases k with
      | zero => omega
      | succ k =>
        simp only [List.cons_append, varint, u8_toNat_ofNat_lt _ (Nat.add_lt_add_right (Nat.mod_lt n (by decide : 0 < 128)) 128),
          if_neg (Nat.not_lt.mpr (Nat.le_add_left 128 _)),
          ih (n / 128) (Nat.div_lt_self (Nat.lt_of_lt_of_le (by decide) (Nat.le_of_not_lt hn)) (by decide)) k
            (Nat.le_of_add_le_add_left (Nat.add_comm k 1 ▸ h)),
          Nat.add_sub_cancel, Nat.mod_add_div]

theorem unzz_eq (n : Nat) : unzz n = unzigzag n := by
  unfold unzz unzigzag
  split
  · rfl
  · omega

theorem unzz_zz (i : Int) : unzz (zz i) = i := by
  rw [unzz_eq]; exact unzigzag_zigzag i

theorem zint_zz (w : Nat) (hw : w = 2 ∨ w = 4 ∨ w = 8) (n : Int) (h : inS w n) (r : Bytes) :
    zint w (uleb (zz n) ++ r) = .ok (n, r) := by
  have hw0 : 0 < w := by rcases hw with rfl | rfl | rfl <;> decide
  have hz : zz n < 256 ^ w := zigzag_lt w hw0 n h
  have hl : varLen (zz n) ≤ 10 :=
    varLen_le 10 _ (by decide) (Nat.lt_of_lt_of_le hz (by rcases hw with rfl | rfl | rfl <;> decide))
  simp only [zint, varint_uleb 10 (zz n) r hl, if_pos hz, unzz_zz]

theorem size_uleb (n : Nat) (h : n < 2 ^ 31) (r : Bytes) : size (uleb n ++ r) = .ok (n, r) := by
  simp only [size, varint_uleb 5 n r (varLen_le 5 n (by decide) (Nat.lt_trans h (by decide))), if_pos h]

theorem fieldHdr_stop (last : Int) (r : Bytes) : fieldHdr last ((0 : UInt8) :: r) = .ok (none, r) := rfl

theorem listHdr_of_hdr (et : TType) (c n : Nat) (hc : elemCode et c = true) (hn : n < 2 ^ 31) (hd : Bytes) (h : CollHdr c n hd) (r : Bytes) :
    listHdr (hd ++ r) = .ok ((et, n), r) := by
  have h1 := cmpTypeOfNibble_elemCode hc
  have hc := elemCode_lt hc
  cases h with
  | short hs =>
    have hn : n < 15 := Nat.lt_succ_of_le hs
    simp only [listHdr, List.cons_append, List.nil_append, u8_toNat_ofNat_lt _ (byte_lt (Nat.lt_succ_of_lt hn) hc), nibble_div n c hc,
      nibble_mod n c hc, h1, if_neg (Nat.ne_of_lt hn)]
  | long hs =>
    simp only [listHdr, List.cons_append, u8_toNat_ofNat_lt _ (byte_lt (h := 15) (by decide) hc), nibble_div 15 c hc, nibble_mod 15 c hc, h1,
      if_true, size_uleb n hn]

theorem mapHdr_of_codes (kt vt : TType) (ck cv : Nat) (hk : elemCode kt ck = true) (hv : elemCode vt cv = true) (n : Nat) (hn0 : n ≠ 0)
    (hn : n < 2 ^ 31) (r : Bytes) : mapHdr (uleb n ++ (UInt8.ofNat (ck * 16 + cv) :: r)) = .ok (some (kt, vt, n), r) := by
  have hcv := elemCode_lt hv
  simp only [mapHdr, size_uleb n hn, if_neg hn0, u8_toNat_ofNat_lt _ (byte_lt (elemCode_lt hk) hcv), nibble_div ck cv hcv, nibble_mod ck cv hcv,
    cmpTypeOfNibble_elemCode hk, cmpTypeOfNibble_elemCode hv]

theorem fieldHdr_of_hdr (last : Int) (c : Nat) (t : TType) (h0 : 0 < c) (hc : c < 16) (ht : cmpTypeOfNibble c = some t) (id : Int)
    (hid : inS 2 id) (hd : Bytes) (h : Hdr last c id hd) (r : Bytes) :
    fieldHdr last (hd ++ r) = .ok (some (t, id, if c = 1 then some true else if c = 2 then some false else none), r) := by
  cases h with
  | short d h1 h2 he =>
    have hlt := byte_lt (Nat.lt_succ_of_le h2) hc
    simp only [fieldHdr, List.cons_append, List.nil_append, if_neg (byte_ne_zero (Nat.ne_of_gt (Nat.add_pos_right _ h0)) hlt),
      u8_toNat_ofNat_lt _ hlt, nibble_div d c hc, nibble_mod d c hc, ht, if_neg (Nat.ne_of_gt h1), he]
  | long =>
    have hlt := Nat.lt_trans hc (by decide : 16 < 256)
    simp only [fieldHdr, List.cons_append, if_neg (byte_ne_zero (Nat.ne_of_gt h0) hlt), u8_toNat_ofNat_lt c hlt,
      Nat.div_eq_of_lt hc, Nat.mod_eq_of_lt hc, ht, if_true, zint_zz 2 (Or.inl rfl) id hid]

theorem fieldHdr_bool (last : Int) (b : Bool) (id : Int) (hid : inS 2 id) (hd : Bytes) (h : Hdr last (if b then 1 else 2) id hd)
    (r : Bytes) : fieldHdr last (hd ++ r) = .ok (some (.bool, id, some b), r) := by
  cases b
  · exact fieldHdr_of_hdr last 2 .bool (by decide) (by decide) rfl id hid hd h r
  · exact fieldHdr_of_hdr last 1 .bool (by decide) (by decide) rfl id hid hd h r

theorem fieldHdr_val (last : Int) (c : Nat) (t : TType) (hc : cmpCode t = some c) (id : Int) (hid : inS 2 id) (hd : Bytes)
    (h : Hdr last c id hd) (r : Bytes) : fieldHdr last (hd ++ r) = .ok (some (t, id, none), r) := by
  have h2 := cmpCode_gt hc
  rw [fieldHdr_of_hdr last c t (Nat.lt_trans (by decide) h2) (cmpCode_lt hc) (cmpTypeOfNibble_cmpCode hc) id hid hd h r,
    if_neg (Nat.ne_of_gt (Nat.lt_of_succ_lt h2)), if_neg (Nat.ne_of_gt h2)]

theorem decodeAll_of_enc (f : Nat) :
    (∀ v bs, Enc v bs → v.size ≤ f → ∀ r, decode f v.ttype (bs ++ r) = .ok (Compact.norm v, r)) ∧
    (∀ last fs bs, EncFields last fs bs → fs.size ≤ f → ∀ r, decodeFields f last (bs ++ r) = .ok (Compact.normFields fs, r)) ∧
    (∀ et xs bs, EncVals et xs bs → xs.size ≤ f → ∀ r, decodeVals f et xs.length (bs ++ r) = .ok (Compact.normVals xs, r)) ∧
    (∀ kt vt kvs bs, EncPairs kt vt kvs bs → kvs.size ≤ f → ∀ r,
      decodePairs f kt vt kvs.length (bs ++ r) = .ok (Compact.normPairs kvs, r)) := by
  induction f with
  | zero =>
    exact ⟨fun v _ _ hf => absurd v.size_pos (Nat.not_lt.mpr hf), fun _ fs _ _ hf => absurd fs.size_pos (Nat.not_lt.mpr hf),
      fun _ xs _ _ hf => absurd xs.size_pos (Nat.not_lt.mpr hf), fun _ _ kvs _ _ hf => absurd kvs.size_pos (Nat.not_lt.mpr hf)⟩
  | succ f ih =>
    obtain ⟨decode_of_enc, decodeFields_of_enc, decodeVals_of_enc, decodePairs_of_enc⟩ := ih
    refine ⟨fun v bs h hf r => ?_, fun last fs bs h hf r => ?_, fun et xs bs h hf r => ?_, fun kt vt kvs bs h hf r => ?_⟩
    · cases h with
      | boolT | boolF => rfl
      | i8 n hn => simp only [TVal.ttype, decode, int_be_twos 1 (by decide) n hn, Compact.norm]
      | i16 n hn | i32 n hn | i64 n hn => simp only [TVal.ttype, decode, zint_zz _ (by decide) n hn, Compact.norm]
      | dbl b hb =>
        simp only [TVal.ttype, decode, take_append' 8 _ r (le_length 8 _), ofLe_le,
          Nat.mod_eq_of_lt (show b < 256 ^ 8 from hb), Compact.norm]
      | bin p hp => simp only [TVal.ttype, decode, payload, List.append_assoc, size_uleb _ hp, take_append' _ p r rfl, Compact.norm]
      | uuid p hp => simp only [TVal.ttype, decode, take_append' 16 _ r hp, Compact.norm]
      | struct fs bs hfs =>
        simp only [TVal.ttype, decode, Compact.norm, decodeFields_of_enc 0 fs bs hfs (Nat.le_of_succ_le_succ hf) r]
      | list et c xs hd b hc hl hh hx | set et c xs hd b hc hl hh hx =>
        simp only [TVal.ttype, decode, List.append_assoc, listHdr_of_hdr et c xs.length hc hl hd hh, Compact.norm,
          decodeVals_of_enc et xs b hx (Nat.le_of_succ_le_succ hf) r]
      | mapEmpty kt vt hk hv => rfl
      | map kt vt ck cv k v rest b hk hv hl hx =>
        simp only [TVal.ttype, decode, List.append_assoc, List.cons_append, Compact.norm,
          mapHdr_of_codes kt vt ck cv hk hv (TPairs.cons k v rest).length (Nat.succ_ne_zero _) hl,
          decodePairs_of_enc kt vt _ b hx (Nat.le_of_succ_le_succ hf) r]
    · cases h with
      | nil => rfl
      | bool _ id b rest hd bs hid hh hr =>
        have hf := (le_le_of_add_succ_le_succ hf).2
        simp only [decodeFields, List.append_assoc, fieldHdr_bool last b id hid hd hh, decodeFields_of_enc id rest bs hr hf r,
          Compact.normFields, Compact.norm]
      | cons _ id v rest c hd a bs hid hc hh hv hr =>
        obtain ⟨h1, h2⟩ := le_le_of_add_succ_le_succ hf
        simp only [decodeFields, List.append_assoc, fieldHdr_val last c v.ttype hc id hid hd hh, Compact.normFields,
          decode_of_enc v a hv h1, decodeFields_of_enc id rest bs hr h2]
    · cases h with
      | nil => rfl
      | cons _ v vs a b ht hv hr =>
        obtain ⟨h1, h2⟩ := le_le_of_add_succ_le_succ hf
        subst ht
        simp only [TVals.length, decodeVals, List.append_assoc, Compact.normVals, decode_of_enc v a hv h1,
          decodeVals_of_enc _ vs b hr h2]
    · cases h with
      | nil => rfl
      | cons _ _ k v rest a b c hk hv ek ev hr =>
        obtain ⟨h1, h2, h3⟩ := le_le_le_of_add_succ_le_succ hf
        subst hk hv
        simp only [TPairs.length, decodePairs, List.append_assoc, Compact.normPairs, decode_of_enc k a ek h1, decode_of_enc v b ev h2,
          decodePairs_of_enc _ _ rest c hr h3]

theorem decode_of_enc (v : TVal) (bs : Bytes) (h : Enc v bs) (f : Nat) (hf : v.size ≤ f) (r : Bytes) :
    decode f v.ttype (bs ++ r) = .ok (Compact.norm v, r) :=
  (decodeAll_of_enc f).1 v bs h hf r
theorem decodeFields_of_enc (last : Int) (fs : TFields) (bs : Bytes) (h : EncFields last fs bs) (f : Nat) (hf : fs.size ≤ f) (r : Bytes) :
    decodeFields f last (bs ++ r) = .ok (Compact.normFields fs, r) :=
  (decodeAll_of_enc f).2.1 last fs bs h hf r
theorem decodeVals_of_enc (et : TType) (xs : TVals) (bs : Bytes) (h : EncVals et xs bs) (f : Nat) (hf : xs.size ≤ f) (r : Bytes) :
    decodeVals f et xs.length (bs ++ r) = .ok (Compact.normVals xs, r) :=
  (decodeAll_of_enc f).2.2.1 et xs bs h hf r
theorem decodePairs_of_enc (kt vt : TType) (kvs : TPairs) (bs : Bytes) (h : EncPairs kt vt kvs bs) (f : Nat) (hf : kvs.size ≤ f) (r : Bytes) :
    decodePairs f kt vt kvs.length (bs ++ r) = .ok (Compact.normPairs kvs, r) :=
  (decodeAll_of_enc f).2.2.2 kt vt kvs bs h hf r

end Pilota.Thrift.SpecCmp
