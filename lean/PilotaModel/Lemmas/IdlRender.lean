import PilotaModel.Lemmas.IdlLex
/-
  C15: a rendered tail in front of the rest of the text is a blank, or `[blank] sep blank` (`Tail`); whatever a parser
  needs of a tail is proved by that two-way split.  The loops over rendered elements (`many0F_slots`, `manyTillF_slots`) are
  for element parsers that absorb all or part of the blank after their element.
-/
namespace Pilota.Idl

@[simp] theorem rLit_fst (t : List Char) (l : Layout) : (rLit t l).1 = t := rfl
@[simp] theorem rLit_snd (t : List Char) (l : Layout) : (rLit t l).2 = l := rfl
@[simp] theorem rSeq_fst (a b : R) (l : Layout) : (rSeq a b l).1 = (a l).1 ++ (b (a l).2).1 := rfl
@[simp] theorem rSeq_snd (a b : R) (l : Layout) : (rSeq a b l).2 = (b (a l).2).2 := rfl
@[simp] theorem rWith_fst (f : LChoice → R) (l : Layout) : (rWith f l).1 = (f l.pop.1 l.pop.2).1 := rfl
@[simp] theorem rWith_snd (f : LChoice → R) (l : Layout) : (rWith f l).2 = (f l.pop.1 l.pop.2).2 := rfl

theorem rB0_BT (l : Layout) : BT (rB0 l).1 := BT.of_blankText _
theorem rB1_BT (l : Layout) : BT (rB1 l).1 := (BT.of_blankText1 _).1
theorem rB1_ne (l : Layout) : (rB1 l).1 ≠ [] := (BT.of_blankText1 _).2
theorem rGap_BT (needed : Bool) (l : Layout) : BT (rGap needed l).1 := by
  unfold rGap; split; exact rB1_BT l; exact rB0_BT l
theorem rGap_ne {needed : Bool} (h : needed = true) (l : Layout) : (rGap needed l).1 ≠ [] := by
  unfold rGap; simp [h]; exact rB1_ne l

theorem identStart_NB {c : Char} (h : isIdentStart c = true) : notBlankStart c = true :=
  identChar_NB (isIdentStart_identChar h)

theorem ident_NB {i r : List Char} (h : identOk i = true) : NB (i ++ r) := by
  obtain ⟨c, cs, rfl, h1, _⟩ := identOk_cons h
  exact identStart_NB h1

abbrev NoSepStart (r : List Char) : Prop := hdP (fun c => !(c == ',' || c == ';')) r = true

theorem listSeparator_none {r : List Char} (h : NoSepStart r) : opt listSeparator r = .ok none r :=
  opt_of_err (First.err r (hdP_mono (fun c hc => by simpa using hc) h))

theorem listSeparator_ok {s : Char} (hs : s = ',' ∨ s = ';') {b r : List Char} (hb : BT b) (hr : NB r) :
    listSeparator (s :: (b ++ r)) = .ok s r := by
  have h1 : oneOf [',', ';'] (s :: (b ++ r)) = .ok s (b ++ r) := by
    rcases hs with h | h <;> subst h <;> simp [oneOf, satisfy]
  unfold listSeparator
  rw [andThen_of_ok h1, andThen_optBlank hb hr]; rfl

theorem listSeparator_some {s : Char} (hs : s = ',' ∨ s = ';') {b r : List Char} (hb : BT b) (hr : NB r) :
    opt listSeparator (s :: (b ++ r)) = .ok (some s) r := opt_of_ok (listSeparator_ok hs hb hr)

theorem listSep_NB {s : Char} (hs : s = ',' ∨ s = ';') (r : List Char) : NB (s :: r) := by
  rcases hs with h | h <;> subst h <;> (show notBlankStart _ = true) <;> decide

theorem blankStart_noSep (c : Char) (h : notBlankStart c = false) : (!(c == ',' || c == ';')) = true := by
  rcases blankStart_cases h with h | h | h | h | h | h <;> subst h <;> decide

/-- The text of a rendered tail in front of `rest`: a blank (not empty when `need`) and `rest`, or a blank, a
separator, a blank and `rest`.  After `rTailAdj` (`adj`) the blank before the separator is empty. -/
inductive Tail (need adj : Bool) (rest : List Char) : List Char → Prop
  | gap {g : List Char} : BT g → (need = true → g ≠ []) → Tail need adj rest (g ++ rest)
  | sep {b b' : List Char} {s : Char} : BT b → (adj = true → b = []) → (s = ',' ∨ s = ';') → BT b' →
      Tail need adj rest (b ++ s :: (b' ++ rest))

theorem sepChar_cases (n : Nat) : sepChar n = [] ∨ ∃ s, (s = ',' ∨ s = ';') ∧ sepChar n = [s] := by
  unfold sepChar; split; · exact .inr ⟨_, .inl rfl, rfl⟩
  split; · exact .inr ⟨_, .inr rfl, rfl⟩
  exact .inl rfl

theorem rTail_tail (endsOpen last : Bool) (l : Layout) (rest : List Char) :
    Tail (endsOpen && !last) false rest ((rTail endsOpen last l).1 ++ rest) := by
  simp only [rTail, rWith_fst]
  rcases sepChar_cases l.pop.1.sep with h | ⟨s, hs, h⟩
  · simp only [h, if_true]; exact .gap (rGap_BT _ _) fun hn => rGap_ne hn _
  · simp only [h, List.cons_ne_nil, if_false, rSeq_fst, rLit_fst, List.append_assoc, List.cons_append, List.nil_append]
    exact .sep (rB0_BT _) (fun h => by cases h) hs (rB0_BT _)

theorem rTailAdj_tail (endsOpen last : Bool) (l : Layout) (rest : List Char) :
    Tail (endsOpen && !last) true rest ((rTailAdj endsOpen last l).1 ++ rest) := by
  simp only [rTailAdj, rWith_fst]
  rcases sepChar_cases l.pop.1.sep with h | ⟨s, hs, h⟩
  · simp only [h, if_true]; exact .gap (rGap_BT _ _) fun hn => rGap_ne hn _
  · simp only [h, List.cons_ne_nil, if_false, rSeq_fst, rLit_fst, List.cons_append, List.nil_append]
    exact .sep (b := []) .nil (fun _ => rfl) hs (rB0_BT _)

/-- what an absent optional part between two optional blanks needs of the text (`Reads.optAbsent`) -/
def Ahead (E : List Char → Prop) (T : List Char) : Prop := ∃ B T0, T = B ++ T0 ∧ BT B ∧ NB T0 ∧ E T0

theorem Ahead.mono {E E' : List Char → Prop} {T : List Char} (h : Ahead E T) (hm : ∀ T, E T → E' T) : Ahead E' T := by
  obtain ⟨B, T0, e, hB, h0, hE⟩ := h; exact ⟨B, T0, e, hB, h0, hm _ hE⟩

namespace Tail
variable {need adj : Bool} {rest T : List Char}

theorem rt {α} {k : P α} (h : Tail need false rest T) (hR : NB rest) (hS : NoSepStart rest) :
    (andThen (opt blank) fun _ => andThen (opt listSeparator) fun _ => k) T = k rest := by
  cases h with
  | gap hg _ => rw [andThen_optBlank hg hR, andThen_of_ok (listSeparator_none hS)]
  | sep hb _ hs hb' => rw [andThen_optBlank hb (listSep_NB hs _), andThen_of_ok (listSeparator_some hs hb' hR)]

theorem rt_none {α β} {Q : P β} {k : Option β → P α} (h : Tail need false rest T) (hR : NB rest) (hS : NoSepStart rest)
    (hQ : Q rest = .err) (hQs : ∀ s y, s = ',' ∨ s = ';' → Q (s :: y) = .err) :
    (andThen (opt blank) fun _ => andThen (opt Q) fun q => andThen (opt listSeparator) fun _ => k q) T = k none rest := by
  cases h with
  | gap hg _ => rw [andThen_optBlank hg hR, andThen_of_ok (opt_of_err hQ), andThen_of_ok (listSeparator_none hS)]
  | sep hb _ hs hb' =>
    rw [andThen_optBlank hb (listSep_NB hs _), andThen_of_ok (opt_of_err (hQs _ _ hs)),
      andThen_of_ok (listSeparator_some hs hb' hR)]

/-- `opt(list_separator)` alone leaves the blank of a tail without separator to the enclosing loop -/
theorem rtAdj {α} {k : P α} (h : Tail need true rest T) (hR : NB rest) (hS : NoSepStart rest) :
    ∃ g, BT g ∧ g.length ≤ T.length - rest.length ∧ (andThen (opt listSeparator) fun _ => k) T = k (g ++ rest) := by
  cases h with
  | gap hg _ =>
    exact ⟨_, hg, by simp, by rw [andThen_of_ok (listSeparator_none (hg.hdP_append blankStart_noSep hS))]⟩
  | sep _ hb hs hb' =>
    rw [hb rfl]
    exact ⟨[], .nil, Nat.zero_le _, by rw [List.nil_append, andThen_of_ok (listSeparator_some hs hb' hR)]; rfl⟩

/-- what the token in front of the tail sees -/
theorem toSep (h : Tail need adj rest T) (hR : need = true ∨ Sep rest) : Sep T := by
  cases h with
  | gap hg hne => exact hg.sep_append (hR.imp_left hne)
  | sep hb _ hs _ => exact hb.sep_append (.inr (by rcases hs with h | h <;> subst h <;> rfl))

/-- what an absent optional part in front of the tail sees: after the tail's leading blank comes the separator or `rest` -/
theorem split {Q : List Char → Prop} (h : Tail need adj rest T) (hR : NB rest) (hQ : Q rest)
    (hs : ∀ s y, s = ',' ∨ s = ';' → Q (s :: y)) : Ahead Q T := by
  cases h with
  | gap hg _ => exact ⟨_, _, rfl, hg, hR, hQ⟩
  | sep hb _ hc _ => exact ⟨_, _, rfl, hb, listSep_NB hc _, hs _ _ hc⟩

end Tail

theorem foldl_max_le (xs : List Nat) (a : Nat) : a ≤ xs.foldl max a ∧ ∀ x ∈ xs, x ≤ xs.foldl max a := by
  induction xs generalizing a with
  | nil => simp
  | cons y ys ih =>
    simp only [List.foldl_cons, List.mem_cons]
    have := ih (max a y)
    refine ⟨Nat.le_trans (Nat.le_max_left a y) this.1, ?_⟩
    intro x hx
    rcases hx with rfl | hx
    · exact Nat.le_trans (Nat.le_max_right a x) this.1
    · exact this.2 x hx

@[simp] theorem rSlots_nil {α} (f : α → Bool → R) (l : Layout) : (rSlots f [] l).1 = [] := rfl
theorem rSlots_cons {α} (f : α → Bool → R) (x : α) (xs : List α) (l : Layout) :
    (rSlots f (x :: xs) l).1 = (f x xs.isEmpty l).1 ++ (rSlots f xs (f x xs.isEmpty l).2).1 := rfl

inductive All2 {α β} (Rel : α → β → Prop) : List α → List β → Prop
  | nil : All2 Rel [] []
  | cons {x y xs ys} : Rel x y → All2 Rel xs ys → All2 Rel (x :: xs) (y :: ys)

theorem All2.eq {α} : ∀ {xs ys : List α}, All2 Eq xs ys → xs = ys
  | _, _, .nil => rfl
  | _, _, .cons h t => by rw [h, All2.eq t]

/-- A `many0` loop over the rendering of a list.  Each element parser may leave part of the blank
that follows its element (`bl'`) to the next round, which accepts it as a leading blank (`bl`);
`L` says which left-overs can occur.  The last element is followed by the closing character, the
others by the next element (`Start`). -/
theorem many0F_slots {α β : Type} (p : P β) (f : α → Bool → R) (Rel : α → β → Prop) (okx : α → Prop)
    (L : List Char → Prop) (Start : List Char → Prop) (close : Char)
    (Hstep : ∀ x last l bl R, okx x → L bl → (last = true → ∃ R', R = close :: R') → (last = false → Start R) →
      ∃ y bl', Rel x y ∧ L bl' ∧ bl'.length < (bl ++ (f x last l).1).length ∧
        p (bl ++ ((f x last l).1 ++ R)) = .ok y (bl' ++ R))
    (Hstart : ∀ y last l R, okx y → Start ((f y last l).1 ++ R))
    (Hend : ∀ bl R, L bl → p (bl ++ close :: R) = .err) :
    ∀ (xs : List α) (l : Layout) (bl : List Char) (n : Nat) (R' : List Char), (∀ x ∈ xs, okx x) → L bl →
      (bl ++ ((rSlots f xs l).1 ++ close :: R')).length < n →
      ∃ ys bl', All2 Rel xs ys ∧ L bl' ∧
        many0F p n (bl ++ ((rSlots f xs l).1 ++ close :: R')) = .ok ys (bl' ++ close :: R') := by
  intro xs
  induction xs with
  | nil =>
    intro l bl n R' _ hL hn
    cases n with
    | zero => omega
    | succ n =>
      refine ⟨[], bl, All2.nil, hL, ?_⟩
      simp only [rSlots_nil, List.nil_append, many0F, Hend bl R' hL]
  | cons x xs ih =>
    intro l bl n R' hok hL hn
    cases n with
    | zero => omega
    | succ n =>
      have hx := hok x (by simp)
      have hxs : ∀ y ∈ xs, okx y := fun y hy => hok y (by simp [hy])
      have hR : (xs.isEmpty = true → ∃ R'', (rSlots f xs (f x xs.isEmpty l).2).1 ++ close :: R' = close :: R'') := by
        intro h; cases xs with
        | nil => exact ⟨R', rfl⟩
        | cons _ _ => simp at h
      have hS : (xs.isEmpty = false → Start ((rSlots f xs (f x xs.isEmpty l).2).1 ++ close :: R')) := by
        intro h; cases xs with
        | nil => simp at h
        | cons y ys =>
          rw [rSlots_cons, List.append_assoc]
          exact Hstart y _ _ _ (hxs y (by simp))
      obtain ⟨y, bl', hrel, hL', hlen, hp⟩ := Hstep x xs.isEmpty l bl _ hx hL hR hS
      have hn' : (bl' ++ ((rSlots f xs (f x xs.isEmpty l).2).1 ++ close :: R')).length < n := by
        simp only [rSlots_cons, List.length_append, List.length_cons] at hn hlen ⊢; omega
      obtain ⟨ys, bl'', hall, hL'', hm⟩ := ih (f x xs.isEmpty l).2 bl' n R' hxs hL' hn'
      refine ⟨y :: ys, bl'', All2.cons hrel hall, hL'', ?_⟩
      rw [rSlots_cons, List.append_assoc]
      simp only [many0F, hp]
      have hne : ¬ (bl' ++ ((rSlots f xs (f x xs.isEmpty l).2).1 ++ close :: R')).length =
          (bl ++ ((f x xs.isEmpty l).1 ++ ((rSlots f xs (f x xs.isEmpty l).2).1 ++ close :: R'))).length := by
        simp only [List.length_append, List.length_cons] at hlen ⊢; omega
      rw [if_neg hne, hm]; rfl

/-- `many_till(slot, eof)` over the rendering of a non-empty list whose slot parser absorbs every
blank around its element. -/
theorem manyTillF_slots {α : Type} (p : P α) (f : α → Bool → R) (okx : α → Prop) (Start : List Char → Prop)
    (Hstep : ∀ x last l bl R, okx x → BT bl → (last = true → R = []) → (last = false → Start R) →
      (f x last l).1 ≠ [] ∧ p (bl ++ ((f x last l).1 ++ R)) = .ok x R)
    (Hstart : ∀ y last l R, okx y → Start ((f y last l).1 ++ R)) :
    ∀ (xs : List α) (l : Layout) (bl : List Char) (n : Nat), xs ≠ [] → (∀ x ∈ xs, okx x) → BT bl →
      (bl ++ (rSlots f xs l).1).length < n →
      manyTillF p eof n (bl ++ (rSlots f xs l).1) = .ok (xs, ()) [] := by
  intro xs
  induction xs with
  | nil => intro _ _ _ h; exact absurd rfl h
  | cons x xs ih =>
    intro l bl n _ hok hbl hn
    cases n with
    | zero => omega
    | succ n =>
      have hx := hok x (by simp)
      have hxs : ∀ y ∈ xs, okx y := fun y hy => hok y (by simp [hy])
      have hR : xs.isEmpty = true → (rSlots f xs (f x xs.isEmpty l).2).1 = [] := by
        intro h; cases xs with
        | nil => rfl
        | cons _ _ => simp at h
      have hS : xs.isEmpty = false → Start (rSlots f xs (f x xs.isEmpty l).2).1 := by
        intro h; cases xs with
        | nil => simp at h
        | cons y ys =>
          rw [rSlots_cons]
          exact Hstart y _ _ _ (hxs y (by simp))
      obtain ⟨hne, hp⟩ := Hstep x xs.isEmpty l bl _ hx hbl hR hS
      rw [rSlots_cons]
      have heof : eof (bl ++ ((f x xs.isEmpty l).1 ++ (rSlots f xs (f x xs.isEmpty l).2).1)) = .err := by
        cases h : bl ++ ((f x xs.isEmpty l).1 ++ (rSlots f xs (f x xs.isEmpty l).2).1) with
        | nil => simp at h; exact absurd h.2.1 hne
        | cons _ _ => rfl
      simp only [manyTillF, heof, hp, PR.bind]
      have hlt : ¬ (rSlots f xs (f x xs.isEmpty l).2).1.length =
          (bl ++ ((f x xs.isEmpty l).1 ++ (rSlots f xs (f x xs.isEmpty l).2).1)).length := by
        have : 0 < (f x xs.isEmpty l).1.length := List.length_pos_iff.mpr hne
        simp only [List.length_append]; omega
      rw [if_neg hlt]
      cases xs with
      | nil =>
        cases n with
        | zero =>
          exfalso
          rw [rSlots_cons] at hn
          simp only [List.length_append, List.isEmpty_nil] at hn
          have : 0 < (f x true l).1.length := List.length_pos_iff.mpr hne
          omega
        | succ n => simp [manyTillF, eof, PR.map, PR.bind]
      | cons y ys =>
        have := ih (f x false l).2 [] n (by simp) hxs BT.nil (by
          simp only [rSlots_cons, List.length_append, List.nil_append] at hn ⊢
          have : 0 < (f x false l).1.length := List.length_pos_iff.mpr hne
          simp at hn ⊢; omega)
        simp only [List.nil_append] at this
        simp only [List.isEmpty_cons] at this ⊢
        rw [this]; rfl

end Pilota.Idl
