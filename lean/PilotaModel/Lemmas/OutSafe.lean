import PilotaModel.Base.Bytes
/-
  `Out.Safe` says what ONE run may be: every "on every input" fact.  `Out.Carries` sets one run against ANOTHER (of a
  different function or on a different input), where no panic or budget is in question; `Out.Ext` is `Carries` along a
  function.  `Out.Beside` is `Safe` of `x` and `Ext` to `y` together, for a primitive on an input and on that input with
  more behind: one traversal of it proves both.  The Thrift readers and skippers use it for primitives only (their
  recursions have a `Safe` theorem and a `Carries` theorem each); the protobuf side takes it through its recursions.
-/
namespace Pilota
namespace Out
variable {α : Type} {x : Out α} {N F : Prop} {P : α → Prop}

def Safe (x : Out α) (N F : Prop) (P : α → Prop) : Prop :=
  match x with
  | .ok a => P a
  | .err _ => True
  | .panic _ => N
  | .fuel => F

theorem Safe.ok {a} (hx : x.Safe N F P) (h : x = .ok a) : P a := by subst h; exact hx
theorem Safe.panic {s} (hx : x.Safe N F P) (h : x = .panic s) : N := by subst h; exact hx
theorem Safe.fuel (hx : x.Safe N F P) (h : x = .fuel) : F := by subst h; exact hx
theorem Safe.ne_panic (hx : x.Safe False F P) (s) : x ≠ .panic s := hx.panic
theorem Safe.ne_fuel (hx : x.Safe N False P) : x ≠ .fuel := hx.fuel
theorem Safe.not_panic (hx : x.Safe N F P) (hn : ¬N) (s) : x ≠ .panic s := fun h => hn (hx.panic h)
theorem Safe.not_fuel (hx : x.Safe N F P) (hf : ¬F) : x ≠ .fuel := fun h => hf (hx.fuel h)
theorem Safe.mono {N' F' : Prop} {P' : α → Prop} (hx : x.Safe N F P) (hn : N → N') (hf : F → F') (hp : ∀ a, P a → P' a) :
    x.Safe N' F' P' := by
  cases x with
  | ok a => exact hp a hx
  | err k => trivial
  | panic s => exact hn hx
  | fuel => exact hf hx
theorem Safe.of_panic {s} (h : N) : (Out.panic s : Out α).Safe N F P := h
theorem Safe.of_fuel (h : F) : (Out.fuel : Out α).Safe N F P := h

theorem Safe.total (hp : ∀ m, x ≠ .panic m) (hf : x ≠ .fuel) (hok : ∀ a, x = .ok a → P a) : x.Safe N F P := by
  cases x with
  | ok a => exact hok a rfl
  | err e => trivial
  | panic m => exact absurd rfl (hp m)
  | fuel => exact absurd rfl hf

theorem ok_or_err (hp : ∀ m, x ≠ .panic m) (hf : x ≠ .fuel) : (∃ a, x = .ok a) ∨ ∃ k, x = .err k := by
  cases x with
  | ok a => exact .inl ⟨a, rfl⟩
  | err k => exact .inr ⟨k, rfl⟩
  | panic m => exact absurd rfl (hp m)
  | fuel => exact absurd rfl hf

theorem Safe.triple (h : x.Safe False False P) : (∀ m, x ≠ .panic m) ∧ x ≠ .fuel ∧ ∀ a, x = .ok a → P a :=
  ⟨h.ne_panic, h.ne_fuel, fun _ => h.ok⟩

variable {α' β β' : Type}

section
variable {Q : β → Prop}

theorem Safe.bind {k : α → Out β} (hx : x.Safe N F P) (hk : ∀ a, x = .ok a → P a → (k a).Safe N F Q) :
    (x.bind k).Safe N F Q := by
  cases x with
  | ok a => exact hk a rfl hx
  | err e => trivial
  | panic m => exact hx
  | fuel => exact hx
end

theorem Safe.bind_of {N' F' : Prop} {Q : β → Prop} {k : α → Out β} (hx : x.Safe N' F' P) (hn : N' → N) (hf : F' → F)
    (hk : ∀ a, P a → (k a).Safe N F Q) : (x.bind k).Safe N F Q := by
  cases x with
  | ok a => exact hk a hx
  | err e => trivial
  | panic m => exact hn hx
  | fuel => exact hf hx

theorem ok_bind (a : α) (k : α → Out β) : (Out.ok a).bind k = k a := rfl

theorem bind_bind {γ : Type} (g : α → Out β) (k : β → Out γ) : (x.bind g).bind k = x.bind fun a => (g a).bind k := by
  cases x <;> rfl

theorem bind_eq_ok {k : α → Out β} {b : β} (h : x.bind k = .ok b) : ∃ a, x = .ok a ∧ k a = .ok b := by
  cases x with
  | ok a => exact ⟨a, rfl, h⟩
  | _ => cases h

def Carries (r : α → α' → Prop) (x : Out α) (y : Out α') : Prop := ∀ a, x = .ok a → ∃ a', y = .ok a' ∧ r a a'

def Ext (φ : α → α') (x : Out α) (y : Out α') : Prop := ∀ a, x = .ok a → y = .ok (φ a)

theorem Ext.ok (φ : α → α') (a : α) : Ext φ (.ok a) (.ok (φ a)) := fun _ h => by cases h; rfl

theorem Ext.refl (x : Out α) : Ext id x x := fun _ h => h

theorem Ext.bind {φ : α → α'} {ψ : β → β'} {x : Out α} {y : Out α'} {k : α → Out β} {k' : α' → Out β'}
    (hx : Ext φ x y) (hk : ∀ a, x = .ok a → Ext ψ (k a) (k' (φ a))) : Ext ψ (x.bind k) (y.bind k') := fun b e => by
  obtain ⟨a, ea, eb⟩ := bind_eq_ok e
  rw [hx a ea]
  exact hk a ea b eb

def Beside (N F : Prop) (P : α → Prop) (φ : α → α') (x : Out α) (y : Out α') : Prop :=
  x.Safe N F fun a => P a ∧ y = .ok (φ a)

theorem Beside.safe {φ : α → α'} {y : Out α'} (h : Beside N F P φ x y) : x.Safe N F P := h.mono id id fun _ ha => ha.1

theorem Beside.ext {φ : α → α'} {y : Out α'} (h : Beside N F P φ x y) {a : α} (e : x = .ok a) : y = .ok (φ a) := (Safe.ok h e).2

theorem Beside.imp {φ : α → α'} {y : Out α'} {Q : α → Prop} (h : Beside N F P φ x y) (hpq : ∀ a, P a → Q a) : Beside N F Q φ x y :=
  h.mono id id fun a ha => ⟨hpq a ha.1, ha.2⟩

/-- `q` behind the input that is left: the function (the `φ` of a `Beside`) and its graph (the relation of a `Carries`) -/
abbrev withTail {β : Type} (q : Bytes) (a : β × Bytes) : β × Bytes := (a.1, a.2 ++ q)

def more {β : Type} (q : Bytes) (a a' : β × Bytes) : Prop := a' = withTail q a

end Out

/-- One step through `match x with | .ok a => k a | .err e => .err e | .panic s => .panic s | .fuel => .fuel`
in a goal `(match x with ..).Safe N F P`, from `hx : x.Safe N' F' P'`: the goal becomes `(k a).Safe N F P`
with `P' a` in the context.  `N'` must imply `N`, and `F'` imply `F`: either `x` cannot take that branch at all,
or the two conditions are bounds that linear arithmetic relates, or nothing is claimed of the branch (`True`). -/
macro "safe_step " hx:term : tactic => `(tactic|
  (split
   rotate_left
   (· trivial)
   (· exact Out.Safe.of_panic (by have := Out.Safe.panic $hx ‹_›; first | contradiction | omega | trivial))
   (· exact Out.Safe.of_fuel (by have := Out.Safe.fuel $hx ‹_›; first | contradiction | omega | trivial))
   have := Out.Safe.ok $hx ‹_›
   dsimp -failIfUnchanged only at this))

/-- `safe_step` for two runs side by side: the goal is `Beside N F P φ (match x with ..) (match y with ..)` and
`hx : Beside N' F' P' ψ x y`; where `x` succeeds, `y` is rewritten to its success and both matches reduce. -/
macro "beside_step " hx:term : tactic => `(tactic|
  (split
   rotate_left
   (· trivial)
   (· exact Out.Safe.of_panic (by have := Out.Safe.panic $hx ‹_›; first | contradiction | omega | trivial))
   (· exact Out.Safe.of_fuel (by have := Out.Safe.fuel $hx ‹_›; first | contradiction | omega | trivial))
   have := Out.Safe.ok $hx ‹_›
   simp -zeta only [this.2]
   replace this := this.1
   dsimp -failIfUnchanged only at this))

/-- The branch returns: the goal is `(Out.ok a).Safe N F P`, and `P a` is linear arithmetic over the facts the steps
have left in the context, once the listed definitions are unfolded. -/
macro "safe_ok" : tactic => `(tactic| (dsimp only [Out.Safe]; omega))
@[inherit_doc Pilota.tacticSafe_ok]
macro "safe_ok " "[" ls:Lean.Parser.Tactic.simpLemma,* "]" : tactic => `(tactic| (dsimp only [Out.Safe, $ls,*]; omega))

/-- A call in tail position: closes `x.Safe N F P` from `hx : x.Safe N' F' P'`, the three implications by the
same means. -/
macro "safe_last " hx:term : tactic => `(tactic|
  exact Out.Safe.mono $hx (fun h => by first | contradiction | omega | trivial) (fun h => by first | contradiction | omega | trivial)
    (fun _ h => by omega))

/-- The step of `safe_step` in a hypothesis `h : (match x with ..) = .ok c`: only the `ok` branch is possible, and
`h` becomes `k a = .ok c` with `x = .ok a` in the context. -/
macro "ok_step " h:ident : tactic => `(tactic|
  (split at $h:ident
   rotate_left
   (· cases $h:ident)
   (· cases $h:ident)
   (· cases $h:ident)))

/-- `ok_step h with e`: after the step in `h`, the goal takes the same step: `e` turns the new fact
`x = .ok a` into the equation `x' = .ok a'` for the goal's scrutinee. -/
macro "ok_step " h:ident " with " e:term : tactic => `(tactic| (ok_step $h:ident; simp only [$e:term ‹_›]))
end Pilota
