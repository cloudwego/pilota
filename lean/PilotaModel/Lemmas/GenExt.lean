import PilotaModel.Lemmas.GenOut
import PilotaModel.Lemmas.SkipExt
/-
  A successful emitted decode does not look past what it consumes: appending bytes to the input leaves the
  decoded value alone and hands the appended bytes back — generically over the reader record (`Rd.Ext`), then for
  the checked binary / LE reader.
-/
namespace Pilota.TGen
open Pilota Pilota.Thrift Pilota.Out

/-- `X s q`: the reader state `s` with `q` appended to its input. -/
structure Rd.Ext {σ : Type} (R : Rd σ) (X : σ → Bytes → σ) : Prop where
  sb : ∀ s q, R.structBegin (X s q) = X (R.structBegin s) q
  se : ∀ s q s', R.structEnd s = .ok s' → R.structEnd (X s q) = .ok (X s' q)
  fb : ∀ s q a s', R.fieldBegin s = .ok (a, s') → R.fieldBegin (X s q) = .ok (a, X s' q)
  bool : ∀ s q a s', R.readBool s = .ok (a, s') → R.readBool (X s q) = .ok (a, X s' q)
  i8 : ∀ s q a s', R.readI8 s = .ok (a, s') → R.readI8 (X s q) = .ok (a, X s' q)
  i16 : ∀ s q a s', R.readI16 s = .ok (a, s') → R.readI16 (X s q) = .ok (a, X s' q)
  i32 : ∀ s q a s', R.readI32 s = .ok (a, s') → R.readI32 (X s q) = .ok (a, X s' q)
  i64 : ∀ s q a s', R.readI64 s = .ok (a, s') → R.readI64 (X s q) = .ok (a, X s' q)
  double : ∀ s q a s', R.readDouble s = .ok (a, s') → R.readDouble (X s q) = .ok (a, X s' q)
  bytes : ∀ s q a s', R.readBytes s = .ok (a, s') → R.readBytes (X s q) = .ok (a, X s' q)
  uuid : ∀ s q a s', R.readUuid s = .ok (a, s') → R.readUuid (X s q) = .ok (a, X s' q)
  lb : ∀ s q a s', R.listBegin s = .ok (a, s') → R.listBegin (X s q) = .ok (a, X s' q)
  mb : ∀ s q a s', R.mapBegin s = .ok (a, s') → R.mapBegin (X s q) = .ok (a, X s' q)
  skip : ∀ t s q s', R.skip t s = .ok s' → R.skip t (X s q) = .ok (X s' q)

section generic
variable {σ : Type} (R : Rd σ) (X : σ → Bytes → σ) (hX : R.Ext X) (d : Doc) (q : Bytes)

include hX in
theorem dec_ext : ∀ f,
    (∀ ty s v s', decTy R d f ty s = .ok (v, s') → decTy R d f ty (X s q) = .ok (v, X s' q)) ∧
    (∀ e n acc s xs s', decN R d f e n acc s = .ok (xs, s') → decN R d f e n acc (X s q) = .ok (xs, X s' q)) ∧
    (∀ kt vt n acc s xs s', decPairs R d f kt vt n acc s = .ok (xs, s') → decPairs R d f kt vt n acc (X s q) = .ok (xs, X s' q)) ∧
    (∀ fs slots s o s', decFields R d f fs slots s = .ok (o, s') → decFields R d f fs slots (X s q) = .ok (o, X s' q)) ∧
    (∀ vs ret s o s', decUnion R d f vs ret s = .ok (o, s') → decUnion R d f vs ret (X s q) = .ok (o, X s' q)) := by
  have E {α : Type} {p : σ → Out (α × σ)} (h : ∀ s a s', p s = .ok (a, s') → p (X s q) = .ok (a, X s' q)) (s : σ) :
      Ext (Prod.map id (X · q)) (p s) (p (X s q)) := fun a => h s a.1 a.2
  intro f
  induction f with
  | zero =>
    exact ⟨fun _ _ _ _ h => (by cases h), fun _ _ _ _ _ _ h => (by cases h), fun _ _ _ _ _ _ _ h => (by cases h),
      fun _ _ _ _ _ h => (by cases h), fun _ _ _ _ _ h => (by cases h)⟩
  | succ f ih =>
    have e1 ty := E (ih.1 ty)
    have e2 e n acc := E (ih.2.1 e n acc)
    have e3 kt vt n acc := E (ih.2.2.1 kt vt n acc)
    have e4 fs slots := E (ih.2.2.2.1 fs slots)
    have e5 vs ret := E (ih.2.2.2.2 vs ret)
    refine ⟨fun ty s v s' => ?_, fun e n acc s xs s' => ?_, fun kt vt n acc s xs s' => ?_, fun fs slots s o s' => ?_,
      fun vs ret s o s' => ?_⟩
    · suffices h : Ext (Prod.map id (X · q)) (decTy R d (f + 1) ty s) (decTy R d (f + 1) ty (X s q)) from h (v, s')
      cases ty with
      | bool => exact Ext.mapOut (E (hX.bool · q) s) fun _ => rfl
      | i8 => exact Ext.mapOut (E (hX.i8 · q) s) fun _ => rfl
      | i16 => exact Ext.mapOut (E (hX.i16 · q) s) fun _ => rfl
      | i32 => exact Ext.mapOut (E (hX.i32 · q) s) fun _ => rfl
      | i64 => exact Ext.mapOut (E (hX.i64 · q) s) fun _ => rfl
      | double => exact Ext.mapOut (E (hX.double · q) s) fun _ => rfl
      | string => exact Ext.mapOut (E (hX.bytes · q) s) fun _ => rfl
      | binary => exact Ext.mapOut (E (hX.bytes · q) s) fun _ => rfl
      | uuid => exact Ext.mapOut (E (hX.uuid · q) s) fun _ => rfl
      | list e =>
        rw [decTy_list, decTy_list]
        exact (E (hX.lb · q) s).bind fun x _ => (e2 _ _ _ x.2).bind fun y _ => .ok _ _
      | set e =>
        rw [decTy_set, decTy_set]
        exact (E (hX.lb · q) s).bind fun x _ => (e2 _ _ _ x.2).bind fun y _ => .ok _ _
      | map kt vt =>
        rw [decTy_map, decTy_map]
        exact (E (hX.mb · q) s).bind fun x _ => (e3 _ _ _ _ x.2).bind fun y _ => .ok _ _
      | void => exact fun _ h => by cases h
      | ref n =>
        cases hfind : d.find n with
        | none => dsimp only [decTy]; rw [hfind]; exact fun _ h => by cases h
        | some df =>
          cases df with
          | struct fs =>
            rw [decTy_struct R d f _ hfind, decTy_struct R d f _ hfind, hX.sb]
            exact (e4 _ _ _).bind fun x _ => (show Ext _ _ _ from hX.se x.2 q).bind fun s1 _ => (Ext.refl _).bind fun o _ => .ok _ _
          | union vs =>
            rw [decTy_union R d f _ hfind, decTy_union R d f _ hfind, hX.sb]
            exact (e5 _ _ _).bind fun x _ => (show Ext _ _ _ from hX.se x.2 q).bind fun s1 _ => Ext.mapOut (Ext.refl _) fun _ => rfl
          | enum => dsimp only [decTy]; rw [hfind]; exact Ext.mapOut (E (hX.i32 · q) s) fun _ => rfl
          | typedef t => dsimp only [decTy]; rw [hfind]; exact e1 t s
    · suffices h : Ext (Prod.map id (X · q)) (decN R d (f + 1) e n acc s) (decN R d (f + 1) e n acc (X s q)) from h (xs, s')
      cases n with
      | zero => exact .ok _ _
      | succ n => rw [decN_succ, decN_succ]; exact (e1 _ s).bind fun x _ => e2 _ _ _ x.2
    · suffices h : Ext (Prod.map id (X · q)) (decPairs R d (f + 1) kt vt n acc s) (decPairs R d (f + 1) kt vt n acc (X s q))
        from h (xs, s')
      cases n with
      | zero => exact .ok _ _
      | succ n => rw [decPairs_succ, decPairs_succ]; exact (e1 _ s).bind fun x _ => (e1 _ x.2).bind fun y _ => e3 _ _ _ _ y.2
    · suffices h : Ext (Prod.map id (X · q)) (decFields R d (f + 1) fs slots s) (decFields R d (f + 1) fs slots (X s q))
        from h (o, s')
      rw [decFields_succ, decFields_succ]
      refine (E (hX.fb · q) s).bind fun x _ => ?_
      dsimp only [Prod.map, id]
      split
      · exact .ok _ _
      · split
        · exact (e1 _ x.2).bind fun y _ => e4 _ _ y.2
        · exact (show Ext _ _ _ from hX.skip _ x.2 q).bind fun s1 _ => e4 _ _ s1
    · suffices h : Ext (Prod.map id (X · q)) (decUnion R d (f + 1) vs ret s) (decUnion R d (f + 1) vs ret (X s q))
        from h (o, s')
      rw [decUnion_succ, decUnion_succ]
      refine (E (hX.fb · q) s).bind fun x _ => ?_
      dsimp only [Prod.map, id]
      split
      · exact .ok _ _
      · split
        · split
          · exact fun _ h => by cases h
          · exact (e1 _ x.2).bind fun y _ => e5 _ _ y.2
        · exact (show Ext _ _ _ from hX.skip _ x.2 q).bind fun s1 _ => e5 _ _ s1

end generic

theorem binRd_ext (e : Endian) (dpt : Nat) : (binRd e (some dpt)).Ext (fun s q => s ++ q) where
  sb _ _ := rfl
  se s q s' h := by simp [binRd] at h ⊢; subst h; rfl
  fb s q a s' h := (Binary.readFieldBegin_reads q).ext h
  bool s q a s' h := (Ext.mapOut (fun _ => (Binary.readI_reads q).ext) fun _ => rfl :
    Ext (withTail q) ((binRd e (some dpt)).readBool s) ((binRd e (some dpt)).readBool (s ++ q))) _ h
  i8 s q a s' h := (Binary.readI_reads q).ext h
  i16 s q a s' h := (Binary.readI_reads q).ext h
  i32 s q a s' h := (Binary.readI_reads q).ext h
  i64 s q a s' h := (Binary.readI_reads q).ext h
  double s q a s' h := (Binary.readU_reads q).ext h
  bytes s q a s' h := (Binary.readBytes_reads q).ext h
  uuid s q a s' h := (Binary.takeN_reads q).ext h
  lb s q a s' h := (Binary.readListBegin_reads q).ext h
  mb s q a s' h := (Binary.readMapBegin_reads q).ext h
  skip t s q s' h := by
    simp only [binRd, mapOut_eq_ok] at h ⊢
    obtain ⟨⟨k, r⟩, hk, hr⟩ := h
    simp at hr; subst hr
    refine ⟨(k, r ++ q), ?_, rfl⟩
    unfold Skip.skip at hk ⊢
    exact Skip.skipVal_ext e q (by simp; omega) hk

end Pilota.TGen
