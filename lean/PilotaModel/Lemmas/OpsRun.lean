import PilotaModel.Lemmas.CompactRT
/-  What the writers produce for `ops v` is the direct encoding `enc v`; every op of a well-typed value is well-formed. -/
namespace Pilota.Thrift
open Pilota Pilota.Thrift

/-- the shape of `ops` of every composite value and of every field: an opening call, the children's ops, closing calls. -/
theorem wf_bracket {a : Op} {l r : List Op} (ha : a.wf = true) (hl : ∀ o ∈ l, o.wf = true) (hr : ∀ o ∈ r, o.wf = true) :
    ∀ o ∈ a :: (l ++ r), o.wf = true := by
  intro o ho
  rcases List.mem_cons.mp ho with rfl | ho
  · exact ha
  · exact (List.mem_append.mp ho).elim (hl o) (hr o)

mutual
theorem TVal.ops_wf (v : TVal) (hw : v.wt = true) : ∀ o ∈ v.ops, o.wf = true := by
  cases v with
  | struct fs => exact wf_bracket rfl (TFields.ops_wf fs hw) (by decide)
  | list et xs | set et xs =>
    simp only [TVal.wt_list, TVal.wt_set] at hw
    exact wf_bracket rfl (TVals.ops_wf xs et hw.2.2) (by decide)
  | map kt vt kvs => exact wf_bracket rfl (TPairs.ops_wf kvs kt vt (TVal.wt_map.mp hw).2.2.2) (by decide)
  | uuid bs => intro o ho; cases List.mem_singleton.mp ho; exact hw
  | _ => intro o ho; cases List.mem_singleton.mp ho; rfl
theorem TVals.ops_wf (xs : TVals) (et : TType) (hw : xs.wt et = true) : ∀ o ∈ xs.ops, o.wf = true := by
  cases xs with
  | nil => exact fun _ h => nomatch h
  | cons v vs =>
    obtain ⟨_, hv, hr⟩ := TVals.wt_cons.mp hw
    exact fun o ho => (List.mem_append.mp ho).elim (TVal.ops_wf v hv o) (TVals.ops_wf vs et hr o)
theorem TFields.ops_wf (fs : TFields) (hw : fs.wt = true) : ∀ o ∈ fs.ops, o.wf = true := by
  cases fs with
  | nil => exact fun _ h => nomatch h
  | cons id v r =>
    obtain ⟨_, hv, hr⟩ := TFields.wt_cons.mp hw
    exact wf_bracket rfl (TVal.ops_wf v hv) fun o ho => (List.mem_cons.mp ho).elim (fun e => e ▸ rfl) (TFields.ops_wf r hr o)
theorem TPairs.ops_wf (kvs : TPairs) (kt vt : TType) (hw : kvs.wt kt vt = true) : ∀ o ∈ kvs.ops, o.wf = true := by
  cases kvs with
  | nil => exact fun _ h => nomatch h
  | cons k v r =>
    obtain ⟨_, _, hk, hv, hr⟩ := TPairs.wt_cons.mp hw
    exact fun o ho => (List.mem_append.mp ho).elim
      (fun h => (List.mem_append.mp h).elim (TVal.ops_wf k hk o) (TVal.ops_wf v hv o)) (TPairs.ops_wf r kt vt hr o)
end

namespace Binary

theorem run_append (e : Endian) (a b : List Op) : run e (a ++ b) = run e a ++ run e b := by
  simp [run, List.flatMap_append]

theorem run_cons (e : Endian) (o : Op) (os : List Op) : run e (o :: os) = wOp e o ++ run e os := by
  simp [run]

mutual
theorem run_ops (e : Endian) (v : TVal) : run e v.ops = enc e v := by
  cases v with
  | struct fs => simp only [TVal.ops, enc]; rw [run_cons, ← run_fieldOps e fs, run_append]; rfl
  | list et xs | set et xs => simp only [TVal.ops, enc]; rw [run_cons, run_append, run_valsOps e xs]; exact congrArg _ (List.append_nil _)
  | map kt vt kvs => simp only [TVal.ops, enc]; rw [run_cons, run_append, run_pairsOps e kvs]; exact congrArg _ (List.append_nil _)
  | _ => exact List.append_nil _
theorem run_valsOps (e : Endian) (xs : TVals) : run e xs.ops = encVals e xs := by
  cases xs with
  | nil => rfl
  | cons v vs => rw [TVals.ops, encVals, run_append, run_ops e v, run_valsOps e vs]
theorem run_fieldOps (e : Endian) (fs : TFields) : run e fs.ops ++ [0] = encFields e fs := by
  cases fs with
  | nil => rfl
  | cons id v r =>
    rw [TFields.ops, encFields, run_cons, run_append, run_cons, run_ops e v, ← run_fieldOps e r, List.append_assoc,
      List.append_assoc]
    rfl
theorem run_pairsOps (e : Endian) (kvs : TPairs) : run e kvs.ops = encPairs e kvs := by
  cases kvs with
  | nil => rfl
  | cons k v r => rw [TPairs.ops, encPairs, run_append, run_append, run_ops e k, run_ops e v, run_pairsOps e r, List.append_assoc]
end

end Binary
end Pilota.Thrift

namespace Pilota.Thrift.Compact
open Pilota Pilota.Thrift

theorem run_single (s : CW) (o : Op) (s' : CW) (x : Bytes) (h : wStep s o = .ok (s', x)) : run s [o] = .ok (s', x) := by
  simp [run, h]

theorem run_cons_ok {s s' s'' : CW} {o : Op} {os : List Op} {x y : Bytes}
    (h1 : wStep s o = .ok (s', x)) (h2 : run s' os = .ok (s'', y)) : run s (o :: os) = .ok (s'', x ++ y) := by
  simp only [run, h1, h2]

theorem run_ok_append {s s' s'' : CW} {a b : List Op} {x y : Bytes} (h1 : run s a = .ok (s', x))
    (h2 : run s' b = .ok (s'', y)) : run s (a ++ b) = .ok (s'', x ++ y) := by
  induction a generalizing s x with
  | nil => cases h1; exact h2
  | cons o os ih =>
    unfold run at h1
    split at h1 <;> try cases h1
    rename_i hw
    split at h1 <;> cases h1
    rename_i hr
    rw [List.cons_append, List.append_assoc]
    exact run_cons_ok hw (ih hr)

theorem run_snoc_ok {s s' s'' : CW} {o : Op} {os : List Op} {x : Bytes}
    (h1 : run s os = .ok (s', x)) (h2 : wStep s' o = .ok (s'', [])) : run s (os ++ [o]) = .ok (s'', x) := by
  have := run_ok_append h1 (run_single _ _ _ _ h2)
  rwa [List.append_nil] at this

mutual
theorem run_ops (v : TVal) (hw : v.wt = true) (s : CW) (hp : s.pending = none) : run s v.ops = .ok (s, enc v) := by
  cases v with
  | bool b => simp only [TVal.ops, run, wStep, hp, enc, List.append_nil]
  | struct fs =>
    have h2 := run_fieldOps fs hw { s with stack := s.last :: s.stack, last := 0 } hp
    have h3 : wStep { s with stack := s.last :: s.stack, last := lastOf 0 fs } .structEnd = .ok (s, []) := by
      cases s; simp_all [wStep]
    simp only [TVal.ops, enc]
    rw [show fs.ops ++ [Op.fieldStop, .structEnd] = (fs.ops ++ [.fieldStop]) ++ [.structEnd] from
      (List.append_assoc fs.ops [.fieldStop] [.structEnd]).symm]
    exact run_cons_ok (s' := { s with stack := s.last :: s.stack, last := 0 }) (x := []) rfl (run_snoc_ok h2 h3)
  | list et xs | set et xs =>
    simp only [TVal.wt_list, TVal.wt_set] at hw
    obtain ⟨ct, c1⟩ := compactOf_value et hw.1
    simp only [TVal.ops, enc, c1, Option.getD_some]
    exact run_cons_ok (by simp only [wStep, c1]) (run_snoc_ok (run_valsOps xs et hw.2.2 s hp) rfl)
  | map kt vt kvs =>
    cases kvs with
    | nil => rfl
    | cons k0 v0 rest =>
      obtain ⟨hk, hv, _, hx⟩ := TVal.wt_map.mp hw
      obtain ⟨ck, k1⟩ := compactOf_value kt hk
      obtain ⟨cv, v1⟩ := compactOf_value vt hv
      have hn : (TPairs.cons k0 v0 rest).length ≠ 0 := Nat.succ_ne_zero _
      have h1 : wStep s (.mapBegin kt vt (TPairs.cons k0 v0 rest).length) =
          .ok (s, encVar ((TPairs.cons k0 v0 rest).length % 2 ^ 32) ++ [UInt8.ofNat (ck * 16 + cv)]) := by
        simp only [wStep, if_neg hn, k1, v1]
      have := run_cons_ok h1 (run_snoc_ok (o := .mapEnd) (run_pairsOps _ kt vt hx s hp) rfl)
      simp only [TVal.ops, enc, k1, v1, Option.getD_some, if_neg hn]
      rwa [List.append_assoc] at this
  | _ => simp only [TVal.ops, run, wStep, enc, List.append_nil]
theorem run_valsOps (xs : TVals) (et : TType) (hw : xs.wt et = true) (s : CW) (hp : s.pending = none) :
    run s xs.ops = .ok (s, encVals xs) := by
  cases xs with
  | nil => rfl
  | cons v vs =>
    obtain ⟨_, hv, hr⟩ := TVals.wt_cons.mp hw
    exact run_ok_append (run_ops v hv s hp) (run_valsOps vs et hr s hp)
theorem run_fieldOps (fs : TFields) (hw : fs.wt = true) (s : CW) (hp : s.pending = none) :
    run s (fs.ops ++ [Op.fieldStop]) = .ok ({ s with last := lastOf s.last fs }, encFields s.last fs) := by
  cases fs with
  | nil => cases s; simp_all [TFields.ops, run, wStep, encFields, lastOf]
  | cons id v r =>
    obtain ⟨_, hv, hr⟩ := TFields.wt_cons.mp hw
    have hrest : run { s with last := id } (r.ops ++ [.fieldStop]) = .ok ({ s with last := lastOf id r }, encFields id r) :=
      run_fieldOps r hr { s with last := id } hp
    have h3 : wStep { s with last := id } .fieldEnd = .ok ({ s with last := id }, []) := by simp only [wStep, hp]; rfl
    rw [TFields.ops, lastOf, List.cons_append, List.append_assoc, List.cons_append]
    by_cases hb : ∃ b, v = .bool b
    · -- a bool field: `fieldBegin` defers the header, the value writes it
      obtain ⟨b, rfl⟩ := hb
      have h1 : wStep s (.fieldBegin .bool id) = .ok ({ s with pending := some id }, []) := by simp only [wStep, hp]; rfl
      have h2 : wStep { s with pending := some id } (.bool b) = .ok ({ s with last := id }, fieldHeader s.last (boolByte b) id) := by
        cases s; simp_all [wStep]
      show run s _ = .ok (_, [] ++ (fieldHeader s.last (boolByte b) id ++ ([] ++ encFields id r)))
      exact run_cons_ok h1 (run_cons_ok h2 (run_cons_ok h3 hrest))
    · have hnb : v.ttype ≠ .bool := fun h => hb ((ttype_bool_iff v).mp h)
      obtain ⟨ct, c1⟩ := compactOf_value v.ttype (TVal.ttype_isValue v)
      have h1 : wStep s (.fieldBegin v.ttype id) = .ok ({ s with last := id }, fieldHeader s.last ct id) := by
        simp only [wStep, hnb, if_false, c1]
      rw [encFields_cons s.last id v r (fun b e => hb ⟨b, e⟩), c1, Option.getD_some]
      exact run_cons_ok h1 (run_ok_append (run_ops v hv { s with last := id } hp) (run_cons_ok h3 hrest))
theorem run_pairsOps (kvs : TPairs) (kt vt : TType) (hw : kvs.wt kt vt = true) (s : CW) (hp : s.pending = none) :
    run s kvs.ops = .ok (s, encPairs kvs) := by
  cases kvs with
  | nil => rfl
  | cons k v r =>
    obtain ⟨_, _, hk, hv, hr⟩ := TPairs.wt_cons.mp hw
    rw [TPairs.ops, encPairs, List.append_assoc]
    exact run_ok_append (run_ops k hk s hp)
      (run_ok_append (run_ops v hv s hp) (run_pairsOps r kt vt hr s hp))
end

end Pilota.Thrift.Compact
