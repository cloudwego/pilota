import PilotaModel.Lemmas.KeepRT
/-  C08 over typed values: what a reader that lacks struct fields (plain decoder) returns for a typed value of the writer's document,
    in closed form (`strip`), and that it is a typed value of the reader's document.  `strip` / `stripFields` are specification
    definitions (no Rust code is modelled here). -/
namespace Pilota.TGen
open Pilota Pilota.Thrift

/-- the fields of a typed wire struct that the reader keeps, values passed through `g`, in declaration order -/
def stripFields (g : STy → TVal → TVal) (keep : Field → Bool) : List Field → TFields → List (Int × TVal)
  | [], _ => []
  | _ :: _, .nil => []
  | fl :: fs, .cons id v r =>
    if fl.id == id then (if keep fl then (id, g fl.ty v) :: stripFields g keep fs r else stripFields g keep fs r)
    else stripFields g keep fs (.cons id v r)

section
variable (d : Doc)

/-- what a reader that lacks some struct fields (and uses the plain, non-retaining decoder) makes of a typed value: the value
without those fields, at every level; sets and maps rebuilt by insertion (elements that differ only in a removed field meet) -/
def strip (keep : String → Field → Bool) : Nat → STy → TVal → TVal
  | 0, _, w => w
  | f+1, .list e, .list t xs => .list t (mapV (strip keep f e) xs)
  | f+1, .set e, .set t xs => .set t (TVals.ofList ((mapV (strip keep f e) xs).toList.foldl setInsert []))
  | f+1, .map k v, .map kt vt kvs =>
    .map kt vt (TPairs.ofList ((mapP (strip keep f k) (strip keep f v) kvs).toList.foldl (fun a p => mapInsert a p.1 p.2) []))
  | f+1, .ref n, w => match d.find n with
    | some (.struct fs) => match w with
      | .struct wfs => .struct (TFields.ofList (stripFields (strip keep f) (keep n) fs wfs))
      | w => w
    | some (.union vs) => match w with
      | .struct (.cons id v .nil) => match vs.find? (fun x => x.1 == id && !(x.2 == .void)) with
        | some (_, ty) => .struct (.cons id (strip keep f ty v) .nil)
        | none => w
      | w => w
    | some (.typedef t) => strip keep f t w
    | _ => w
  | _+1, _, w => w
end

theorem mapV_toList (g : TVal → TVal) : ∀ (xs : TVals), (mapV g xs).toList = xs.toList.map g
  | .nil => rfl
  | .cons x xs => by simp [mapV, TVals.toList, mapV_toList g xs]
theorem mapP_toList (g h : TVal → TVal) : ∀ (xs : TPairs), (mapP g h xs).toList = xs.toList.map (fun p => (g p.1, h p.2))
  | .nil => rfl
  | .cons k v xs => by simp [mapP, TPairs.toList, mapP_toList g h xs]

theorem strip_base (d : Doc) (keep : String → Field → Bool) (f : Nat) {ty : STy} {w : TVal} (h : isBase ty w = true) :
    strip d keep f ty w = w := by
  cases f with
  | zero => rfl
  | succ f => unfold isBase at h; split at h <;> first | rfl | cases h

theorem stripFields_nil (g : STy → TVal → TVal) (keep : Field → Bool) : ∀ fs, stripFields g keep fs .nil = []
  | [] => rfl
  | _ :: _ => rfl

theorem stripFields_filterMap (g : STy → TVal → TVal) (keep : Field → Bool) {L : Field → Option (Int × TVal)}
    (hL : ∀ fl p, L fl = some p → p.1 = fl.id) : ∀ (fs : List Field), fs.Pairwise (fun a b => a.id ≠ b.id) →
    stripFields g keep fs (TFields.ofList (fs.filterMap L)) = (fs.filter keep).filterMap fun fl => (L fl).map fun p => (p.1, g fl.ty p.2)
  | [], _ => rfl
  | a :: fs, hpw => by
    have hp := List.pairwise_cons.mp hpw
    have ih := stripFields_filterMap g keep hL fs hp.2
    rw [List.filterMap_cons]
    cases he : L a with
    | none =>
      have hr : ((a :: fs).filter keep).filterMap (fun fl => (L fl).map fun p => (p.1, g fl.ty p.2)) =
          (fs.filter keep).filterMap fun fl => (L fl).map fun p => (p.1, g fl.ty p.2) := by
        rw [List.filter_cons]; split
        · rw [List.filterMap_cons, he]; rfl
        · rfl
      rw [hr, ← ih]
      cases hl : fs.filterMap L with
      | nil => rw [TFields.ofList, stripFields_nil, stripFields_nil]
      | cons q rest =>
        obtain ⟨x, hx, hxq⟩ := List.mem_filterMap.mp (hl ▸ List.mem_cons_self .. : q ∈ fs.filterMap L)
        obtain ⟨i, v⟩ := q
        have : (a.id == i) = false := beq_eq_false_iff_ne.mpr fun e => hp.1 x hx (by rw [e, ← hL x _ hxq])
        simp only [TFields.ofList, stripFields, this, Bool.false_eq_true, if_false]
    | some p =>
      obtain ⟨i, v⟩ := p
      cases hL _ _ he
      simp only [TFields.ofList, stripFields, beq_self_eq_true, if_true, List.filter_cons]
      split
      · rw [List.filterMap_cons, he, ih]; rfl
      · exact ih

theorem stripFields_eq (d : Doc) (P : STy → TVal → Bool) (g : STy → TVal → TVal) (keep : Field → Bool) (fs : List Field) (wfs : TFields)
    (hpw : fs.Pairwise (fun a b => a.id ≠ b.id)) (h : hasFields d P fs wfs = true) :
    stripFields g keep fs wfs = (fs.filter keep).filterMap fun fl => (slotGet wfs.toList fl.id).map fun v => (fl.id, g fl.ty v) := by
  have := stripFields_filterMap g keep (entryOf_id wfs.toList) fs hpw
  rw [← (hasFields_elim d P fs wfs hpw h).1, TFields.ofList_toList] at this
  rw [this]
  exact filterMap_congr fun fl _ => by rw [entryOf]; cases slotGet wfs.toList fl.id <;> rfl

theorem hasFields_finish_strip (d : Doc) (P : STy → TVal → Bool) (g : STy → TVal → TVal) (keep : Field → Bool) :
    ∀ (fs : List Field) (wfs : TFields) (slots : List (Int × TVal)),
    fs.Pairwise (fun a b => a.id ≠ b.id) → hasFields d P fs wfs = true →
    (∀ fl ∈ fs, keep fl = true → slotGet slots fl.id = (slotGet wfs.toList fl.id).map (g fl.ty)) →
    finish (fs.filter keep) slots = .ok (stripFields g keep fs wfs) := by
  intro fs wfs slots hpw h hs
  rw [stripFields_eq d P g keep fs wfs hpw h]
  exact finish_typed d P _ slots _ (fun fl => g fl.ty) (fun fl hfl => (hasFields_elim d P fs wfs hpw h).2 fl (List.mem_filter.mp hfl).1)
    fun fl hfl => hs fl (List.mem_filter.mp hfl).1 (List.mem_filter.mp hfl).2

theorem strip_ttype (d : Doc) (keep : String → Field → Bool) : ∀ (f : Nat) (ty : STy) (w : TVal), (strip d keep f ty w).ttype = w.ttype := by
  intro f
  induction f with
  | zero => intro ty w; rfl
  | succ f ih =>
    intro ty w
    cases ty with
    | list e => cases w <;> simp [strip, TVal.ttype]
    | set e => cases w <;> simp [strip, TVal.ttype]
    | map k v => cases w <;> simp [strip, TVal.ttype]
    | ref n =>
      simp only [strip]
      cases hn : d.find n with
      | none => rfl
      | some df =>
        cases df with
        | struct fs => cases w <;> simp [TVal.ttype]
        | union vs =>
          cases w <;> simp only [] <;> try rfl
          rename_i wfs
          cases wfs with
          | nil => rfl
          | cons id v r =>
            cases r with
            | cons => rfl
            | nil => simp only []; split <;> rfl
        | enum => rfl
        | typedef t => simp only []; exact ih t w
    | _ => cases w <;> rfl

theorem hasFields_strip (d d' : Doc) (P P' : STy → TVal → Bool) (g : STy → TVal → TVal) (keep : Field → Bool)
    (htt : ∀ t, d'.ttype t = d.ttype t) (hg : ∀ t x, (g t x).ttype = x.ttype) (hP : ∀ t x, P t x = true → P' t (g t x) = true) :
    ∀ (fs : List Field) (wfs : TFields), fs.Pairwise (fun a b => a.id ≠ b.id) → hasFields d P fs wfs = true →
      hasFields d' P' (fs.filter keep) (TFields.ofList (stripFields g keep fs wfs)) = true := by
  intro fs wfs hpw h
  rw [stripFields_eq d P g keep fs wfs hpw h]
  refine hasFields_filterMap d' P' (fun fl p e => by obtain ⟨v, _, rfl⟩ := Option.map_eq_some_iff.mp e; rfl) _ (hpw.filter _) fun fl hfl => ?_
  have := (hasFields_elim d P fs wfs hpw h).2 fl (List.mem_filter.mp hfl).1
  cases hv : slotGet wfs.toList fl.id with
  | none => rw [hv] at this; exact this
  | some v => rw [hv] at this; exact ⟨this.1, by rw [htt, hg]; exact this.2.1, hP _ _ this.2.2⟩

section
variable (dw : Doc) (keep : String → Field → Bool) (dpr : Option Nat)

theorem tolerant_strip_all (hd : dw.fieldsOk)
    (hv : ∀ n vs, dw.find n = some (.union vs) → ∀ x ∈ vs, keepVariant keep n x = true) :
    ∀ (f : Nat) (ty : STy) (w : TVal), hasTy dw f ty w = true → admitsB dpr w.need = true →
      Back (restrict dw keep) dpr ty (strip dw keep f ty w) w := by
  intro f
  induction f with
  | zero => intro ty w h; cases h
  | succ f ih =>
    refine hasTy_step dw (fun ty w hb _ => ⟨1, by rw [strip_base dw keep _ hb]; exact projTy_base _ dpr 0 hb⟩)
      (fun e xs hall ha => ?_) (fun e xs hall _ ha => ?_) (fun k v kvs hall _ ha => ?_)
      (fun n fs0 wfs hn h ha => ?_) (fun n vs id v pid ty hn hfind hin htt hty ha => ?_) (fun n i tl hn _ => ?_)
      (fun n x hn _ => ?_) (fun n t w hn h ha => ?_)
    · simp only [TVal.need] at ha
      have hA := All2.map_left (R := Back (restrict dw keep) dpr e) (strip dw keep f e) xs.toList
        (fun x hx => ih e x (hall x hx) (admitsB_mono dpr _ _ (by have := TVals.need_mem xs x hx; omega) ha))
      obtain ⟨G, hG⟩ := projN_back (restrict dw keep) dpr e hA
      refine ⟨G + 1, ?_⟩
      simp only [projTy, hG, strip, restrict_ttype]
      rw [← mapV_toList, TVals.ofList_toList]
    · simp only [TVal.need] at ha
      have hA := All2.map_left (R := Back (restrict dw keep) dpr e) (strip dw keep f e) xs.toList
        (fun x hx => ih e x (hall x hx) (admitsB_mono dpr _ _ (by have := TVals.need_mem xs x hx; omega) ha))
      obtain ⟨G, hG⟩ := projN_back (restrict dw keep) dpr e hA
      exact ⟨G + 1, by simp only [projTy, hG, strip, restrict_ttype, mapV_toList]⟩
    · simp only [TVal.need] at ha
      have hA := All2.map_left (R := fun x y => Back (restrict dw keep) dpr k x.1 y.1 ∧ Back (restrict dw keep) dpr v x.2 y.2)
        (fun p => (strip dw keep f k p.1, strip dw keep f v p.2)) kvs.toList (fun x hx =>
          ⟨ih k x.1 (hall x hx).1 (admitsB_mono dpr _ _ (by have := (TPairs.need_mem kvs x hx).1; omega) ha),
           ih v x.2 (hall x hx).2 (admitsB_mono dpr _ _ (by have := (TPairs.need_mem kvs x hx).2; omega) ha)⟩)
      obtain ⟨G, hG⟩ := projPairs_back (restrict dw keep) dpr k v hA
      exact ⟨G + 1, by simp only [projTy, hG, strip, restrict_ttype, mapP_toList]⟩
    · simp only [TVal.need] at ha
      have hpw := hd n fs0 hn
      have hmem := hasFields_mem dw (hasTy dw f) fs0 wfs hpw h
      have hnd := hasFields_nodup dw (hasTy dw f) fs0 wfs hpw h
      have hS := stripFields_eq dw (hasTy dw f) (strip dw keep f) (keep n) fs0 wfs hpw h
      -- what the reader returns is a typed struct of its own field list, and each wire field it knows stands for the stripped field
      have := struct_read (restrict dw keep) dpr (fun _ _ => true) n _ (restrict_find_struct dw keep hn) (hpw.filter _) _
        (hasFields_strip dw (restrict dw keep) (hasTy dw f) _ (strip dw keep f) (keep n) (restrict_ttype dw keep) (strip_ttype dw keep f)
          (fun _ _ _ => rfl) fs0 wfs hpw h) wfs.toList (fun p hp => ?_) (fun q hq => ?_)
      · simpa only [Back, strip, hn, TFields.ofList_toList] using this
      · obtain ⟨fl, hfl, hid, hin, htt, hty⟩ := hmem p hp
        have hneed : admitsB dpr p.2.need = true := admitsB_mono dpr _ _ (by have := TFields.need_mem wfs p hp; omega) ha
        by_cases hk : keep n fl = true
        · obtain ⟨G, hG⟩ := ih fl.ty p.2 hty hneed
          refine .inl ⟨strip dw keep f fl.ty p.2, ?_, (strip_ttype ..).symm, G, fun fl' hfl' hid' => ?_⟩
          · rw [TFields.toList_ofList, hS, ← hid]
            exact List.mem_filterMap.mpr ⟨fl, List.mem_filter.mpr ⟨hfl, hk⟩, by rw [hid, slotGet_of_mem _ hnd p hp]; rfl⟩
          · rw [same_key (·.id) fs0 hpw fl' fl (List.mem_filter.mp hfl').1 hfl (by rw [hid, hid'])]; exact hG
        · refine .inr ⟨hin, ?_, hneed⟩
          simp only [restrict_ttype]
          rw [find_filter_declared dw hpw hfl hid htt (keep n), if_neg hk]
      · rw [TFields.toList_ofList, hS] at hq
        obtain ⟨fl, _, he⟩ := List.mem_filterMap.mp hq
        obtain ⟨v, hv, rfl⟩ := Option.map_eq_some_iff.mp he
        exact ⟨(fl.id, v), slotGet_some_mem _ _ _ hv, rfl, (strip_ttype ..).symm⟩
    · have hnr := restrict_find_union_all dw keep hn (hv n vs hn)
      simp only [TVal.need, TFields.need] at ha
      obtain ⟨G, hG⟩ := ih ty v hty (admitsB_mono dpr _ _ (by omega) ha)
      refine ⟨G + 1 + 1 + 1, ?_⟩
      have hG' := projTy_mono _ dpr G (G + 1) (by omega) ty v _ hG
      simp only [projTy, hnr, projUnion, hin, not_true_eq_false, if_false, hfind, Option.isSome_none, Bool.false_eq_true,
        restrict_ttype, htt, bne_self_eq_false, hG', strip, hn]
    · have hnr := restrict_find_union_all dw keep hn (hv n _ hn)
      exact ⟨2, by simp [projTy, hnr, projUnion, strip, hn]⟩
    · have hnr := restrict_find_enum dw keep hn
      exact ⟨1, by simp [projTy, hnr, strip, hn]⟩
    · have hnr := restrict_find_typedef dw keep hn
      obtain ⟨G, hG⟩ := ih t w h ha
      exact ⟨G + 1, by simp [projTy, hnr, strip, hn, hG]⟩

end

section
variable (dw : Doc) (keep : String → Field → Bool)

theorem strip_typed_all (hd : dw.fieldsOk)
    (hv : ∀ n vs, dw.find n = some (.union vs) → ∀ x ∈ vs, keepVariant keep n x = true) :
    ∀ (f : Nat) (ty : STy) (w : TVal), hasTy dw f ty w = true → hasTy (restrict dw keep) f ty (strip dw keep f ty w) = true := by
  intro f
  induction f with
  | zero => intro ty w h; cases h
  | succ f ih =>
    refine hasTy_step dw (fun ty w hb => ?_) (fun e xs hall => ?_) (fun e xs hall _ => ?_) (fun k v kvs hall _ => ?_)
      (fun n fs0 wfs hn h => ?_) (fun n vs id v pid ty hn hfind hin htt hty => ?_) (fun n i tl hn => ?_) (fun n x hn => ?_)
      (fun n t w hn h => ?_)
    · rw [strip_base dw keep _ hb]; exact hasTy_base _ f hb
    · simp only [strip, hasTy, Bool.and_eq_true, beq_iff_eq, restrict_ttype]
      refine ⟨trivial, (allV_iff _ _).mpr ?_⟩
      rw [mapV_toList]
      intro y hy
      obtain ⟨x, hx, rfl⟩ := List.mem_map.mp hy
      exact ih e x (hall x hx)
    · simp only [strip, mapV_toList, ← restrict_ttype dw keep e]
      refine hasTy_set_fold _ f e _ fun y hy => ?_
      obtain ⟨x, hx, rfl⟩ := List.mem_map.mp hy
      exact ih e x (hall x hx)
    · simp only [strip, mapP_toList, ← restrict_ttype dw keep k, ← restrict_ttype dw keep v]
      refine hasTy_map_fold _ f k v _ fun p hp => ?_
      obtain ⟨x, hx, rfl⟩ := List.mem_map.mp hp
      exact ⟨ih k x.1 (hall x hx).1, ih v x.2 (hall x hx).2⟩
    · have hnr := restrict_find_struct dw keep hn
      simp only [strip, hn, hasTy, hnr]
      exact hasFields_strip dw (restrict dw keep) (hasTy dw f) (hasTy (restrict dw keep) f) (strip dw keep f) (keep n)
        (restrict_ttype dw keep) (strip_ttype dw keep f) (fun t x hx => ih t x hx) fs0 wfs (hd n fs0 hn) h
    · have hnr := restrict_find_union_all dw keep hn (hv n vs hn)
      simp only [strip, hn, hfind, hasTy, hnr, Bool.and_eq_true, decide_eq_true_eq, beq_iff_eq, restrict_ttype, strip_ttype]
      exact ⟨⟨hin, htt⟩, ih ty v hty⟩
    · have hnr := restrict_find_union_all dw keep hn (hv n _ hn)
      simp only [strip, hn, hasTy, hnr]
    · have hnr := restrict_find_enum dw keep hn
      simp [strip, hn, hasTy, hnr]
    · have hnr := restrict_find_typedef dw keep hn
      simp only [strip, hn, hasTy, hnr]
      exact ih t w h

end
end Pilota.TGen
