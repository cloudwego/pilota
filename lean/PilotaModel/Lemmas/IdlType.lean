import PilotaModel.Lemmas.IdlReads
namespace Pilota.Idl

theorem rLiteral_append (t : Literal) (l : Layout) (r : List Char) :
    (rLiteral t l).1 ++ r = quoteFor l.pop.1.flag t :: (t ++ quoteFor l.pop.1.flag t :: r) := by
  simp [rLiteral]

theorem rLiteral_rt {t : Literal} (h : literalOk t = true) (l : Layout) (r : List Char) :
    Literal.parse ((rLiteral t l).1 ++ r) = .ok t r := by
  rw [rLiteral_append]; exact literal_rt _ h

theorem rLiteral_starts {t : Literal} (h : literalOk t = true) : Starts (rLiteral t) NB := fun l =>
  ⟨by simp [rLiteral], fun r => by
    rw [rLiteral_append]
    rcases (quoteFor_spec l.pop.1.flag h).1 with e | e <;> rw [e] <;> (show notBlankStart _ = true) <;> decide⟩

/-- `tuple((opt(blank), tag("."), opt(blank)))` -/
def pathSep : P (Option Unit) := andThen (opt blank) fun _ => andThen (tag ['.']) fun _ => opt blank

/-- after the last segment the segment loop stops: no `.` after an optional blank -/
def PathStop (r : List Char) : Prop := ∀ n, sepLoopF pathSep Ident.parse (n + 1) r = .ok [] r

theorem pathStop_of {b r : List Char} (hb : BT b) (hr : NB r) (hd : hdP (fun c => c != '.') r = true) :
    PathStop (b ++ r) := by
  intro n
  have : pathSep (b ++ r) = .err := by
    unfold pathSep
    rw [andThen_optBlank hb hr, andThen_of_err (tag_hd hd)]
  simp [sepLoopF, this]

theorem pathSegs_noIdent (ss : List Ident) (l : Layout) {r : List Char} (hr : hdP (fun c => !isIdentChar c) r = true) :
    hdP (fun c => !isIdentChar c) ((rSlots (fun seg _ => rB0 +> rLit ['.'] +> rB0 +> rLit seg) ss l).1 ++ r) = true := by
  cases ss with
  | nil => simpa using hr
  | cons s2 ss2 =>
    rw [rSlots_cons]
    simp only [rSeq_fst, rLit_fst, List.append_assoc]
    exact (rB0_BT _).hdP_append blankStart_not_identChar rfl

theorem pathSegs_rt : ∀ (ss : List Ident) (l : Layout) (n : Nat) (r : List Char), (∀ s ∈ ss, identOk s = true) →
    hdP (fun c => !isIdentChar c) r = true → PathStop r →
    ((rSlots (fun seg _ => rB0 +> rLit ['.'] +> rB0 +> rLit seg) ss l).1 ++ r).length < n →
    sepLoopF pathSep Ident.parse n ((rSlots (fun seg _ => rB0 +> rLit ['.'] +> rB0 +> rLit seg) ss l).1 ++ r) = .ok ss r
  | [], l, n, r, _, _, hstop, hn => by
    cases n with
    | zero => omega
    | succ n => simpa using hstop n
  | s :: ss, l, n, r, hok, hr, hstop, hn => by
    rw [rSlots_cons] at hn
    simp only [rSeq_fst, rSeq_snd, rLit_fst, rLit_snd, List.append_assoc, List.length_append, List.length_cons] at hn
    cases n with
    | zero => omega
    | succ n =>
      have hs := hok s (by simp)
      have hss : ∀ x ∈ ss, identOk x = true := fun x hx => hok x (by simp [hx])
      rw [rSlots_cons]
      simp only [rSeq_fst, rSeq_snd, rLit_fst, rLit_snd, List.append_assoc]
      have hfollow := fun l' => pathSegs_noIdent ss l' hr
      have hsep : ∀ (b b' rest : List Char), BT b → BT b' → pathSep (b ++ (['.'] ++ (b' ++ (s ++ rest)))) =
          .ok (optUnit b') (s ++ rest) := by
        intro b b' rest hb hb'
        unfold pathSep
        rw [andThen_optBlank hb rfl, andThen_of_ok (tag_append ['.'] _)]
        exact optBlank_rt hb' (ident_NB hs)
      simp only [sepLoopF, hsep _ _ _ (rB0_BT _) (rB0_BT _)]
      rw [if_neg (by simp only [List.length_append, List.length_cons]; omega)]
      rw [ident_rt hs (hfollow _)]
      simp only
      rw [pathSegs_rt ss _ n r hss hr hstop (by
        simp only [List.length_append] at hn ⊢; omega)]
      rfl

theorem path_rt {p : Path} (hp : p.wf = true) (l : Layout) {r : List Char}
    (hr : hdP (fun c => !isIdentChar c) r = true) (hstop : PathStop r) :
    Path.parse ((rPath p l).1 ++ r) = .ok p r := by
  obtain ⟨segs⟩ := p
  simp only [Path.wf, Bool.and_eq_true, Bool.not_eq_true', List.all_eq_true] at hp
  cases segs with
  | nil => simp at hp
  | cons s ss =>
    have hs := hp.2 s (by simp)
    have hss : ∀ x ∈ ss, identOk x = true := fun x hx => hp.2 x (by simp [hx])
    simp only [rPath, rSeq_fst, rLit_fst, rLit_snd, List.append_assoc]
    have hfollow := pathSegs_noIdent ss l hr
    have h1 := ident_rt hs hfollow
    have h2 := pathSegs_rt ss l _ r hss hr hstop (Nat.lt_succ_self _)
    unfold Path.parse separatedList1 pmap
    have h2' : sepLoopF (andThen (opt blank) fun _ => andThen (tag ['.']) fun _ => opt blank) Ident.parse
        (((rSlots (fun seg _ => rB0 +> rLit ['.'] +> rB0 +> rLit seg) ss l).1 ++ r).length + 1)
        ((rSlots (fun seg _ => rB0 +> rLit ['.'] +> rB0 +> rLit seg) ss l).1 ++ r) = .ok ss r := h2
    simp only [h1, PR.bind, h2', PR.map]

theorem identStart_noSep {c : Char} (h : isIdentStart c = true) : (!(c == ',' || c == ';')) = true :=
  (identChar_props (isIdentStart_identChar h)).1

theorem annKey_starts {k : Str} (h : annKeyOk k = true) : Starts (rLit k) fun T => NB T ∧ NoSepStart T := by
  cases k with
  | nil => simp [annKeyOk] at h
  | cons c cs =>
    simp only [annKeyOk, Bool.and_eq_true] at h
    exact fun _ => ⟨List.cons_ne_nil _ _, fun _ => ⟨identStart_NB h.1, identStart_noSep h.1⟩⟩

namespace Reads
variable {β : Type} {r : R} {F : List Char → Prop} {Q : β → List Char → Prop}

theorem annKey {k : Str} (hk : annKeyOk k = true) {f : List Char → P β} (hs : Follows r F Sep) (hf : Reads (f k) r F Q) :
    Reads (andThen annKey f) (rLit k +> r) F Q :=
  seq (of_exact fun _ _ hy => annKey_rt hk (Sep.noAnn hy)) hs hf

theorem literal {t : Literal} (ht : literalOk t = true) {f : Literal → P β} (hf : Reads (f t) r F Q) :
    Reads (andThen Literal.parse f) (rLiteral t +> r) F Q :=
  seq (F' := fun _ => True) (of_exact fun l x _ => rLiteral_rt ht l x) (fun _ _ _ => trivial) hf

end Reads

theorem annotation_reads {a : Annotation} (hk : annKeyOk a.key = true) (hv : literalOk a.value = true) (last : Bool)
    {bl : R} [IsBlank bl] : Reads annotation (bl +> rAnnotation a last) (fun T => NB T ∧ NoSepStart T) (Exact a) := by
  unfold annotation rAnnotation
  exact .optBlank (.starts ((annKey_starts hk).mono fun _ h => h.1)) <| .annKey hk (.sep_lit rfl) <|
    .optBlank (.lit rfl) <| .lit <| .optBlank (.starts (rLiteral_starts hv)) <| .literal hv <|
    .tail (fun _ h => h) (.done ⟨rfl, rfl⟩)

theorem annotation_close_err {bl R : List Char} (hbl : BT bl) : annotation (bl ++ ')' :: R) = .err := by
  unfold annotation
  rw [andThen_optBlank hbl rfl]
  exact andThen_of_err (First.err_cons rfl _)

theorem annotation_loop {as : Annotations} (hw : Annotations.wf as = true) :
    Reads.Loop annotation rAnnotation Eq (· = []) (fun _ T => NB T ∧ NoSepStart T) ')' as := by
  simp only [Annotations.wf, List.all_eq_true, Bool.and_eq_true] at hw
  exact {
    step := fun a ha last _ hbl => by
      subst hbl; exact (annotation_reads (hw a ha).1 (hw a ha).2 last (bl := rLit [])).loopStep _ rfl
    start := fun a ha last => by unfold rAnnotation; exact (annKey_starts (hw a ha).1).seq
    atClose := fun _ => ⟨rfl, rfl⟩
    stop := fun _ _ hbl => by subst hbl; exact annotation_close_err .nil }

theorem annotations_reads {as : Annotations} (hw : Annotations.wf as = true) (hne : as ≠ []) :
    Reads Annotations.parse (rAnns as) (fun _ => True) (Exact as) := by
  obtain ⟨a, as, rfl⟩ := List.exists_cons_of_ne_nil hne
  simp only [Annotations.wf, List.all_cons, Bool.and_eq_true] at hw
  refine .seqNil ?_
  unfold Annotations.parse
  simp only [rAnns, List.isEmpty_cons, Bool.false_eq_true, if_false, rSeq_assoc]
  exact .lit <| .many1 ((annotation_reads hw.1.1 hw.1.2 _).loopStep (· = []) rfl) (annotation_loop hw.2)
    (fun _ _ _ h => by subst h; exact andThen_of_ok (tag1 ')' _)) fun ys h => by rw [← All2.eq h]; exact .done ⟨rfl, rfl⟩

theorem annotations_rt {as : Annotations} (hw : Annotations.wf as = true) (hne : as ≠ []) (l : Layout) (r : List Char) :
    Annotations.parse ((rAnns as l).1 ++ r) = .ok as r :=
  (annotations_reads hw hne).exact l trivial

theorem annotations_err {r : List Char} (h : hdP (fun c => c != '(') r = true) : Annotations.parse r = .err :=
  andThen_of_err (tag_hd h)

/-- `opt(permutation((opt(blank), Annotations::parse)))` finds no annotations -/
def AnnsStop (r : List Char) : Prop :=
  opt (pmap (fun x => x.2) (permutation2 (opt blank) Annotations.parse)) r = .ok none r

theorem annsStop_of {b r : List Char} (hb : BT b) (hr : NB r) (hd : hdP (fun c => c != '(') r = true) :
    AnnsStop (b ++ r) := by
  unfold AnnsStop
  apply opt_of_err
  apply pmap_of_err
  simp [permutation2, optBlank_rt hb hr, annotations_err hd, PR.map, PR.bind]

theorem isEmpty_false_of_ne {α} {as : List α} (h : as ≠ []) : as.isEmpty = false := by
  cases as; exact absurd rfl h; rfl

theorem rAnns_starts {as : Annotations} (h : as ≠ []) : Starts (rAnns as) NB := by
  rw [rAnns, if_neg (by simp [isEmpty_false_of_ne h])]; exact (Starts.lit (f := notBlankStart) rfl).seq

theorem Follows.optAnns {F G : List Char → Prop} {as : Annotations} {t : R} (hnil : as = [] → Follows t F G) (hcons : ∀ B y, BT B → G (B ++ '(' :: y)) : Follows (rOptAnns as +> t) F G :=
  fun l x hx => by
  by_cases has : as = []
  · subst has; exact hnil rfl l x hx
  · have he := isEmpty_false_of_ne has
    simp only [rOptAnns, rAnns, he, Bool.false_eq_true, if_false, rSeq_fst, rLit_fst, List.append_assoc, List.cons_append,
      List.nil_append]
    exact hcons _ _ (rB0_BT _)

theorem typeAnns_reads {as : Annotations} (hw : Annotations.wf as = true) (hne : as ≠ []) :
    Reads (opt (pmap (fun x => x.2) (permutation2 (opt blank) Annotations.parse))) (rOptAnns as) (fun _ => True) (Exact (some as)) :=
  .of_exact fun l r _ => by
    have he := isEmpty_false_of_ne hne
    simp only [rOptAnns, he, Bool.false_eq_true, if_false, rSeq_fst, List.append_assoc]
    apply opt_of_ok
    simp [pmap, permutation2, optBlank_rt (rB0_BT l) ((rAnns_starts hne _).2 r), annotations_rt hw hne, PR.map, PR.bind]

/-- `opt(preceded(blank, CppType::parse))` finds no `cpp_type` -/
def NoCpp (r : List Char) : Prop := opt (skip blank CppType.parse) r = .ok none r

theorem noCpp_of {b r : List Char} (hb : BT b) (hr : NB r) (h : CppType.parse r = .err) : NoCpp (b ++ r) := by
  unfold NoCpp
  apply opt_of_err
  by_cases hne : b = []
  · subst hne; exact skip_of_err (blank_err hr)
  · rw [skip_of_ok (blank_rt hb hne hr)]; exact h

theorem cppType_err_hd {r : List Char} (h : hdP (fun c => c != 'c') r = true) : CppType.parse r = .err :=
  andThen_of_err (tag_hd h)

theorem cppType_err_word {i r : List Char} (hi : identOk i = true) (hr : hdP (fun c => !isIdentChar c) r = true)
    (hne : i ≠ cs!"cpp_type") : CppType.parse (i ++ r) = .err :=
  wordArm_err (by decide) (identOk_all hi) hr hne fun c x hc => andThen_of_err (blank_err (identChar_NB hc : NB (c :: x)))

theorem Reads.cppOpt {β : Type} {r : R} {F : List Char → Prop} {Q : β → List Char → Prop} {c : Option CppType} (hc : cppOk c = true)
    {f : Option CppType → P β} (hr : c = none → Follows r F NoCpp) (hf : Reads (f c) r F Q) :
    Reads (andThen (opt (skip blank CppType.parse)) f) (rCppOpt c +> r) F Q := by
  cases c with
  | none => rw [rCppOpt, rLit_nil_seq]; exact .skipEmpty (hr rfl) hf
  | some lit =>
    rw [rCppOpt]
    refine .optSome (v := lit) (F' := fun _ => True) (.seqNil ?_) (fun _ _ _ => trivial) hf
    unfold skip CppType.parse
    simp only [rSeq_assoc]
    exact .blank1 (.lit rfl) <| .lit <| .blank1 (.starts (rLiteral_starts hc)) <| .literal hc <| .done ⟨rfl, rfl⟩

/-- everything a type needs of what follows it holds in front of `>`, a separator or `(`
(for the annotation list: not in front of `(`) -/
theorem follow_punct {b r : List Char} {c : Char} (hb : BT b) (hc : c ∈ ['>', ',', ';', '(']) :
    Sep (b ++ c :: r) ∧ PathStop (b ++ c :: r) ∧ NoCpp (b ++ c :: r) ∧ (c ≠ '(' → AnnsStop (b ++ c :: r)) := by
  obtain ⟨h1, h2, h4, h5⟩ := (by decide : ∀ c ∈ ['>', ',', ';', '('],
    isSepChar c = true ∧ notBlankStart c = true ∧ (c != '.') = true ∧ (c != 'c') = true) c hc
  exact ⟨hb.sep_append (Or.inr h1), pathStop_of hb h2 h4, noCpp_of hb h2 (cppType_err_hd h5),
    fun h3 => annsStop_of hb h2 (bne_iff_ne.mpr h3)⟩

end Pilota.Idl
