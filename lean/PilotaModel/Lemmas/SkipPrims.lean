import PilotaModel.Lemmas.SkipTotal
/-  The model's three primitive sets of the read-and-discard skippers (`compactPrims`, `asyncBinaryPrims`, `asyncCompactPrims`) are `Good`. -/
namespace Pilota.Thrift.Skip
open Pilota Pilota.Thrift

theorem rawListBegin_safe (bs) : (rawListBegin bs).Safe False False fun x => 5 + x.2.length = bs.length := by
  unfold rawListBegin
  safe_step Binary.readTType_reads []
  safe_step Binary.readI_reads []
  safe_ok
theorem rawListBegin_len {bs x r} (h : rawListBegin bs = .ok (x, r)) : 5 + r.length = bs.length := (rawListBegin_safe bs).ok h

theorem rawMapBegin_safe (bs) : (rawMapBegin bs).Safe False False fun x => 6 + x.2.length = bs.length := by
  unfold rawMapBegin
  safe_step Binary.readTType_reads []
  safe_step Binary.readTType_reads []
  safe_step Binary.readI_reads []
  safe_ok
theorem rawMapBegin_len {bs x r} (h : rawMapBegin bs = .ok (x, r)) : 6 + r.length = bs.length := (rawMapBegin_safe bs).ok h

theorem rawCollBegin_safe (bs) : (rawCollBegin bs).Safe False False fun x => 1 + x.2.length ≤ bs.length := by
  unfold rawCollBegin
  safe_step Compact.readByte_reads []
  split
  · trivial
  · split
    · safe_ok
    · safe_step readVarU_reads []
      safe_ok

theorem rawCMapBegin_safe (bs) : (rawCMapBegin bs).Safe False False fun x => 1 + x.2.length ≤ bs.length := by
  unfold rawCMapBegin
  safe_step readVarU_reads []
  split
  · safe_ok
  · safe_step Compact.readByte_reads []
    split
    · safe_ok
    · trivial

theorem asyncBinaryString_safe (bs) : (asyncBinaryString bs).Safe False False fun x => 4 + x.2.length ≤ bs.length := by
  unfold asyncBinaryString
  safe_step Binary.readI_reads []
  split
  · trivial
  · split
    · dsimp only [Out.Safe]; rw [List.length_drop]; omega
    · trivial

theorem asyncCompactString_eq (bs) : asyncCompactString bs = Compact.readBytes bs := by
  unfold asyncCompactString Compact.readBytes
  cases readVarU 4 bs with
  | ok p =>
    obtain ⟨n, r⟩ := p
    dsimp only
    split
    · exact (Binary.splitTo_of_le ‹_›).symm
    · rfl
  | _ => rfl
@[simp] theorem asyncCompactString_ne_panic (bs m) : asyncCompactString bs ≠ .panic m :=
  asyncCompactString_eq bs ▸ (Compact.readBytes_reads []).safe.ne_panic m
@[simp] theorem asyncCompactString_ne_fuel (bs) : asyncCompactString bs ≠ .fuel :=
  asyncCompactString_eq bs ▸ (Compact.readBytes_reads []).safe.ne_fuel

theorem compactLeaf_reads (t s) {bs} (q : Bytes) : Out.Beside False False (fun x =>
    3 * x.2.length + Compact.mu x.1 + 1 ≤ 3 * bs.length + Compact.mu s) (Out.withTail q) (compactLeaf t s bs) (compactLeaf t s (bs ++ q)) := by
  cases t <;> dsimp only [compactLeaf]
  case bool => beside_step Compact.readBool_reads q; exact ⟨‹_›, rfl⟩
  case i8 => unfold dropS; beside_step Binary.readI_reads q; exact ⟨by dsimp only; omega, rfl⟩
  case i16 | i32 | i64 => unfold dropS; beside_step readVarS_reads q; exact ⟨by dsimp only; omega, rfl⟩
  case double => unfold dropS; beside_step Binary.readU_reads q; exact ⟨by dsimp only; omega, rfl⟩
  case binary => unfold dropS; beside_step Compact.readBytes_reads q; exact ⟨by dsimp only; omega, rfl⟩
  case uuid => unfold dropS; beside_step Binary.takeN_reads q; exact ⟨by dsimp only; omega, rfl⟩
  all_goals trivial

theorem asyncCompactLeaf_eq : asyncCompactLeaf = compactLeaf := by
  funext t s bs
  cases t <;> simp [asyncCompactLeaf, compactLeaf, asyncCompactString_eq]

theorem asyncBinaryLeaf_safe (t s bs) : (asyncBinaryLeaf t s bs).Safe False False fun x => x.2.length + 1 ≤ bs.length := by
  cases t <;> dsimp only [asyncBinaryLeaf]
  case bool | i8 | i16 | i32 | i64 => unfold drop1; safe_step Binary.readI_reads []; safe_ok
  case double => unfold drop1; safe_step Binary.readU_reads []; safe_ok
  case binary => unfold drop1; safe_step asyncBinaryString_safe _; safe_ok
  case uuid => unfold drop1; safe_step Binary.takeN_reads []; safe_ok
  all_goals trivial

theorem compactPrims_good : compactPrims.Good Compact.mu where
  leaf t s bs := (compactLeaf_reads t s []).safe
  sb _ := rfl
  se := Compact.readStructEnd_safe
  fb s bs := (Compact.readFieldBegin_reads []).mono id id fun _ h => by omega
  lb bs := (Compact.readCollBegin_reads []).mono id id fun _ h => by omega
  mb bs := (Compact.readMapBegin_reads []).mono id id fun _ h => by omega

theorem asyncCompactPrims_good : asyncCompactPrims.Good Compact.mu where
  leaf := by rw [show asyncCompactPrims.leaf = compactLeaf from asyncCompactLeaf_eq]; exact fun t s bs => (compactLeaf_reads t s []).safe
  sb := compactPrims_good.sb
  se := compactPrims_good.se
  fb := compactPrims_good.fb
  lb bs := (rawCollBegin_safe bs).mono id id fun _ h => by omega
  mb bs := (rawCMapBegin_safe bs).mono id id fun _ h => by omega

theorem asyncBinaryPrims_good : asyncBinaryPrims.Good (fun _ => 0) where
  leaf t s bs := (asyncBinaryLeaf_safe t s bs).mono id id fun _ h => by omega
  sb _ := rfl
  se _ := rfl
  fb s bs := by
    dsimp only [asyncBinaryPrims]
    safe_step Binary.readFieldBegin_reads []
    safe_ok
  lb bs := (rawListBegin_safe bs).mono id id fun _ h => by omega
  mb bs := (rawMapBegin_safe bs).mono id id fun _ h => by omega

end Pilota.Thrift.Skip
