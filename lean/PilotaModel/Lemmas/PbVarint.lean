import PilotaModel.Lemmas.Varint
import PilotaModel.Lemmas.PbOut
import PilotaModel.Proto.Wire
/-
  prost's `decode_varint` (fast / slice / slow path) against the reference reading
  `decVarSpec`; round trip; `encoded_len_varint`; stability under appended input.
-/
namespace Pilota.Proto
open Pilota

/-- reference reading continued at byte `i` with `acc` the value of the first `i` bytes. -/
def specGo (i acc : Nat) (bs : Bytes) : Out (Nat × Bytes) :=
  match gatherVar (10 - i) bs with
  | .ok (g, r) => if acc + varValue g * 128 ^ i < 2 ^ 64 then .ok (acc + varValue g * 128 ^ i, r) else .err .invalid
  | .err _ => .err .invalid
  | .panic s => .panic s
  | .fuel => .fuel

theorem decVarSpec_eq (bs : Bytes) : decVarSpec bs = specGo 0 0 bs := by
  unfold decVarSpec specGo
  cases gatherVar 10 bs with
  | ok p => simp
  | _ => rfl

theorem specGo_good (i acc : Nat) (bs : Bytes) : Out.good (fun p => ∃ g, bs = g ++ p.2 ∧ 0 < g.length) (specGo i acc bs) := by
  unfold specGo
  refine Out.good.cases (gatherVar_reads (m := 10 - i) (bs := bs) []).safe ?_ fun _ => trivial
  intro ⟨g, r⟩ h
  simp only
  split
  · exact ⟨g, h.2, h.1⟩
  · trivial

theorem acc_step (i acc b : Nat) (hacc : acc < 128 ^ i) : acc + b % 128 * 128 ^ i < 128 ^ (i + 1) := by
  have : b % 128 * 128 ^ i ≤ 127 * 128 ^ i := Nat.mul_le_mul_right _ (by omega)
  rw [Nat.pow_succ]; omega

/-- the overflow test of both paths (`count == 9 && byte >= 2`) is "the value does not fit 64 bits". -/
theorem last_check (i acc b : Nat) (hi : i ≤ 9) (hacc : acc < 128 ^ i) (hb : b < 128) :
    (i = 9 ∧ b ≥ 2) ↔ ¬ (acc + b * 128 ^ i < 2 ^ 64) := by
  have e9 : (128 : Nat) ^ 9 = 2 ^ 63 := by decide
  have h64 : (2 : Nat) ^ 64 = 2 * 2 ^ 63 := by decide
  by_cases h9 : i = 9
  · subst h9; rw [e9] at hacc ⊢; omega
  · have h1 := acc_step i acc b hacc
    have h2 : (128 : Nat) ^ (i + 1) ≤ 128 ^ 9 := Nat.pow_le_pow_right (by decide) (by omega)
    rw [Nat.mod_eq_of_lt hb] at h1
    omega

theorem specGo_cons (i acc : Nat) (hi : i ≤ 9) (b : UInt8) (bs : Bytes) :
    specGo i acc (b :: bs) =
      if b.toNat < 128 then (if acc + b.toNat * 128 ^ i < 2 ^ 64 then .ok (acc + b.toNat * 128 ^ i, bs) else .err .invalid)
      else if i = 9 then .err .invalid else specGo (i + 1) (acc + b.toNat % 128 * 128 ^ i) bs := by
  obtain ⟨m, hm⟩ : ∃ m, 10 - i = m + 1 := ⟨9 - i, by omega⟩
  unfold specGo
  rw [hm, gatherVar]
  by_cases hb : b.toNat < 128
  · simp only [hb, if_true, varValue, Nat.mod_eq_of_lt hb, Nat.mul_zero, Nat.add_zero]
  · simp only [hb, if_false]
    by_cases h9 : i = 9
    · have : m = 0 := by omega
      subst this
      simp only [h9, if_true]
      cases bs <;> rfl
    · simp only [h9, if_false]
      rw [show 10 - (i + 1) = m by omega]
      cases gatherVar m bs with
      | ok p =>
        have : acc + (b.toNat % 128 + 128 * varValue p.1) * 128 ^ i = acc + b.toNat % 128 * 128 ^ i + varValue p.1 * 128 ^ (i + 1) := by
          rw [Nat.pow_succ, Nat.add_mul, Nat.add_assoc, Nat.mul_comm 128, Nat.mul_assoc, Nat.mul_comm 128]
        simp only [varValue, this]
      | _ => rfl

theorem specGo_nil (i acc : Nat) : specGo i acc [] = .err .invalid := by
  unfold specGo; cases 10 - i <;> rfl

theorem specGo_done (i acc : Nat) (hi : 10 ≤ i) (bs : Bytes) : specGo i acc bs = .err .invalid := by
  unfold specGo; rw [Nat.sub_eq_zero_of_le hi]; cases bs <;> rfl

theorem slowGo_spec (left : Nat) : ∀ (i acc : Nat) (bs : Bytes), acc < 128 ^ i → left = min (10 - i) bs.length →
    slowGo i acc left bs = specGo i acc bs := by
  induction left with
  | zero =>
    intro i acc bs _ h
    cases bs with
    | nil => rw [specGo_nil]; rfl
    | cons b bs => rw [specGo_done i acc (by simp at h; omega)]; rfl
  | succ left ih =>
    intro i acc bs hacc h
    cases bs with
    | nil => simp at h
    | cons b bs =>
      have hi : i ≤ 9 := by omega
      rw [specGo_cons i acc hi, slowGo]
      split
      · rename_i hb
        have hl := last_check i acc b.toNat hi hacc hb
        rw [Nat.mod_eq_of_lt hb]
        by_cases hc : i = 9 ∧ b.toNat ≥ 2
        · rw [if_pos hc, if_neg (hl.mp hc)]
        · rw [if_neg hc, if_pos (Decidable.not_not.mp (mt hl.mpr hc))]
      · rw [ih (i + 1) _ bs (acc_step i acc b.toNat hacc) (by simp at h; omega)]
        split
        · rename_i h9; exact specGo_done _ _ (by omega) bs
        · rfl

/-- precondition of the slice path at byte `i`: it cannot run off the slice. -/
def sliceOk (i : Nat) (bs : Bytes) : Prop := i + bs.length > 10 ∨ lastLt128 bs = true

theorem sliceOk_cons (i : Nat) (b : UInt8) (bs : Bytes) (hb : ¬ b.toNat < 128) (h : sliceOk i (b :: bs)) : sliceOk (i + 1) bs := by
  rcases h with h | h
  · left; simp at h; omega
  · right
    cases bs with
    | nil => simp [lastLt128, hb] at h
    | cons c cs => simpa [lastLt128, List.getLast?_cons_cons] using h

theorem sliceGo_spec (bs : Bytes) : ∀ (i acc : Nat), acc < 128 ^ i → i ≤ 9 → sliceOk i bs →
    sliceGo i acc bs = Out.mapOk (fun p => (p.1, i + (bs.length - p.2.length))) (specGo i acc bs) := by
  induction bs with
  | nil =>
    intro i acc _ hi h
    rcases h with h | h
    · simp at h; omega
    · cases h
  | cons b bs ih =>
    intro i acc hacc hi hok
    rw [specGo_cons i acc hi, sliceGo]
    by_cases hb : b.toNat < 128
    · have hl := last_check i acc b.toNat hi hacc hb
      by_cases h9 : i = 9
      · subst h9
        by_cases h2 : b.toNat < 2
        · simp [hb, h2, Decidable.not_not.mp (mt hl.mpr (by omega)), Out.mapOk]
        · simp [hb, h2, hl.mp ⟨rfl, by omega⟩, Out.mapOk]
      · simp [hb, h9, Decidable.not_not.mp (mt hl.mpr (by omega)), Out.mapOk]
    · have hsub : b.toNat - 128 = b.toNat % 128 := by have := b.toNat_lt; omega
      by_cases h9 : i = 9
      · simp [hb, h9, show ¬ b.toNat < 2 by omega, Out.mapOk]
      · simp only [hb, h9, if_false, hsub]
        rw [ih (i + 1) _ (acc_step i acc b.toNat hacc) (by omega) (sliceOk_cons i b bs hb hok)]
        refine (specGo_good (i + 1) (acc + b.toNat % 128 * 128 ^ i) bs).cases ?_ fun _ => rfl
        intro ⟨v, r⟩ ⟨g, hg, _⟩
        have : r.length ≤ bs.length := by rw [hg]; simp
        simp only [Out.mapOk, List.length_cons]
        rw [show i + 1 + (bs.length - r.length) = i + (bs.length + 1 - r.length) by omega]

theorem varintSlow_spec (bs : Bytes) : varintSlow bs = decVarSpec bs := by
  rw [decVarSpec_eq]
  exact slowGo_spec _ 0 0 bs (by simp) rfl

theorem varintViaSlice_spec (bs : Bytes) (hpre : slicePre bs = true) : varintViaSlice bs = decVarSpec bs := by
  rw [decVarSpec_eq]
  simp only [slicePre, Bool.and_eq_true, Bool.not_eq_true', Bool.or_eq_true, decide_eq_true_eq] at hpre
  have hvs : varintSlice bs = sliceGo 0 0 bs := by
    have : (decide (bs.length > 10) || lastLt128 bs) = true := by simpa using hpre.2
    simp [varintSlice, hpre.1, this]
  rw [varintViaSlice, hvs, sliceGo_spec bs 0 0 (by simp) (by omega) (hpre.2.imp (by omega) id)]
  refine (specGo_good 0 0 bs).cases ?_ fun _ => rfl
  intro ⟨v, r⟩ ⟨g, hg, _⟩
  subst hg
  simp [Out.mapOk]

theorem decodeVarint_eq_spec (bs : Bytes) : decodeVarint bs = decVarSpec bs := by
  cases bs with
  | nil => rfl
  | cons b rest =>
    rw [decodeVarint]
    by_cases hb : b.toNat < 128
    · have : 0 + b.toNat * 128 ^ 0 < 2 ^ 64 := by have := b.toNat_lt; omega
      rw [if_pos hb, decVarSpec_eq, specGo_cons 0 0 (by omega), if_pos hb, if_pos this]
      simp
    · rw [if_neg hb]
      split
      · rename_i hpre
        exact varintViaSlice_spec _ (by simpa [slicePre] using hpre)
      · exact varintSlow_spec _

theorem decodeVarint_encode (n : Nat) (h : n < 2 ^ 64) (r : Bytes) :
    decodeVarint (encodeVarint n ++ r) = .ok (n, r) := by
  rw [decodeVarint_eq_spec]
  unfold decVarSpec encodeVarint
  have hl : varLen n ≤ 10 := varLen_le 10 n (by decide) (Nat.lt_trans h (by decide))
  simp only [gatherVar_encVar 10 n r hl, varValue_encVar, h, if_true]

theorem decodeVarint_reader (x : Bytes) : Reader x decodeVarint := by
  intro bs
  simp only [decodeVarint_eq_spec, decVarSpec]
  beside_step gatherVar_reads x
  rename_i h
  split
  · exact ⟨by simp only [h.2, List.length_append]; omega, rfl⟩
  · trivial

/-- `varLen n` is the number of base-128 digits of `n`. -/
theorem varLen_bounds (n : Nat) : n < 128 ^ varLen n ∧ (n ≠ 0 → 128 ^ (varLen n - 1) ≤ n) := by
  induction n using Nat.strongRecOn with
  | _ n ih =>
    rw [varLen]
    split
    · exact ⟨by omega, fun h => by simp; omega⟩
    · have ⟨h1, h2⟩ := ih (n / 128) (by omega)
      have h2 := h2 (by omega)
      rw [Nat.add_comm 1, Nat.pow_succ, Nat.add_sub_cancel]
      have := varLen_pos (n / 128)
      constructor
      · omega
      · intro _
        rw [show varLen (n / 128) = varLen (n / 128) - 1 + 1 by omega, Nat.pow_succ]
        omega

theorem encodedLenVarint_eq (n : Nat) (h : n < 2 ^ 64) : encodedLenVarint n = varLen n := by
  unfold encodedLenVarint
  have hpos := varLen_pos n
  have ⟨h1, h2⟩ := varLen_bounds n
  have e : ∀ k, (128 : Nat) ^ k = 2 ^ (7 * k) := fun k => by rw [Nat.pow_mul]
  have hne : n ||| 1 ≠ 0 := fun h0 => by have := @Nat.right_le_or n 1; omega
  -- `n ||| 1` has as many binary digits as `n` (as `1` when `n = 0`), fewer than 65, and `varLen n` groups them by 7
  have hu : Nat.log2 (n ||| 1) < 7 * varLen n := (Nat.log2_lt hne).mpr (Nat.or_lt_two_pow (e _ ▸ h1) (Nat.one_lt_two_pow (by omega)))
  have h64 : Nat.log2 (n ||| 1) < 64 := (Nat.log2_lt hne).mpr (Nat.or_lt_two_pow h (by decide))
  have hl : 7 * (varLen n - 1) ≤ Nat.log2 (n ||| 1) := by
    by_cases hn : n = 0
    · subst hn; simp [varLen]
    · exact Nat.le_of_not_lt fun hlt => by
        have := (Nat.log2_lt hne).mp hlt
        have := e _ ▸ h2 hn
        have := @Nat.left_le_or n 1
        omega
  -- with `L = log2 (n ||| 1)` and `k = varLen n`: `7 (k - 1) ≤ L < 7 k` and `L < 64` force `(9 L + 73) / 64 = k`
  omega

end Pilota.Proto
