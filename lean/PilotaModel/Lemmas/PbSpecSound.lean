import PilotaModel.Proto.SpecExec
/-
  The executable checker is sound: `Spec.check ps i m bs = true → Spec.Enc ps i m bs`.
  The strict parsers give back the bytes they consumed (`parseRecsC_sound`); the checker's
  conditions are those of the relation, clause by clause.
-/
namespace Pilota.Proto.Spec
open Pilota Pilota.Proto

theorem readVar_lt (k sh acc : Nat) (bs : Bytes) (v : Nat) (r : Bytes) : readVar k sh acc bs = some (v, r) → v < 2 ^ 64 := by
  fun_induction readVar k sh acc bs <;> intro h
  -- branches of `readVar` in source order: 3 is the last byte with a value that fits, 5 a continuation byte;
  -- every other one returns `none`
  case case3 => exact (Prod.mk.inj (Option.some.inj h)).1 ▸ ‹_›
  case case5 ih => exact ih h
  all_goals cases h

theorem readCanon_sound {bs : Bytes} {n : Nat} {r : Bytes} : readCanon bs = some (n, r) → bs = base128 n ++ r ∧ n < 2 ^ 64 := by
  fun_cases readCanon bs <;> intro h
  case case1 hv he => cases h; exact ⟨he, readVar_lt 10 0 0 bs _ _ hv⟩
  all_goals cases h

theorem takeExact_sound {n : Nat} {bs p r : Bytes} : takeExact n bs = some (p, r) → bs = p ++ r ∧ p.length = n := by
  fun_cases takeExact n bs <;> intro h
  · cases h; exact ⟨(List.take_append_drop n bs).symm, List.length_take_of_le ‹_›⟩
  · cases h

theorem unLenC_sound {p body : Bytes} : unLenC p = some body → p = lenDelim body ∧ body.length < 2 ^ 64 := by
  fun_cases unLenC p <;> intro h
  case case1 hc => cases h; exact readCanon_sound hc
  all_goals cases h

/-- a record is its key, `(field_number << 3) | wire_type`, followed by its payload. -/
theorem bytes_of_key {bs r p rest : Bytes} {key : Nat} {wt : WireType} (hb : bs = base128 key ++ r) (hr : r = p ++ rest)
    (hk : key % 8 = wt.code) : bs = (Rec.mk (key / 8) wt p).bytes ++ rest := by
  rw [hb, hr, Rec.bytes, ← hk, Nat.div_add_mod' key 8, List.append_assoc]

theorem parseRecC_sound {bs : Bytes} {rc : Rec} {rest : Bytes} : parseRecC bs = some (rc, rest) → bs = rc.bytes ++ rest := by
  fun_cases parseRecC bs <;> intro h
  -- branches of `parseRecC` in source order; four return a record (in the others `h : none = some _`):
  -- 3 VARINT and 8 LEN, where the parser itself compares the input with payload ++ rest, 6 I64 and 7 I32
  case case3 | case8 => cases h; exact bytes_of_key (readCanon_sound ‹_›).1 ‹_› ‹_›
  case case6 | case7 =>
    obtain ⟨⟨p, r'⟩, ht, hf⟩ := Option.map_eq_some_iff.mp h
    cases hf; exact bytes_of_key (readCanon_sound ‹_›).1 (takeExact_sound ht).1 ‹_›
  all_goals cases h

theorem parseRecsC_sound (f : Nat) (bs : Bytes) (rs : List Rec) : parseRecsC f bs = some rs → bs = flat rs := by
  fun_induction parseRecsC f bs generalizing rs <;> intro h
  · cases h
  · cases h; exact List.isEmpty_iff.mp ‹_›
  · rename_i rc rest hp ih
    obtain ⟨rs', hr, rfl⟩ := Option.map_eq_some_iff.mp h
    rw [parseRecC_sound hp, ih rs' hr]; rfl
  · cases h

theorem bodyC_sound {p body : Bytes} {rs : List Rec} (hu : unLenC p = some body) (hp : parseRecsC (body.length + 1) body = some rs) :
    p = lenDelim (flat rs) ∧ (flat rs).length < 2 ^ 64 :=
  parseRecsC_sound _ _ _ hp ▸ unLenC_sound hu

theorem eatRun_sound (pt : PType) (f : Nat) (b : Bytes) (vs rest : List SVal) : eatRun pt f b vs = some rest →
    ∃ chunk, vs = chunk ++ rest ∧ b = chunk.flatMap (encScalar pt) ∧ (b ≠ [] → chunk ≠ []) := by
  fun_induction eatRun pt f b vs <;> intro h
  · cases h
  · cases h; exact ⟨[], rfl, List.isEmpty_iff.mp ‹_›, fun hb => absurd (List.isEmpty_iff.mp ‹_›) hb⟩
  · rename_i v vs' e hp ih
    obtain ⟨chunk, h1, h2, _⟩ := ih h
    refine ⟨v :: chunk, congrArg (v :: ·) h1, ?_, nofun⟩
    rw [List.flatMap_cons, ← h2]
    exact (List.prefix_iff_eq_append.mp (List.isPrefixOf_iff_prefix.mp (Bool.and_eq_true_iff.mp hp).1)).symm
  · cases h
  · cases h

theorem checkPacked_sound (t : Nat) (ty : PFTy) (rs : List Rec) (vs : List SVal) : checkPacked t ty rs vs = true → EncPacked t ty rs vs := by
  fun_induction checkPacked t ty rs vs <;> intro h
  · exact List.isEmpty_iff.mp h
  · rename_i r rs vs ih
    obtain ⟨htag, h⟩ := Bool.and_eq_true_iff.mp h
    refine ⟨beq_iff_eq.mp htag, ?_⟩
    by_cases hw : (r.wt == wireOfTy ty && r.wt != .len) = true
    · rw [if_pos hw] at h
      split at h
      · obtain ⟨hpay, h⟩ := Bool.and_eq_true_iff.mp h
        exact .inl ⟨beq_iff_eq.mp (Bool.and_eq_true_iff.mp hw).1, _, _, rfl, of_decide_eq_true hpay, ih _ h⟩
      · cases h
    · rw [if_neg hw] at h
      by_cases hl : (r.wt == .len) = true
      · rw [if_pos hl] at h
        split at h
        · rename_i body hu
          obtain ⟨hpay, hlen⟩ := unLenC_sound hu
          by_cases hne : body.isEmpty = true
          · rw [if_pos hne] at h; cases h
          · rw [if_neg hne] at h
            split at h
            · rename_i rest he
              obtain ⟨chunk, h1, h2, h3⟩ := eatRun_sound _ _ _ _ _ he
              exact .inr ⟨beq_iff_eq.mp hl, chunk, rest, h1, h3 (fun e => hne (e ▸ rfl)), h2 ▸ hpay, h2 ▸ hlen, ih rest h⟩
            · cases h
        · cases h
      · rw [if_neg hl] at h; cases h

theorem isZero_sound {ty : PFTy} {v : EVal} (h : isZero ty v = true) : zeroOf ty v := by
  cases ty <;> cases v <;> first | exact h | cases h

mutual
theorem checkE_sound (ps : PSchema) (ty : PFTy) (v : EVal) (r : Rec) (h : checkE ps ty v r = true) : EncE ps ty v r := by
  cases v with
  | s x =>
    cases ty with
    | scalar t | enum => exact ⟨beq_iff_eq.mp (Bool.and_eq_true_iff.mp h).1, of_decide_eq_true (Bool.and_eq_true_iff.mp h).2⟩
    | msg i => cases h
  | msg fs =>
    cases ty with
    | msg i =>
      unfold checkE at h
      obtain ⟨hw, h⟩ := Bool.and_eq_true_iff.mp h
      split at h
      · split at h
        · obtain ⟨hpay, hlen⟩ := bodyC_sound ‹_› ‹_›
          exact ⟨beq_iff_eq.mp hw, _, hpay, hlen, checkSlots_sound ps _ fs _ h⟩
        · cases h
      · cases h
    | _ => cases h
termination_by structural v
theorem checkSlot_sound (ps : PSchema) (d : PDecl) (v : Slot) (rs : List Rec) (h : checkSlot ps d v rs = true) : EncSlot ps d v rs := by
  cases v with
  | req x =>
    cases d with
    | single t ty opt =>
      cases opt with
      | false =>
        unfold checkSlot at h
        split at h
        · exact .inl ⟨_, rfl, beq_iff_eq.mp (Bool.and_eq_true_iff.mp h).1, checkE_sound ps ty x _ (Bool.and_eq_true_iff.mp h).2⟩
        · exact .inr ⟨rfl, isZero_sound h⟩
        · cases h
      | true => cases h
    | _ => cases h
  | none =>
    cases d with
    | single t ty opt =>
      cases opt with
      | true => exact List.isEmpty_iff.mp h
      | false => cases h
    | oneof vs => exact List.isEmpty_iff.mp h
    | _ => cases h
  | some x =>
    cases d with
    | single t ty opt =>
      cases opt with
      | true =>
        unfold checkSlot at h
        split at h
        · exact ⟨_, rfl, beq_iff_eq.mp (Bool.and_eq_true_iff.mp h).1, checkE_sound ps ty x _ (Bool.and_eq_true_iff.mp h).2⟩
        · cases h
      | false => cases h
    | _ => cases h
  | rep xs =>
    cases d with
    | rep t ty =>
      unfold checkSlot at h
      split at h
      · split at h
        · exact (if_pos ‹_›).mpr ⟨_, ‹_›, checkPacked_sound t ty rs _ h⟩
        · cases h
      · exact (if_neg ‹_›).mpr (checkRep_sound ps t ty xs rs h)
    | single t ty opt => cases opt <;> cases h
    | _ => cases h
  | map kvs =>
    cases d with
    | map t k vty => exact checkMap_sound ps t k vty kvs rs h
    | single t ty opt => cases opt <;> cases h
    | _ => cases h
  | one t x =>
    cases d with
    | oneof vs =>
      unfold checkSlot at h
      split at h
      · exact ⟨_, _, ‹_›, rfl, beq_iff_eq.mp (Bool.and_eq_true_iff.mp h).1, checkE_sound ps _ x _ (Bool.and_eq_true_iff.mp h).2⟩
      · cases h
    | single t ty opt => cases opt <;> cases h
    | _ => cases h
termination_by structural v
theorem checkSlots_sound (ps : PSchema) (ds : List PDecl) (fs : Slots) (rs : List Rec) (h : checkSlots ps ds fs rs = true) :
    EncSlots ps ds fs rs := by
  cases fs with
  | nil => cases ds <;> first | exact List.isEmpty_iff.mp h | cases h
  | cons v rest =>
    cases ds with
    | nil => cases h
    | cons d ds =>
      have h := Bool.and_eq_true_iff.mp h
      exact ⟨checkSlot_sound ps d v _ h.1, checkSlots_sound ps ds rest _ h.2⟩
termination_by structural fs
theorem checkRep_sound (ps : PSchema) (t : Nat) (ty : PFTy) (xs : EVals) (rs : List Rec) (h : checkRep ps t ty xs rs = true) :
    EncRep ps t ty xs rs := by
  cases xs with
  | nil => exact List.isEmpty_iff.mp h
  | cons x rest =>
    cases rs with
    | nil => cases h
    | cons r rs' =>
      obtain ⟨h1, h3⟩ := Bool.and_eq_true_iff.mp h
      obtain ⟨h1, h2⟩ := Bool.and_eq_true_iff.mp h1
      exact ⟨r, rs', rfl, beq_iff_eq.mp h1, checkE_sound ps ty x r h2, checkRep_sound ps t ty rest rs' h3⟩
termination_by structural xs
theorem checkMap_sound (ps : PSchema) (t : Nat) (k : PType) (vty : PFTy) (kvs : Pairs) (rs : List Rec)
    (h : checkMap ps t k vty kvs rs = true) : EncMap ps t k vty kvs rs := by
  cases kvs with
  | nil => exact List.isEmpty_iff.mp h
  | cons kk v rest =>
    cases rs with
    | nil => cases h
    | cons e rs' =>
      unfold checkMap at h
      obtain ⟨h, hrest⟩ := Bool.and_eq_true_iff.mp h
      obtain ⟨h, hent⟩ := Bool.and_eq_true_iff.mp h
      obtain ⟨htag, hwt⟩ := Bool.and_eq_true_iff.mp h
      split at hent
      · split at hent
        · rename_i es _
          obtain ⟨hpay, hlen⟩ := bodyC_sound ‹_› ‹_›
          obtain ⟨hent, hv⟩ := Bool.and_eq_true_iff.mp hent
          obtain ⟨hall, hk⟩ := Bool.and_eq_true_iff.mp hent
          refine ⟨e, rs', rfl, beq_iff_eq.mp htag, beq_iff_eq.mp hwt, ⟨es, hpay, hlen, ?_, ?_, ?_⟩,
            checkMap_sound ps t k vty rest rs' hrest⟩
          · intro x hx
            have := List.all_eq_true.mp hall x hx
            rcases Bool.or_eq_true_iff.mp this with h | h
            · exact .inl (beq_iff_eq.mp h)
            · exact .inr (beq_iff_eq.mp h)
          · split at hk
            · exact .inl ⟨_, ‹_›, beq_iff_eq.mp (Bool.and_eq_true_iff.mp hk).1, of_decide_eq_true (Bool.and_eq_true_iff.mp hk).2⟩
            · exact .inr ⟨‹_›, hk⟩
            · cases hk
          · split at hv
            · exact .inl ⟨_, ‹_›, checkE_sound ps vty v _ hv⟩
            · exact .inr ⟨‹_›, isZero_sound hv⟩
            · cases hv
        · cases hent
      · cases hent
termination_by structural kvs
end

theorem check_sound (ps : PSchema) (i : Nat) (m : Slots) (bs : Bytes) (h : check ps i m bs = true) : Enc ps i m bs := by
  unfold check at h
  split at h
  · rename_i rs hp
    exact ⟨rs, parseRecsC_sound _ _ _ hp, checkSlots_sound ps _ m rs h⟩
  · cases h

end Pilota.Proto.Spec
