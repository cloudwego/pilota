import PilotaModel.Base.Bytes
import PilotaModel.Base.Varint
/-  Fixed-width integers: little/big-endian bytes and the two's-complement maps `toU` / `toS` invert each other. -/
namespace Pilota

theorem natToLE_length (w n : Nat) : (natToLE w n).length = w := by
  induction w generalizing n with
  | zero => rfl
  | succ w ih => simp [natToLE, ih]

theorem leToNat_natToLE (w n : Nat) : leToNat (natToLE w n) = n % 256 ^ w := by
  induction w generalizing n with
  | zero => simp [natToLE, leToNat, Nat.mod_one]
  | succ w ih =>
    simp only [natToLE, leToNat, ih]
    have h1 : (UInt8.ofNat (n % 256)).toNat = n % 256 := by
      simp [UInt8.toNat_ofNat']
    rw [h1, Nat.pow_succ, Nat.mul_comm (256 ^ w) 256, Nat.mod_mul]

@[simp] theorem encFixed_length (e w n) : (encFixed e w n).length = w := by
  cases e <;> simp [encFixed, natToBE, natToLE_length]

theorem decFixed_encFixed (e w n) : decFixed e (encFixed e w n) = n % 256 ^ w := by
  cases e <;> simp [encFixed, decFixed, natToBE, beToNat, leToNat_natToLE]

theorem pow256_pos (w : Nat) : 0 < 256 ^ w := Nat.pow_pos (by decide)

theorem pow256_even (w : Nat) (h : 0 < w) : 256 ^ w % 2 = 0 := by
  cases w with
  | zero => exact absurd h (Nat.lt_irrefl 0)
  | succ w => rw [Nat.pow_succ, Nat.mul_mod, show 256 % 2 = 0 from rfl, Nat.mul_zero, Nat.zero_mod]

theorem toU_lt (w : Nat) (i : Int) : toU w i < 256 ^ w := by
  unfold toU
  have hp := pow256_pos w
  have : i % ((256 ^ w : Nat) : Int) < ((256 ^ w : Nat) : Int) := Int.emod_lt_of_pos _ (by omega)
  have h0 : 0 ≤ i % ((256 ^ w : Nat) : Int) := Int.emod_nonneg _ (by omega)
  omega

theorem toS_of_lt (w n : Nat) (h : n < 256 ^ w / 2) : toS w n = n := by
  rw [toS, Nat.mod_eq_of_lt (Nat.lt_of_lt_of_le h (Nat.div_le_self _ _)), if_pos h]

theorem toU_natCast (w n : Nat) (h : n < 256 ^ w) : toU w (n : Int) = n := by
  rw [toU, ← Int.natCast_emod, Int.toNat_natCast, Nat.mod_eq_of_lt h]

theorem toS_toU (w : Nat) (hw : 0 < w) (i : Int) (h : inS w i) : toS w (toU w i) = i := by
  by_cases hi : 0 ≤ i
  · obtain ⟨k, rfl⟩ := Int.eq_ofNat_of_zero_le hi
    have hk : k < 256 ^ w / 2 := Int.ofNat_lt.mp h.2
    rw [toU_natCast w k (Nat.lt_of_lt_of_le hk (Nat.div_le_self _ _)), toS_of_lt w k hk]
  · -- a negative `i` is represented by `i + 256 ^ w`, in the upper half
    unfold toS toU inS at *
    have he := pow256_even w hw
    generalize 256 ^ w = M at *
    obtain ⟨u, hu⟩ : ∃ u : Nat, (u : Int) = i + M := ⟨(i + M).toNat, by omega⟩
    have hf : u < M ∧ ¬ u < M / 2 := by omega
    rw [← Int.add_emod_right, ← hu, ← Int.natCast_emod, Int.toNat_natCast, Nat.mod_mod, Nat.mod_eq_of_lt hf.1, if_neg hf.2]
    omega

theorem inS_toS (w : Nat) (hw : 0 < w) (n : Nat) : inS w (toS w n) := by
  unfold inS toS
  have he := pow256_even w hw
  have : n % 256 ^ w < 256 ^ w := Nat.mod_lt _ (pow256_pos w)
  generalize 256 ^ w = M at *
  generalize n % M = k at *
  split
  · exact ⟨Int.le_trans (Int.neg_nonpos_of_nonneg (Int.natCast_nonneg _)) (Int.natCast_nonneg _), Int.ofNat_lt.mpr ‹_›⟩
  · omega

theorem toU_toS (w : Nat) (n : Nat) : toU w (toS w n) = n % 256 ^ w := by
  unfold toS
  have hk : n % 256 ^ w < 256 ^ w := Nat.mod_lt _ (pow256_pos w)
  split
  · exact toU_natCast w _ hk
  · rw [toU, Int.sub_emod_right, ← Int.natCast_emod, Int.toNat_natCast, Nat.mod_mod]

/-- a length below `2^31` is its own `as i32`. -/
theorem toS4_eq (n : Nat) (h : n < 2 ^ 31) : toS 4 n = (n : Int) := toS_of_lt 4 n (by omega)

theorem nibble_div (hi lo : Nat) (h : lo < 16) : (hi * 16 + lo) / 16 = hi := by
  rw [Nat.add_comm, Nat.add_mul_div_right _ _ (by decide), Nat.div_eq_of_lt h, Nat.zero_add]

theorem nibble_mod (hi lo : Nat) (h : lo < 16) : (hi * 16 + lo) % 16 = lo := by
  rw [Nat.add_comm, Nat.add_mul_mod_self_right, Nat.mod_eq_of_lt h]

end Pilota
