import PilotaModel.Lemmas.PbRepeated
import PilotaModel.Proto.Schema
/-
  Every reader of the protobuf model is a `Reader x` (`PbOut`), by one traversal each; a skipper returns only the rest
  (`Skipper`), `merge_field` takes four more arguments (`FieldReader`), loops and buffer primitives have their own bound
  (`_sim`).  At `x = []` this is C10.  That a success does not depend on what follows is what `mergeField_rec` (PbFold),
  `loop_concat` (PbLoop) and `unknown_ignored_loop` (PbUnknown) use.
-/
namespace Pilota.Proto
open Pilota

theorem decodeKey_reader (x : Bytes) : Reader x decodeKey := by
  intro bs
  unfold decodeKey
  beside_step decodeVarint_reader x bs
  split
  · trivial
  · split
    · trivial
    · split
      · trivial
      · exact ⟨‹_›, rfl⟩

theorem checkWireType_cases (a b : WireType) : checkWireType a b = .ok () ∨ checkWireType a b = .err .invalid := by
  unfold checkWireType; split <;> simp

def StepOK {σ : Type} (step : σ → Bytes → Out (σ × Bytes)) : Prop :=
  ∀ s bs, Out.good (fun p => p.2.length < bs.length) (step s bs)

/-- the loop in front of `x`: the limit and the budget grow by what is appended. -/
theorem mergeLoopGo_sim {σ : Type} (step : σ → Bytes → Out (σ × Bytes)) (x : Bytes) (hs : ∀ s, Reader x (step s)) (limit : Nat) :
    ∀ (f : Nat) (s : σ) (bs : Bytes), bs.length < f →
      Out.Sim (fun p => p.2.length ≤ bs.length ∧ p.2.length = limit) (Out.withTail x)
        (mergeLoopGo step f s bs limit) (mergeLoopGo step (f + x.length) s (bs ++ x) (limit + x.length)) := by
  intro f
  induction f with
  | zero => intro s bs h; omega
  | succ f ih =>
    intro s bs hf
    rw [Nat.add_right_comm]
    unfold mergeLoopGo
    simp only [List.length_append, Nat.add_lt_add_iff_right, gt_iff_lt, ne_eq, Nat.add_right_cancel_iff]
    split
    · beside_step hs s bs
      exact (ih _ _ (by omega)).imp fun a ha => ⟨by omega, ha.2⟩
    · split
      · trivial
      · exact ⟨⟨Nat.le_refl _, by dsimp only; omega⟩, rfl⟩

theorem mergeLoop_reader {σ : Type} (step : σ → Bytes → Out (σ × Bytes)) (x : Bytes) (hs : ∀ s, Reader x (step s)) (s : σ) :
    Reader x (mergeLoop step s) := by
  intro bs
  unfold mergeLoop
  beside_step decodeVarint_reader x bs
  rename_i len r _ _
  refine .guard fun hle => ?_
  rw [show (r ++ x).length + 1 = r.length + 1 + x.length by simp only [List.length_append]; omega,
    show (r ++ x).length - len = r.length - len + x.length by simp only [List.length_append]; omega]
  exact (mergeLoopGo_sim step x hs _ _ s r (by omega)).imp fun a ha => by omega

theorem advance_sim (n : Nat) (bs x : Bytes) (h : n ≤ bs.length) :
    Out.Sim (fun r => r.length + n = bs.length) (· ++ x) (advance n bs) (advance n (bs ++ x)) := by
  have : n ≤ (bs ++ x).length := by simp; omega
  simp only [advance, h, this, if_true, List.drop_append_of_le_length h]
  exact ⟨by simp; omega, rfl⟩

theorem copyToBytes_sim (n : Nat) (bs x : Bytes) (h : n ≤ bs.length) :
    Out.Sim (fun p => p.2.length + n = bs.length) (Out.withTail x) (copyToBytes n bs) (copyToBytes n (bs ++ x)) := by
  have : n ≤ (bs ++ x).length := by simp; omega
  simp only [copyToBytes, h, this, if_true, List.drop_append_of_le_length h, List.take_append_of_le_length h]
  exact ⟨by simp; omega, rfl⟩

def Skipper (x : Bytes) (skip : WireType → Nat → Bytes → Out Bytes) : Prop :=
  ∀ wt tag bs, Out.Sim (fun r => r.length < bs.length) (· ++ x) (skip wt tag bs) (skip wt tag (bs ++ x))

theorem groupLoop_sim (skip : WireType → Nat → Bytes → Out Bytes) (x : Bytes) (hs : Skipper x skip) (tag : Nat) :
    ∀ (f : Nat) (bs : Bytes), bs.length < f →
      Out.Sim (fun r => r.length < bs.length) (· ++ x) (groupLoop skip tag f bs) (groupLoop skip tag (f + x.length) (bs ++ x)) := by
  intro f
  induction f with
  | zero => intro bs h; omega
  | succ f ih =>
    intro bs hf
    rw [Nat.add_right_comm]
    unfold groupLoop
    beside_step decodeKey_reader x bs
    split
    · split
      · trivial
      · exact ⟨‹_›, rfl⟩
    · beside_step hs _ _ _
      exact (ih _ (by omega)).imp fun a ha => by omega

theorem skipField_skipper (x : Bytes) (ctx : Nat) : Skipper x (skipField ctx) := by
  induction ctx with
  | zero => exact fun _ _ _ => trivial
  | succ c ih =>
    intro wt tag bs
    unfold skipField
    cases wt with
    | varint =>
      dsimp only
      beside_step decodeVarint_reader x bs
      exact (advance_sim 0 _ x (by omega)).imp fun a ha => by omega
    | i32 =>
      exact .guard fun h => (advance_sim 4 bs x h).imp fun a ha => by omega
    | i64 =>
      exact .guard fun h => (advance_sim 8 bs x h).imp fun a ha => by omega
    | len =>
      dsimp only
      beside_step decodeVarint_reader x bs
      exact .guard fun hn => (advance_sim _ _ x hn).imp fun a ha => by omega
    | sgroup =>
      simp only
      rw [show (bs ++ x).length + 1 = bs.length + 1 + x.length by simp; omega]
      beside_step groupLoop_sim (skipField c) x ih tag _ bs (Nat.lt_succ_self _)
      exact (advance_sim 0 _ x (by omega)).imp fun a ha => by omega
    | egroup => trivial

namespace Codec

theorem mergeBytes_reader (x : Bytes) : Reader x mergeBytes := by
  intro bs
  unfold mergeBytes
  beside_step decodeVarint_reader x bs
  exact .guard fun hn => (copyToBytes_sim _ _ x hn).imp fun a ha => by omega

theorem mergePayload_reader (c : Codec) (x : Bytes) : Reader x c.mergePayload := by
  intro bs
  unfold mergePayload
  cases hs : c.shape with
  | varint => dsimp only; beside_step decodeVarint_reader x bs; exact ⟨‹_›, rfl⟩
  | fixed w =>
    have hw := shape_fixed_pos c w hs
    refine .guard fun hle => ?_
    beside_step copyToBytes_sim w bs x hle
    exact ⟨by dsimp only; omega, rfl⟩
  | lenDelim =>
    dsimp only
    beside_step mergeBytes_reader x bs
    split
    · trivial
    · exact ⟨‹_›, rfl⟩

theorem merge_reader (c : Codec) (wt : WireType) (x : Bytes) : Reader x (c.merge wt) := by
  intro bs
  unfold merge
  rcases checkWireType_cases c.wt wt with h | h <;> rw [h]
  · exact mergePayload_reader c x bs
  · trivial

theorem packedStep_reader (c : Codec) (x : Bytes) (acc : List SVal) : Reader x (c.packedStep acc) := by
  intro bs
  unfold packedStep
  beside_step merge_reader c c.wt x bs; exact ⟨‹_›, rfl⟩

theorem mergeRepeated_reader (c : Codec) (wt : WireType) (acc : List SVal) (x : Bytes) : Reader x (c.mergeRepeated wt acc) := by
  intro bs
  unfold mergeRepeated
  split
  · exact mergeLoop_reader _ x (packedStep_reader c x) acc bs
  · rcases checkWireType_cases c.wt wt with h | h <;> rw [h]
    · dsimp only; beside_step merge_reader c wt x bs; exact ⟨‹_›, rfl⟩
    · trivial

theorem mergeAll_good (c : Codec) : ∀ (f : Nat) (acc : List SVal) (bs : Bytes), bs.length < f →
    Out.good (fun _ => True) (c.mergeAll f acc bs) := by
  intro f
  induction f with
  | zero => intro acc bs h; omega
  | succ f ih =>
    intro acc bs hf
    unfold mergeAll
    split
    · trivial
    · refine Out.good.cases (decodeKey_reader [] bs).safe ?_ fun _ => trivial
      intro ⟨⟨t, wt⟩, r⟩ (h1 : r.length < bs.length)
      simp only
      refine Out.good.cases (mergeRepeated_reader c wt acc [] r).safe ?_ fun _ => trivial
      intro ⟨acc', r'⟩ (h2 : r'.length < r.length)
      exact ih acc' r' (by omega)

end Codec

def FieldOK (rec : List FieldDecl → Slots → Nat → WireType → Bytes → Out (Slots × Bytes)) : Prop :=
  ∀ ds m tag wt bs, Out.good (fun p => p.2.length ≤ bs.length) (rec ds m tag wt bs)

def RecurOK : Recur → Prop
  | none => True
  | some rec => FieldOK rec

/-- `FieldOK` with the run on the input followed by `x` beside it.  `≤` where `Reader` has `<`, because `FieldOK` has it:
every arm consumes at least a byte, but `RecurOK.reader` (under `slotStep_ok`) has to start from a `RecurOK`. -/
def FieldReader (x : Bytes) (rec : List FieldDecl → Slots → Nat → WireType → Bytes → Out (Slots × Bytes)) : Prop :=
  ∀ ds m tag wt bs, Out.Sim (fun p => p.2.length ≤ bs.length) (Out.withTail x) (rec ds m tag wt bs) (rec ds m tag wt (bs ++ x))

def RecurReader (x : Bytes) : Recur → Prop
  | none => True
  | some rec => FieldReader x rec

/-- in front of nothing the second run is the first, so `RecurOK` is enough. -/
theorem RecurOK.reader {recur : Recur} (h : RecurOK recur) : RecurReader [] recur := by
  cases recur with
  | none => trivial
  | some rec => exact fun ds m tag wt bs => (List.append_nil bs).symm ▸ Out.Sim.of_good (h ds m tag wt bs) fun p => by simp [Out.withTail]

theorem fieldStep_reader (x : Bytes) (rec) (h : FieldReader x rec) (ds : List FieldDecl) (m : Slots) : Reader x (fieldStep rec ds m) := by
  intro bs
  unfold fieldStep
  beside_step decodeKey_reader x bs
  exact (h ds m _ _ _).imp fun a ha => by omega

theorem mergeE_reader (s : Schema) (x : Bytes) (recur : Recur) (hr : RecurReader x recur) (ty : FTy) (cur : EVal) (wt : WireType) :
    Reader x (mergeE s recur ty cur wt) := by
  intro bs
  unfold mergeE
  cases ty with
  | scalar c => dsimp only; beside_step Codec.merge_reader c wt x bs; exact ⟨‹_›, rfl⟩
  | msg i =>
    simp only
    rcases checkWireType_cases .len wt with h | h <;> rw [h]
    · cases recur with
      | none => trivial
      | some rec =>
        simp only
        beside_step mergeLoop_reader _ x (fieldStep_reader x rec hr (decls s i)) cur.fields bs; exact ⟨‹_›, rfl⟩
    · trivial

theorem lookupVariant_some (vs : List (Nat × FTy)) (tag : Nat) (h : (vs.map (·.1)).contains tag = true) :
    ∃ ty, lookupVariant vs tag = some ty := by
  obtain ⟨p, hp, rfl⟩ := List.mem_map.mp (List.contains_iff_mem.mp h)
  unfold lookupVariant
  cases hf : vs.find? (fun q => q.1 == p.1) with
  | some q => exact ⟨q.2, rfl⟩
  | none => exact absurd (List.find?_eq_none.mp hf p hp) (by simp)

/-- the arm of a field, entered because its tags contain the tag (so the `unreachable!` of the oneof arm is not reached). -/
theorem mergeSlot_reader (s : Schema) (x : Bytes) (recur : Recur) (hr : RecurReader x recur) (d : FieldDecl) (cur : Slot) (tag : Nat)
    (ht : d.tags.contains tag = true) (wt : WireType) : Reader x (mergeSlot s recur d cur tag wt) := by
  intro bs
  have hE := fun ty v wt => mergeE_reader s x recur hr ty v wt bs
  unfold mergeSlot
  cases d with
  | single t ty opt =>
    cases opt with
    | false =>
      cases cur with
      | req v => dsimp only; beside_step hE ty v wt; exact ⟨‹_›, rfl⟩
      | _ => trivial
    | true => dsimp only; beside_step hE ty _ wt; exact ⟨‹_›, rfl⟩
  | rep t ty =>
    cases cur with
    | rep xs =>
      cases ty with
      | scalar c => dsimp only; beside_step Codec.mergeRepeated_reader c wt [] x bs; exact ⟨‹_›, rfl⟩
      | msg i =>
        simp only
        rcases checkWireType_cases .len wt with h | h <;> rw [h]
        · dsimp only; beside_step hE (.msg i) _ .len; exact ⟨‹_›, rfl⟩
        · trivial
    | _ => trivial
  | map t kc vty =>
    cases cur with
    | map kvs =>
      cases recur with
      | none => trivial
      | some rec =>
        simp only
        beside_step mergeLoop_reader _ x (fieldStep_reader x rec hr (entryDecls kc vty)) (entry0 s kc vty) bs
        split
        · exact ⟨‹_›, rfl⟩
        · trivial
    | _ => trivial
  | oneof vs =>
    obtain ⟨ty, hty⟩ := lookupVariant_some vs tag ht
    simp only [hty]
    beside_step hE ty _ wt; exact ⟨‹_›, rfl⟩

/-! `merge_field` by the position of the arm: no field (the record is skipped), the first field's arm, or a later one. -/

theorem mergeFieldWith_nil (s : Schema) (recur : Recur) (ctx : Nat) (m : Slots) (tag : Nat) (wt : WireType) (bs : Bytes) :
    mergeFieldWith s recur ctx [] m tag wt bs = Out.mapOk (fun r => (m, r)) (skipField ctx wt tag bs) := by
  unfold mergeFieldWith mergeSlots
  cases skipField ctx wt tag bs <;> rfl

theorem mergeFieldWith_hit {s : Schema} {recur : Recur} {ctx tag : Nat} {wt : WireType} {bs : Bytes}
    {d : FieldDecl} {D : List FieldDecl} {m : Slot} {M : Slots} (ht : d.tags.contains tag = true) :
    mergeFieldWith s recur ctx (d :: D) (.cons m M) tag wt bs =
      Out.mapOk (fun p => (.cons p.1 M, p.2)) (mergeSlot s recur d m tag wt bs) := by
  unfold mergeFieldWith mergeSlots
  simp only [ht, if_true]
  cases mergeSlot s recur d m tag wt bs <;> rfl

theorem mergeFieldWith_miss {s : Schema} {recur : Recur} {ctx tag : Nat} {wt : WireType} {bs : Bytes}
    {d : FieldDecl} {D : List FieldDecl} {m : Slot} {M : Slots} (ht : ¬ d.tags.contains tag = true) :
    mergeFieldWith s recur ctx (d :: D) (.cons m M) tag wt bs =
      Out.mapOk (fun p => (.cons m p.1, p.2)) (mergeFieldWith s recur ctx D M tag wt bs) := by
  unfold mergeFieldWith
  conv => lhs; unfold mergeSlots
  simp only [ht]
  cases mergeSlots s recur tag wt bs D M with
  | none => cases skipField ctx wt tag bs <;> rfl
  | some o => cases o <;> rfl

theorem mergeFieldWith_reader (s : Schema) (x : Bytes) (recur : Recur) (hr : RecurReader x recur) (ctx : Nat) :
    FieldReader x (mergeFieldWith s recur ctx) := by
  intro ds m tag wt bs
  induction ds generalizing m with
  | nil => simp only [mergeFieldWith_nil]; exact (skipField_skipper x ctx wt tag bs).mapOk (fun _ => Nat.le_of_lt) fun _ => rfl
  | cons d ds ih =>
    cases m with
    | nil => trivial
    | cons v r =>
      by_cases ht : d.tags.contains tag = true
      · simp only [mergeFieldWith_hit ht]
        exact (mergeSlot_reader s x recur hr d v tag ht wt bs).mapOk (fun _ => Nat.le_of_lt) fun _ => rfl
      · simp only [mergeFieldWith_miss ht]
        exact (ih r).mapOk (fun _ h => h) fun _ => rfl

theorem mergeField_reader (s : Schema) (x : Bytes) (ctx : Nat) : FieldReader x (mergeField s ctx) := by
  induction ctx with
  | zero => exact mergeFieldWith_reader s x none trivial 0
  | succ c ih => exact mergeFieldWith_reader s x (some (mergeField s c)) ih (c + 1)

theorem mergeField_ok (s : Schema) (ctx : Nat) : FieldOK (mergeField s ctx) :=
  fun ds m tag wt bs => (mergeField_reader s [] ctx ds m tag wt bs).safe

theorem mergeFieldStep_reader (s : Schema) (ctx : Nat) (ds : List FieldDecl) (x : Bytes) (m : Slots) :
    Reader x (fieldStep (mergeField s ctx) ds m) := fieldStep_reader x _ (mergeField_reader s x ctx) ds m

theorem mergeFieldStep_ok (s : Schema) (ctx : Nat) (ds : List FieldDecl) : StepOK (fieldStep (mergeField s ctx) ds) :=
  fun m bs => (mergeFieldStep_reader s ctx ds [] m bs).safe

theorem recurOf_reader (s : Schema) (x : Bytes) (ctx : Nat) : RecurReader x (recurOf s ctx) := by
  cases ctx with
  | zero => trivial
  | succ c => exact mergeField_reader s x c

theorem decodeIntoCtx_good (s : Schema) (ctx i : Nat) (m : Slots) (bs : Bytes) :
    Out.good (fun _ => True) (decodeIntoCtx s ctx i m bs) := by
  unfold decodeIntoCtx
  exact Out.good.cases (mergeLoopGo_sim _ [] (mergeFieldStep_reader s ctx (decls s i) []) 0 (bs.length + 1) m bs
    (by omega)).safe (fun ⟨_, _⟩ _ => trivial) fun _ => trivial

theorem decodeLengthDelimited_good (s : Schema) (i : Nat) (bs : Bytes) :
    Out.good (fun _ => True) (decodeLengthDelimited s i bs) := by
  unfold decodeLengthDelimited
  exact Out.good.cases (mergeE_reader s [] _ (recurOf_reader s [] _) (.msg i) (.msg (defaultMsg s i)) .len bs).safe
    (fun ⟨_, _⟩ _ => trivial) fun _ => trivial

end Pilota.Proto
