import PilotaModel.Lemmas.PbScalar
import PilotaModel.Proto.Schema
/-
  Evaluation helpers for concrete witnesses (`encVar` / `varLen` / `Nat.log2` are defined by
  well-founded recursion and do not reduce by `rfl`), and the witness of the known finding PB2.
-/
namespace Pilota.Proto
open Pilota

theorem encVar_small (n : Nat) (h : n < 128) : encVar n = [UInt8.ofNat n] := by rw [encVar]; simp [h]

theorem encodedLenVarint_small (n : Nat) (h : n < 128) : encodedLenVarint n = 1 := by
  rw [encodedLenVarint_eq n (Nat.lt_trans h (by decide)), varLen]; simp [h]

/-! ### PB2: a negative-zero map value does not survive encode/decode when the feature is off -/

def negzeroSchema : Schema := [[.map 1 .int32 (.scalar .float)]]
def negzeroMsg : Slots := .cons (.map (.cons (.int 1) (.s (.f32 0x80000000)) .nil)) .nil
def poszeroMsg : Slots := .cons (.map (.cons (.int 1) (.s (.f32 0)) .nil)) .nil

theorem negzero_encode : encode negzeroSchema false 0 negzeroMsg = [0x0a, 0x02, 0x08, 0x01] := by
  simp [encode, negzeroSchema, negzeroMsg, decls, encSlots, encSlot, encPairs, keyBytes, encodeVarint, WireType.code,
    SVal.isDefault, EVal.isDefault, Codec.encodedLen, Codec.encode, Codec.wt, Codec.shape, Codec.payloadLen, Codec.encPayload,
    Codec.toU64, keyLen, SVal.asInt, toU]
  rw [encodedLenVarint_small 8 (by decide), encodedLenVarint_small 1 (by decide), encVar_small 10 (by decide),
    encVar_small 8 (by decide), encVar_small 1 (by decide), encVar_small 2 (by decide)]
  rfl

theorem negzero_decode : decode negzeroSchema 0 [0x0a, 0x02, 0x08, 0x01] = .ok poszeroMsg := by rfl

end Pilota.Proto
