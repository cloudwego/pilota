import PilotaModel.Lemmas.GenOut
/-
  The emitted decoders (TGen/Decode.lean) on EVERY input: never the panic branch, and a fuel budget that is
  linear in the input (times the longest typedef chain of the document) is never exhausted — generically over
  the reader record (`dec_safe`); the checked binary / LE readers and the compact reader are instances
  (Lemmas/GenTotalInst.lean).
-/
namespace Pilota.TGen
open Pilota Pilota.Thrift

def PrimOk {σ α : Type} (M : σ → Nat) (k : Nat) (p : σ → Out (α × σ)) : Prop :=
  ∀ s, (∀ m, p s ≠ .panic m) ∧ p s ≠ .fuel ∧ ∀ a s', p s = .ok (a, s') → M s' + k ≤ M s

/-- no primitive of the reader panics or runs out of fuel; a successful header or leaf read lowers the measure `M` by at least
`k` (`PrimOk M k`); struct begin / end and `skip` do not raise it -/
structure Rd.Safe {σ : Type} (R : Rd σ) (M : σ → Nat) (k : Nat) : Prop where
  sb : ∀ s, M (R.structBegin s) ≤ M s
  se : ∀ s, (∀ m, R.structEnd s ≠ .panic m) ∧ R.structEnd s ≠ .fuel ∧ ∀ s', R.structEnd s = .ok s' → M s' ≤ M s
  fb : PrimOk M k R.fieldBegin
  bool : PrimOk M k R.readBool
  i8 : PrimOk M k R.readI8
  i16 : PrimOk M k R.readI16
  i32 : PrimOk M k R.readI32
  i64 : PrimOk M k R.readI64
  double : PrimOk M k R.readDouble
  bytes : PrimOk M k R.readBytes
  uuid : PrimOk M k R.readUuid
  lb : PrimOk M k R.listBegin
  mb : PrimOk M k R.mapBegin
  skip : ∀ t s, (∀ m, R.skip t s ≠ .panic m) ∧ R.skip t s ≠ .fuel ∧ ∀ s', R.skip t s = .ok s' → M s' ≤ M s

theorem PrimOk.scale {σ α : Type} {M : σ → Nat} {p : σ → Out (α × σ)} (A : Nat) (h : PrimOk M 1 p) :
    PrimOk (fun s => A * M s) A p := by
  intro s
  obtain ⟨h1, h2, h3⟩ := h s
  refine ⟨h1, h2, ?_⟩
  intro a s' hs
  have := h3 a s' hs
  calc A * M s' + A = A * (M s' + 1) := by rw [Nat.mul_succ]
    _ ≤ A * M s := Nat.mul_le_mul_left A this

theorem Rd.Safe.scale {σ : Type} {R : Rd σ} {M : σ → Nat} (A : Nat) (h : R.Safe M 1) : R.Safe (fun s => A * M s) A where
  sb s := Nat.mul_le_mul_left A (h.sb s)
  se s := ⟨(h.se s).1, (h.se s).2.1, fun s' hs => Nat.mul_le_mul_left A ((h.se s).2.2 s' hs)⟩
  fb := h.fb.scale A
  bool := h.bool.scale A
  i8 := h.i8.scale A
  i16 := h.i16.scale A
  i32 := h.i32.scale A
  i64 := h.i64.scale A
  double := h.double.scale A
  bytes := h.bytes.scale A
  uuid := h.uuid.scale A
  lb := h.lb.scale A
  mb := h.mb.scale A
  skip t s := ⟨(h.skip t s).1, (h.skip t s).2.1, fun s' hs => Nat.mul_le_mul_left A ((h.skip t s).2.2 s' hs)⟩

/-! ### closed documents: every reference resolves, `void` only as a union variant (the `Ok(())` of a void method's result) -/

def STy.closed (d : Doc) : STy → Bool
  | .list e | .set e => e.closed d
  | .map k v => k.closed d && v.closed d
  | .ref n => (d.find n).isSome
  | .void => false
  | _ => true

def Def.closed (d : Doc) : Def → Prop
  | .struct fs => ∀ fl ∈ fs, fl.ty.closed d = true
  | .union vs => ∀ v ∈ vs, v.2 = .void ∨ v.2.closed d = true
  | .typedef t => t.closed d = true
  | .enum => True

def Doc.closed (d : Doc) : Prop := ∀ n df, d.find n = some df → df.closed d

def Def.closedB (d : Doc) : Def → Bool
  | .struct fs => fs.all (fun fl => fl.ty.closed d)
  | .union vs => vs.all (fun v => match v.2 with | .void => true | t => t.closed d)
  | .typedef t => t.closed d
  | .enum => true

/-- `Doc.closed` as a computation (what Props/C09Gen evaluates on its witness documents) -/
def Doc.closedB (d : Doc) : Bool := d.all (fun p => p.2.closedB d)

theorem Doc.closed_of_closedB (d : Doc) (h : d.closedB = true) : d.closed := by
  intro n df hf
  simp only [Doc.find, Option.map_eq_some_iff] at hf
  obtain ⟨p, hp, hdf⟩ := hf
  have hmem := List.mem_of_find?_eq_some hp
  simp only [Doc.closedB, List.all_eq_true] at h
  have := h p hmem
  rw [hdf] at this
  cases df with
  | struct fs => simpa [Def.closedB, Def.closed] using this
  | union vs =>
    simp only [Def.closedB, List.all_eq_true] at this
    intro v hv
    have := this v hv
    split at this
    · left; assumption
    · right; assumption
  | typedef t => simpa [Def.closedB, Def.closed] using this
  | enum => trivial

section safe
open Out
variable {σ α β : Type} {R : Rd σ} {M : σ → Nat} {A : Nat} {N F : Prop}

theorem PrimOk.safe {p : σ → Out (α × σ)} (h : PrimOk M A p) (s : σ) : (p s).Safe N F fun x => M x.2 + A ≤ M s :=
  .total (h s).1 (h s).2.1 fun x hx => (h s).2.2 x.1 x.2 hx

theorem Rd.Safe.se_safe (h : R.Safe M A) (s : σ) : (R.structEnd s).Safe N F fun s' => M s' ≤ M s :=
  .total (h.se s).1 (h.se s).2.1 (h.se s).2.2

theorem Rd.Safe.skip_safe (h : R.Safe M A) (t : TType) (s : σ) : (R.skip t s).Safe N F fun s' => M s' ≤ M s :=
  .total (h.skip t s).1 (h.skip t s).2.1 (h.skip t s).2.2

theorem unionVal_safe (vs : List (Int × STy)) (ret : Option (Int × TVal)) : (unionVal vs ret).Safe N F fun _ => True := by
  unfold unionVal; split
  · trivial
  · split <;> trivial

end safe

/-- the typedef chains of `d` are ranked by `rk` below `T`, and a header or leaf read pays for `T + 3` steps: `A` is the `k` of
`Rd.Safe R M k`, reached from the instances (which have `k = 1`) by `Rd.Safe.scale (T + 3)`. -/
structure Ranked (d : Doc) (rk : STy → Nat) (T A : Nat) : Prop where
  le : ∀ ty, rk ty ≤ T
  slack : T + 3 ≤ A
  typedef : ∀ n t, d.find n = some (.typedef t) → rk t + 1 ≤ rk (.ref n)

section generic
open Out
variable {σ : Type} (R : Rd σ) (M : σ → Nat) (A : Nat) (hR : R.Safe M A) (d : Doc) (rk : STy → Nat) (T : Nat)

include hR in
/-- The emitted decoders from every reader state at every fuel: **no panic** on a closed document, **no hang** on a
budget of `M s + T + 3` (for `decTy`: `rk ty + M s + 2`) when the typedef chains are ranked, and a success lowers the measure (by a header / leaf for a
value, a struct or a union body). -/
theorem dec_safe : ∀ f,
    (∀ ty s, (decTy R d f ty s).Safe (¬(d.closed ∧ ty.closed d = true)) (¬(Ranked d rk T A ∧ rk ty + M s + 2 ≤ f))
      fun x => M x.2 + A ≤ M s) ∧
    (∀ e n acc s, (decN R d f e n acc s).Safe (¬(d.closed ∧ e.closed d = true)) (¬(Ranked d rk T A ∧ M s + T + 3 ≤ f))
      fun x => M x.2 ≤ M s) ∧
    (∀ kt vt n acc s, (decPairs R d f kt vt n acc s).Safe (¬(d.closed ∧ kt.closed d = true ∧ vt.closed d = true))
      (¬(Ranked d rk T A ∧ M s + T + 3 ≤ f)) fun x => M x.2 ≤ M s) ∧
    (∀ fs slots s, (decFields R d f fs slots s).Safe (¬(d.closed ∧ ∀ fl ∈ fs, fl.ty.closed d = true))
      (¬(Ranked d rk T A ∧ M s + 1 ≤ f)) fun x => M x.2 + A ≤ M s) ∧
    (∀ vs ret s, (decUnion R d f vs ret s).Safe (¬(d.closed ∧ ∀ v ∈ vs, v.2 = .void ∨ v.2.closed d = true))
      (¬(Ranked d rk T A ∧ M s + 1 ≤ f)) fun x => M x.2 + A ≤ M s) := by
  intro f
  induction f with
  | zero =>
    exact ⟨fun _ _ h => absurd h.2 (by omega), fun _ _ _ _ h => absurd h.2 (by omega), fun _ _ _ _ _ h => absurd h.2 (by omega),
      fun _ _ _ h => absurd h.2 (by omega), fun _ _ _ h => absurd h.2 (by omega)⟩
  | succ f ih =>
    obtain ⟨ih1, ih2, ih3, ih4, ih5⟩ := ih
    refine ⟨?_, ?_, ?_, ?_, ?_⟩
    · intro ty s
      cases ty with
      | bool => exact Safe.mapOut (hR.bool.safe s)
      | i8 => exact Safe.mapOut (hR.i8.safe s)
      | i16 => exact Safe.mapOut (hR.i16.safe s)
      | i32 => exact Safe.mapOut (hR.i32.safe s)
      | i64 => exact Safe.mapOut (hR.i64.safe s)
      | double => exact Safe.mapOut (hR.double.safe s)
      | string => exact Safe.mapOut (hR.bytes.safe s)
      | binary => exact Safe.mapOut (hR.bytes.safe s)
      | uuid => exact Safe.mapOut (hR.uuid.safe s)
      | list e =>
        rw [decTy_list]
        exact (hR.lb.safe s).bind fun x _ hx =>
          ((ih2 e x.1.2 [] x.2).mono id (mt fun ⟨hr, hb⟩ => ⟨hr, by have := hr.slack; omega⟩) fun _ => id).bind fun y _ hy =>
            Nat.le_trans (Nat.add_le_add_right hy A) hx
      | set e =>
        rw [decTy_set]
        exact (hR.lb.safe s).bind fun x _ hx =>
          ((ih2 e x.1.2 [] x.2).mono id (mt fun ⟨hr, hb⟩ => ⟨hr, by have := hr.slack; omega⟩) fun _ => id).bind fun y _ hy =>
            Nat.le_trans (Nat.add_le_add_right hy A) hx
      | map kt vt =>
        rw [decTy_map]
        exact (hR.mb.safe s).bind fun x _ hx =>
          ((ih3 kt vt x.1.2.2 [] x.2).mono (mt fun ⟨hd, hc⟩ => ⟨hd, by simpa [STy.closed] using hc⟩)
            (mt fun ⟨hr, hb⟩ => ⟨hr, by have := hr.slack; omega⟩) fun _ => id).bind fun y _ hy =>
              Nat.le_trans (Nat.add_le_add_right hy A) hx
      | void => exact fun h => by simp [STy.closed] at h
      | ref n =>
        cases hfind : d.find n with
        | none => dsimp only [decTy]; rw [hfind]; exact fun h => by simp [STy.closed, hfind] at h
        | some df =>
          cases df with
          | struct fs =>
            rw [decTy_struct R d f s hfind]
            exact ((ih4 fs [] (R.structBegin s)).mono (mt fun ⟨hd, _⟩ => ⟨hd, hd n _ hfind⟩)
              (mt fun ⟨hr, hb⟩ => ⟨hr, by have := hR.sb s; omega⟩) fun _ => id).bind fun x _ hx =>
                (hR.se_safe x.2).bind fun s' _ hs => (finish_safe fs x.1).bind fun _ _ _ =>
                  Nat.le_trans (Nat.add_le_add_right hs A) (Nat.le_trans hx (hR.sb s))
          | union vs =>
            rw [decTy_union R d f s hfind]
            exact ((ih5 vs none (R.structBegin s)).mono (mt fun ⟨hd, _⟩ => ⟨hd, hd n _ hfind⟩)
              (mt fun ⟨hr, hb⟩ => ⟨hr, by have := hR.sb s; omega⟩) fun _ => id).bind fun x _ hx =>
                (hR.se_safe x.2).bind fun s' _ hs => Safe.mapOut ((unionVal_safe vs x.1).mono id id fun _ _ =>
                  Nat.le_trans (Nat.add_le_add_right hs A) (Nat.le_trans hx (hR.sb s)))
          | enum => dsimp only [decTy]; rw [hfind]; exact Safe.mapOut (hR.i32.safe s)
          | typedef t =>
            dsimp only [decTy]; rw [hfind]
            exact (ih1 t s).mono (mt fun ⟨hd, _⟩ => ⟨hd, hd n _ hfind⟩)
              (mt fun ⟨hr, hb⟩ => ⟨hr, by have := hr.typedef n t hfind; omega⟩) fun _ => id
    · intro e n acc s
      cases n with
      | zero => exact Nat.le_refl _
      | succ n =>
        rw [decN_succ]
        exact ((ih1 e s).mono id (mt fun ⟨hr, hb⟩ => ⟨hr, by have := hr.le e; omega⟩) fun _ => id).bind fun x _ hx =>
          (ih2 e n _ x.2).mono id (mt fun ⟨hr, hb⟩ => ⟨hr, by have := hr.slack; omega⟩) fun _ hy => by omega
    · intro kt vt n acc s
      cases n with
      | zero => exact Nat.le_refl _
      | succ n =>
        rw [decPairs_succ]
        exact ((ih1 kt s).mono (mt fun ⟨hd, hk, _⟩ => ⟨hd, hk⟩) (mt fun ⟨hr, hb⟩ => ⟨hr, by have := hr.le kt; omega⟩) fun _ => id).bind
          fun x _ hx => ((ih1 vt x.2).mono (mt fun ⟨hd, _, hv⟩ => ⟨hd, hv⟩)
            (mt fun ⟨hr, hb⟩ => ⟨hr, by have := hr.le vt; have := hr.slack; omega⟩) fun _ => id).bind
          fun y _ hy => (ih3 kt vt n _ y.2).mono id (mt fun ⟨hr, hb⟩ => ⟨hr, by have := hr.slack; omega⟩) fun _ hz => by omega
    · intro fs slots s
      rw [decFields_succ]
      refine (hR.fb.safe s).bind fun x _ hx => ?_
      split
      · exact hx
      · split
        next fl hfl =>
          exact ((ih1 fl.ty x.2).mono (mt fun ⟨hd, hfs⟩ => ⟨hd, hfs fl (List.mem_of_find?_eq_some hfl)⟩)
            (mt fun ⟨hr, hb⟩ => ⟨hr, by have := hr.le fl.ty; have := hr.slack; omega⟩) fun _ => id).bind fun y _ hy =>
              (ih4 fs _ y.2).mono id (mt fun ⟨hr, hb⟩ => ⟨hr, by have := hr.slack; omega⟩) fun _ hz => by omega
        next =>
          exact (hR.skip_safe x.1.1 x.2).bind fun s' _ hs =>
            (ih4 fs slots s').mono id (mt fun ⟨hr, hb⟩ => ⟨hr, by have := hr.slack; omega⟩) fun _ hz => by omega
    · intro vs ret s
      rw [decUnion_succ]
      refine (hR.fb.safe s).bind fun x _ hx => ?_
      split
      · exact hx
      · split
        next p hp =>
          split
          · trivial
          · have hmem := List.mem_of_find?_eq_some hp
            have hnv : p.2 ≠ .void := fun h => by have := List.find?_some hp; simp [h] at this; exact absurd this.2 (by decide)
            exact ((ih1 p.2 x.2).mono (mt fun ⟨hd, hvs⟩ => ⟨hd, (hvs p hmem).resolve_left hnv⟩)
              (mt fun ⟨hr, hb⟩ => ⟨hr, by have := hr.le p.2; have := hr.slack; omega⟩) fun _ => id).bind fun y _ hy =>
                (ih5 vs _ y.2).mono id (mt fun ⟨hr, hb⟩ => ⟨hr, by have := hr.slack; omega⟩) fun _ hz => by omega
        next =>
          exact (hR.skip_safe x.1.1 x.2).bind fun s' _ hs =>
            (ih5 vs ret s').mono id (mt fun ⟨hr, hb⟩ => ⟨hr, by have := hr.slack; omega⟩) fun _ hz => by omega

end generic

section fuel
variable {σ : Type} (R : Rd σ) (M : σ → Nat) (A : Nat) (hR : R.Safe M A) (d : Doc)

include hR in
theorem dec_len : ∀ f,
    (∀ ty s v s', decTy R d f ty s = .ok (v, s') → M s' + A ≤ M s) ∧
    (∀ e n acc s xs s', decN R d f e n acc s = .ok (xs, s') → M s' ≤ M s) ∧
    (∀ kt vt n acc s xs s', decPairs R d f kt vt n acc s = .ok (xs, s') → M s' ≤ M s) ∧
    (∀ fs slots s o s', decFields R d f fs slots s = .ok (o, s') → M s' + A ≤ M s) ∧
    (∀ vs ret s o s', decUnion R d f vs ret s = .ok (o, s') → M s' + A ≤ M s) := fun f =>
  have h := dec_safe R M A hR d (fun _ => 0) 0 f
  ⟨fun ty s _ _ e => (h.1 ty s).ok e, fun el n acc s _ _ e => (h.2.1 el n acc s).ok e,
    fun kt vt n acc s _ _ e => (h.2.2.1 kt vt n acc s).ok e, fun fs slots s _ _ e => (h.2.2.2.1 fs slots s).ok e,
    fun vs ret s _ _ e => (h.2.2.2.2 vs ret s).ok e⟩
end fuel

end Pilota.TGen
