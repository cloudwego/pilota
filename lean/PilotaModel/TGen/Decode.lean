import PilotaModel.TGen.Schema
import PilotaModel.TGen.Reader
/-
  What the `Message::decode` emitted by pilota-build computes (codegen/thrift/mod.rs
  `codegen_decode`, `codegen_decode_fields`, the union arm of `codegen_enum_impl`,
  codegen/thrift/ty.rs `codegen_decode_ty`), generic in the protocol reader.
  The result is the value as the emitted `encode` writes it back (fields in
  declaration order, absent optionals omitted, defaults filled in), i.e. decode ∘ encode
  of the emitted type seen on the wire.
-/
namespace Pilota.TGen
open Pilota Pilota.Thrift

mutual
def TVal.beq : TVal → TVal → Bool
  | .bool a, .bool b => a == b
  | .i8 a, .i8 b | .i16 a, .i16 b | .i32 a, .i32 b | .i64 a, .i64 b => a == b
  | .dbl a, .dbl b => a == b
  | .bin a, .bin b | .uuid a, .uuid b => a == b
  | .struct a, .struct b => TFields.beq a b
  | .list t a, .list u b | .set t a, .set u b => t == u && TVals.beq a b
  | .map k v a, .map k' v' b => k == k' && v == v' && TPairs.beq a b
  | _, _ => false
def TVals.beq : TVals → TVals → Bool
  | .nil, .nil => true
  | .cons a r, .cons b s => TVal.beq a b && TVals.beq r s
  | _, _ => false
def TFields.beq : TFields → TFields → Bool
  | .nil, .nil => true
  | .cons i a r, .cons j b s => i == j && TVal.beq a b && TFields.beq r s
  | _, _ => false
def TPairs.beq : TPairs → TPairs → Bool
  | .nil, .nil => true
  | .cons k a r, .cons l b s => TVal.beq k l && TVal.beq a b && TPairs.beq r s
  | _, _ => false
end

/-- `HashSet::insert` over the decoded elements, in wire order. -/
def setInsert (acc : List TVal) (x : TVal) : List TVal :=
  if acc.any (TVal.beq x) then acc else acc ++ [x]

/-- `HashMap::insert`: a later equal key replaces the value. -/
def mapInsert (acc : List (TVal × TVal)) (k v : TVal) : List (TVal × TVal) :=
  if acc.any (fun p => TVal.beq p.1 k) then acc.map (fun p => if TVal.beq p.1 k then (p.1, v) else p)
  else acc ++ [(k, v)]

def slotSet (slots : List (Int × TVal)) (id : Int) (v : TVal) : List (Int × TVal) :=
  (slots.filter (·.1 != id)) ++ [(id, v)]

def slotGet (slots : List (Int × TVal)) (id : Int) : Option TVal := (slots.find? (·.1 == id)).map (·.2)

/-- after the field loop: required check and defaults, in declaration order. -/
def finish : List Field → List (Int × TVal) → Out (List (Int × TVal))
  | [], _ => .ok []
  | f :: fs, slots =>
    match finish fs slots with
    | .ok rest =>
      match slotGet slots f.id, f.dflt with
      | some v, _ => .ok ((f.id, v) :: rest)
      | none, some dv => .ok ((f.id, dv) :: rest)
      | none, none => if f.required then .err .invalid else .ok rest
    | .err k => .err k | .panic m => .panic m | .fuel => .fuel

section
variable {σ : Type} (R : Rd σ) (d : Doc)

mutual
def decTy : Nat → STy → σ → Out (TVal × σ)
  | 0, _, _ => .fuel
  | _+1, .bool, s => mapOut (fun x => (.bool x.1, x.2)) (R.readBool s)
  | _+1, .i8, s => mapOut (fun x => (.i8 x.1, x.2)) (R.readI8 s)
  | _+1, .i16, s => mapOut (fun x => (.i16 x.1, x.2)) (R.readI16 s)
  | _+1, .i32, s => mapOut (fun x => (.i32 x.1, x.2)) (R.readI32 s)
  | _+1, .i64, s => mapOut (fun x => (.i64 x.1, x.2)) (R.readI64 s)
  | _+1, .double, s => mapOut (fun x => (.dbl x.1, x.2)) (R.readDouble s)
  | _+1, .string, s | _+1, .binary, s => mapOut (fun x => (.bin x.1, x.2)) (R.readBytes s)
  | _+1, .uuid, s => mapOut (fun x => (.uuid x.1, x.2)) (R.readUuid s)
  | f+1, .list e, s => match R.listBegin s with
    | .ok ((_, n), s) => match decN f e n [] s with      -- the wire element type is not looked at
      | .ok (xs, s) => .ok (.list (d.ttype e) (TVals.ofList xs), s)
      | .err k => .err k | .panic m => .panic m | .fuel => .fuel
    | .err k => .err k | .panic m => .panic m | .fuel => .fuel
  | f+1, .set e, s => match R.listBegin s with
    | .ok ((_, n), s) => match decN f e n [] s with
      | .ok (xs, s) => .ok (.set (d.ttype e) (TVals.ofList (xs.foldl setInsert [])), s)
      | .err k => .err k | .panic m => .panic m | .fuel => .fuel
    | .err k => .err k | .panic m => .panic m | .fuel => .fuel
  | f+1, .map k v, s => match R.mapBegin s with
    | .ok ((_, _, n), s) => match decPairs f k v n [] s with
      | .ok (kvs, s) => .ok (.map (d.ttype k) (d.ttype v) (TPairs.ofList (kvs.foldl (fun a p => mapInsert a p.1 p.2) [])), s)
      | .err k => .err k | .panic m => .panic m | .fuel => .fuel
    | .err k => .err k | .panic m => .panic m | .fuel => .fuel
  | f+1, .ref n, s => match d.find n with
    | some (.struct fs) => match decFields f fs [] (R.structBegin s) with
      | .ok (slots, s) => match R.structEnd s with
        | .ok s => match finish fs slots with
          | .ok out => .ok (.struct (TFields.ofList out), s)
          | .err k => .err k | .panic m => .panic m | .fuel => .fuel
        | .err k => .err k | .panic m => .panic m | .fuel => .fuel
      | .err k => .err k | .panic m => .panic m | .fuel => .fuel
    | some (.union vs) => match decUnion f vs none (R.structBegin s) with
      | .ok (ret, s) => match R.structEnd s with
        | .ok s => match ret with
          | some (id, v) => .ok (.struct (.cons id v .nil), s)
          | none => match vs with
            | (_, .void) :: _ => .ok (.struct .nil, s)          -- `Ok(())` of a void method
            | _ => .err .invalid                                -- "received empty union"
        | .err k => .err k | .panic m => .panic m | .fuel => .fuel
      | .err k => .err k | .panic m => .panic m | .fuel => .fuel
    | some .enum => mapOut (fun x => (.i32 x.1, x.2)) (R.readI32 s)
    | some (.typedef t) => decTy f t s
    | none => .panic "unresolved type"
  | _+1, .void, _ => .panic "void decoded as a value"
def decN : Nat → STy → Nat → List TVal → σ → Out (List TVal × σ)
  | 0, _, _, _, _ => .fuel
  | _+1, _, 0, acc, s => .ok (acc.reverse, s)
  | f+1, e, n+1, acc, s => match decTy f e s with
    | .ok (v, s) => decN f e n (v :: acc) s
    | .err k => .err k | .panic m => .panic m | .fuel => .fuel
def decPairs : Nat → STy → STy → Nat → List (TVal × TVal) → σ → Out (List (TVal × TVal) × σ)
  | 0, _, _, _, _, _ => .fuel
  | _+1, _, _, 0, acc, s => .ok (acc.reverse, s)
  | f+1, k, v, n+1, acc, s => match decTy f k s with
    | .ok (kv, s) => match decTy f v s with
      | .ok (vv, s) => decPairs f k v n ((kv, vv) :: acc) s
      | .err k => .err k | .panic m => .panic m | .fuel => .fuel
    | .err k => .err k | .panic m => .panic m | .fuel => .fuel
/-- the field loop of a struct: known id with the declared wire type → decode, anything else → skip. -/
def decFields : Nat → List Field → List (Int × TVal) → σ → Out (List (Int × TVal) × σ)
  | 0, _, _, _ => .fuel
  | f+1, fs, slots, s => match R.fieldBegin s with
    | .ok ((t, id), s) =>
      if t = .stop then .ok (slots, s)
      else match fs.find? (fun fl => fl.id == id && d.ttype fl.ty == t) with
        | some fl => match decTy f fl.ty s with
          | .ok (v, s) => decFields f fs (slotSet slots id v) s
          | .err k => .err k | .panic m => .panic m | .fuel => .fuel
        | none => match R.skip t s with
          | .ok s => decFields f fs slots s
          | .err k => .err k | .panic m => .panic m | .fuel => .fuel
    | .err k => .err k | .panic m => .panic m | .fuel => .fuel
/-- the field loop of a union: a known id is decoded by its DECLARED type whatever the wire type says. -/
def decUnion : Nat → List (Int × STy) → Option (Int × TVal) → σ → Out (Option (Int × TVal) × σ)
  | 0, _, _, _ => .fuel
  | f+1, vs, ret, s => match R.fieldBegin s with
    | .ok ((t, id), s) =>
      if t = .stop then .ok (ret, s)
      else match vs.find? (fun v => v.1 == id && !(v.2 == .void)) with
        | some (_, ty) =>
          if ret.isSome then .err .invalid                  -- "received multiple fields for union"
          else match decTy f ty s with
            | .ok (v, s) => decUnion f vs (some (id, v)) s
            | .err k => .err k | .panic m => .panic m | .fuel => .fuel
        | none => match R.skip t s with
          | .ok s => decUnion f vs ret s
          | .err k => .err k | .panic m => .panic m | .fuel => .fuel
    | .err k => .err k | .panic m => .panic m | .fuel => .fuel
end

/-- `<T as Message>::decode` for the item named `n`. -/
def decode (n : String) (s : σ) : Out (TVal × σ) :=
  decTy R d (3 * R.remaining s + 8) (.ref n) s

end

/-- one field of `T::default()`: the declared default, else `Default::default()` of a non-optional field. -/
def dfltEntry (z : STy → TVal) (fl : Field) : Option (Int × TVal) :=
  match fl.dflt with
  | some dv => some (fl.id, dv)
  | none => if fl.required then some (fl.id, z fl.ty) else none

/-- `Default::default()` of a declared type; the fuel bounds typedef links and struct / union nesting. -/
def zeroOf (d : Doc) : Nat → STy → TVal
  | _, .bool => .bool false | _, .i8 => .i8 0 | _, .i16 => .i16 0 | _, .i32 => .i32 0 | _, .i64 => .i64 0
  | _, .double => .dbl 0 | _, .string => .bin [] | _, .binary => .bin [] | _, .uuid => .uuid (List.replicate 16 0)
  | _, .list e => .list (d.ttype e) .nil | _, .set e => .set (d.ttype e) .nil
  | _, .map k v => .map (d.ttype k) (d.ttype v) .nil
  | _, .void => .struct .nil
  | 0, .ref _ => .struct .nil
  | f+1, .ref n => match d.find n with
    | some .enum => .i32 0
    | some (.typedef t) => zeroOf d f t
    | some (.union ((id, t) :: _)) => .struct (.cons id (zeroOf d f t) .nil)
    | some (.struct fs) => .struct (TFields.ofList (fs.filterMap (dfltEntry (zeroOf d f))))
    | _ => .struct .nil

/-- `T::default()` re-encoded (plugin/mod.rs `ImplDefaultPlugin`): declared defaults, `Default::default()`
for the other non-optional fields. -/
def defaultOf (d : Doc) (n : String) : TVal := zeroOf d (d.length + 2) (.ref n)

end Pilota.TGen
