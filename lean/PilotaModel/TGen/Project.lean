import PilotaModel.TGen.Decode
/-
  Value-level shadow of the emitted decoder: `projTy d dp f ty w` is what `decTy` returns when it is
  fed the binary encoding of the wire value `w` — computed on the value, without bytes.  It follows
  `decTy`'s recursion (and fuel) step for step.  `none` marks inputs outside the domain of the
  correspondence theorem (Lemmas/Tolerant.lean): a leaf or container whose wire shape is not the one
  the declared type reads (known findings D26 / D29 live there), an unknown field nested deeper
  than the skipper's budget, a field id outside i16.
-/
namespace Pilota.TGen
open Pilota Pilota.Thrift

/-- depth budget `dp` admits nesting `n` (`none` = the unchecked codec's iterative skipper: no limit) -/
def admits (dp : Option Nat) (n : Nat) : Prop := match dp with | none => True | some d => n ≤ d

/-- the iterative skipper exists for the big-endian unchecked reader only -/
def EndianOk (e : Endian) (dp : Option Nat) : Prop := dp = none → e = .be

def admitsB (dp : Option Nat) (n : Nat) : Bool := match dp with | none => true | some d => decide (n ≤ d)

theorem admitsB_iff (dp : Option Nat) (n : Nat) : admitsB dp n = true ↔ admits dp n := by
  cases dp <;> simp [admitsB, admits]

section
variable (d : Doc) (dp : Option Nat)

mutual
def projTy : Nat → STy → TVal → Option (Out TVal)
  | 0, _, _ => some .fuel
  | _+1, .bool, .bool b => some (.ok (.bool b))
  | _+1, .i8, .i8 n => some (.ok (.i8 n))
  | _+1, .i16, .i16 n => some (.ok (.i16 n))
  | _+1, .i32, .i32 n => some (.ok (.i32 n))
  | _+1, .i64, .i64 n => some (.ok (.i64 n))
  | _+1, .double, .dbl b => some (.ok (.dbl b))
  | _+1, .string, .bin b => some (.ok (.bin b))
  | _+1, .binary, .bin b => some (.ok (.bin b))
  | _+1, .uuid, .uuid b => some (.ok (.uuid b))
  | f+1, .list e, .list _ xs => match projN f e xs [] with
    | some (.ok ys) => some (.ok (.list (d.ttype e) (TVals.ofList ys)))
    | some (.err k) => some (.err k) | some (.panic m) => some (.panic m) | some .fuel => some .fuel
    | none => none
  | f+1, .set e, .set _ xs => match projN f e xs [] with
    | some (.ok ys) => some (.ok (.set (d.ttype e) (TVals.ofList (ys.foldl setInsert []))))
    | some (.err k) => some (.err k) | some (.panic m) => some (.panic m) | some .fuel => some .fuel
    | none => none
  | f+1, .map k v, .map _ _ kvs => match projPairs f k v kvs [] with
    | some (.ok ys) => some (.ok (.map (d.ttype k) (d.ttype v) (TPairs.ofList (ys.foldl (fun a p => mapInsert a p.1 p.2) []))))
    | some (.err k) => some (.err k) | some (.panic m) => some (.panic m) | some .fuel => some .fuel
    | none => none
  | f+1, .ref n, w => match d.find n with
    | some (.struct fs) => match w with
      | .struct wfs => match projFields f fs [] wfs with
        | some (.ok slots) => match finish fs slots with
          | .ok out => some (.ok (.struct (TFields.ofList out)))
          | .err k => some (.err k) | .panic m => some (.panic m) | .fuel => some .fuel
        | some (.err k) => some (.err k) | some (.panic m) => some (.panic m) | some .fuel => some .fuel
        | none => none
      | _ => none
    | some (.union vs) => match w with
      | .struct wfs => match projUnion f vs none wfs with
        | some (.ok ret) => match ret with
          | some (id, v) => some (.ok (.struct (.cons id v .nil)))
          | none => match vs with
            | (_, .void) :: _ => some (.ok (.struct .nil))
            | _ => some (.err .invalid)
        | some (.err k) => some (.err k) | some (.panic m) => some (.panic m) | some .fuel => some .fuel
        | none => none
      | _ => none
    | some .enum => match w with
      | .i32 n => some (.ok (.i32 n))
      | _ => none
    | some (.typedef t) => projTy f t w
    | none => some (.panic "unresolved type")
  | _+1, .void, _ => some (.panic "void decoded as a value")
  | _+1, _, _ => none
def projN : Nat → STy → TVals → List TVal → Option (Out (List TVal))
  | 0, _, _, _ => some .fuel
  | _+1, _, .nil, acc => some (.ok acc.reverse)
  | f+1, e, .cons x xs, acc => match projTy f e x with
    | some (.ok v) => projN f e xs (v :: acc)
    | some (.err k) => some (.err k) | some (.panic m) => some (.panic m) | some .fuel => some .fuel
    | none => none
def projPairs : Nat → STy → STy → TPairs → List (TVal × TVal) → Option (Out (List (TVal × TVal)))
  | 0, _, _, _, _ => some .fuel
  | _+1, _, _, .nil, acc => some (.ok acc.reverse)
  | f+1, k, v, .cons a b r, acc => match projTy f k a with
    | some (.ok ka) => match projTy f v b with
      | some (.ok vb) => projPairs f k v r ((ka, vb) :: acc)
      | some (.err e) => some (.err e) | some (.panic m) => some (.panic m) | some .fuel => some .fuel
      | none => none
    | some (.err e) => some (.err e) | some (.panic m) => some (.panic m) | some .fuel => some .fuel
    | none => none
def projFields : Nat → List Field → List (Int × TVal) → TFields → Option (Out (List (Int × TVal)))
  | 0, _, _, _ => some .fuel
  | _+1, _, slots, .nil => some (.ok slots)
  | f+1, fs, slots, .cons id v r =>
    if ¬ inS 2 id then none
    else match fs.find? (fun fl => fl.id == id && d.ttype fl.ty == v.ttype) with
      | some fl => match projTy f fl.ty v with
        | some (.ok pv) => projFields f fs (slotSet slots id pv) r
        | some (.err k) => some (.err k) | some (.panic m) => some (.panic m) | some .fuel => some .fuel
        | none => none
      | none => if admitsB dp v.need then projFields f fs slots r else none
def projUnion : Nat → List (Int × STy) → Option (Int × TVal) → TFields → Option (Out (Option (Int × TVal)))
  | 0, _, _, _ => some .fuel
  | _+1, _, ret, .nil => some (.ok ret)
  | f+1, vs, ret, .cons id v r =>
    if ¬ inS 2 id then none
    else match vs.find? (fun x => x.1 == id && !(x.2 == .void)) with
      | some (_, ty) =>
        if ret.isSome then some (.err .invalid)
        else if d.ttype ty != v.ttype then none            -- D29: the code decodes anyway; outside the domain
        else match projTy f ty v with
          | some (.ok pv) => projUnion f vs (some (id, pv)) r
          | some (.err k) => some (.err k) | some (.panic m) => some (.panic m) | some .fuel => some .fuel
          | none => none
      | none => if admitsB dp v.need then projUnion f vs ret r else none
end

end
end Pilota.TGen
