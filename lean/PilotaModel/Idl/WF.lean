import PilotaModel.Idl.Printer
/-
  `File.wf` — the descriptor values that the text syntax accepted by the real parser can
  represent.  Decidable (a `Bool` function).  Every clause points at the Rust line that makes the
  excluded values unrepresentable; the few clauses that exclude slightly more than necessary say so.
-/
namespace Pilota.Idl

/-- identifier.rs:14-16 `satisfy(is_ascii_alphabetic || '_')`, `take_while(is_ascii_alphanumeric || '_')` -/
def identOk : Ident → Bool
  | [] => false
  | c :: cs => isIdentStart c && cs.all isIdentChar

/-- mod.rs:45 `separated_list1(…, Ident::parse)`: at least one segment -/
def Path.wf (p : Path) : Bool := !p.segments.isEmpty && p.segments.all identOk

/-- literal.rs:14-16: the raw text must be readable between single or between double quotes -/
def literalOk (t : Literal) : Bool := litOk '\'' t || litOk '"' t

/-- annotation.rs:24-27 key = `[A-Za-z_][A-Za-z0-9_.]*` -/
def annKeyOk : Str → Bool
  | [] => false
  | c :: cs => isIdentStart c && cs.all (fun c => isIdentChar c || c == '.')

def Annotations.wf (as : Annotations) : Bool := as.all fun a => annKeyOk a.key && literalOk a.value

/-- ty.rs:41-84: the eleven base-type keywords are tried before `Path`; `list` / `set` / `map`
(ty.rs:85-139) are tried before it too and only fall through when no `<` follows — the printer
never puts `<` there, so excluding them is a simplification, not a limit of the parser. -/
def typeWords : List (List Char) := [
  cs!"string", cs!"void", cs!"byte", cs!"bool", cs!"binary", cs!"i8", cs!"i16", cs!"i32", cs!"i64",
  cs!"double", cs!"uuid", cs!"list", cs!"set", cs!"map"]

def Path.head (p : Path) : List Char := p.segments.headD []

def cppOk : Option CppType → Bool
  | none => true
  | some l => literalOk l

mutual
def Ty.wf : Ty → Bool
  | .list v c => v.wf && cppOk c
  | .set v c => v.wf && cppOk c
  | .map k v c => k.wf && v.wf && cppOk c
  | .path p => p.wf && !typeWords.contains p.head
  | _ => true
def TypeA.wf : TypeA → Bool
  | .mk t as => t.wf && Annotations.wf as
end

/-- constant.rs `FromStr` / `from_str_radix` reject magnitudes above `i64::MAX`, and the sign
is applied by negation: `i64::MIN` has no spelling. -/
def intOk (n : Int) : Bool := decide (-i64Max ≤ n) && decide (n ≤ i64Max)

/-- constant.rs:151-180: the text is exactly what `DoubleConstant::parse` recognises. -/
def doubleOk (t : Str) : Bool :=
  match DoubleConstant.parse t with
  | .ok t' [] => t' = t
  | _ => false

mutual
def ConstValue.wf : ConstValue → Bool
  | .bool _ => true
  /- constant.rs:22-30 `true` / `false` (with word boundary) are tried before `Path` -/
  | .path p => p.wf && p.head != cs!"true" && p.head != cs!"false"
  | .string l => literalOk l
  | .int n => intOk n
  | .double t => doubleOk t
  | .list xs => ConstValue.wfList xs
  | .map kvs => ConstValue.wfPairs kvs
def ConstValue.wfList : List ConstValue → Bool
  | [] => true
  | x :: xs => x.wf && ConstValue.wfList xs
def ConstValue.wfPairs : List (ConstValue × ConstValue) → Bool
  | [] => true
  | (k, v) :: kvs => k.wf && v.wf && ConstValue.wfPairs kvs
end

/-- ty.rs:96 after `list<…>` the parser looks for `blank cpp_type blank literal`; the word
`cpp_type` itself directly after such a type is excluded (a simplification: it is only misread when
a literal follows it, which no definition allows). -/
def TypeA.endsInListGt : TypeA → Bool
  | .mk (.list _ none) [] => true
  | _ => false

def nameAfterTypeOk (t : TypeA) (name : Ident) : Bool := !(t.endsInListGt && name = cs!"cpp_type")

def TypeA.headIs (t : TypeA) (w : List Char) : Bool :=
  match t with
  | .mk (.path p) _ => p.head = w
  | _ => false

/-- field.rs:28-31 `id.parse::<i32>()` on `digit1`; field.rs:34 `opt(Attribute::parse)` reads a
leading `required` / `optional` word as requiredness. -/
def Field.wf (f : Field) : Bool :=
  decide (0 ≤ f.id) && decide (f.id ≤ i32Max) && identOk f.name && f.ty.wf &&
  (match f.dflt with | none => true | some v => v.wf) && Annotations.wf f.annotations &&
  nameAfterTypeOk f.ty f.name &&
  (f.attr != .default || (!f.ty.headIs cs!"required" && !f.ty.headIs cs!"optional"))

def StructLike.wf (s : StructLike) : Bool :=
  identOk s.name && s.fields.all Field.wf && Annotations.wf s.annotations

def EnumValue.wf (v : EnumValue) : Bool :=
  identOk v.name && (match v.value with | none => true | some n => intOk n) && Annotations.wf v.annotations

def Enum.wf (e : Enum) : Bool := identOk e.name && e.values.all EnumValue.wf && Annotations.wf e.annotations

/-- function.rs:19 `opt(tuple((tag("oneway"), blank)))` reads a result type spelled `oneway` as the
flag; function.rs:32-42 `throws` after the argument list belongs to the previous function
(excluded as the first word of a result type: a simplification, the parser would still reject the
mis-reading for lack of `(`); function.rs:47-53 an argument without requiredness becomes `required`,
so a `required` argument may be printed without the keyword — its type must then not be spelled
`required` / `optional` (field.rs:34). -/
def Function.wf (f : Function) : Bool :=
  identOk f.name && f.resultType.wf && nameAfterTypeOk f.resultType f.name &&
  (f.oneway || !f.resultType.headIs cs!"oneway") && !f.resultType.headIs cs!"throws" &&
  f.arguments.all (fun a => a.wf && a.attr != .default &&
    (a.attr != .required || (!a.ty.headIs cs!"required" && !a.ty.headIs cs!"optional"))) && f.throws.all Field.wf &&
  Annotations.wf f.annotations

def Service.wf (s : Service) : Bool :=
  identOk s.name && (match s.ext with | none => true | some p => p.wf) && s.functions.all Function.wf &&
  Annotations.wf s.annotations

def Item.wf : Item → Bool
  | .include p => literalOk p
  | .cppInclude p => literalOk p
  /- namespace.rs:30-52 the scope is one of the eighteen tags; annotation.rs:18 `many1`: `Some([])` has no spelling -/
  | .namespace n => scopeTags.contains n.scope && n.name.wf &&
      (match n.annotations with | none => true | some as => !as.isEmpty && Annotations.wf as)
  | .typedef t => t.ty.wf && identOk t.alias && nameAfterTypeOk t.ty t.alias && Annotations.wf t.annotations
  | .constant c => c.ty.wf && identOk c.name && nameAfterTypeOk c.ty c.name && c.value.wf && Annotations.wf c.annotations
  | .enum e => e.wf
  | .struct s => s.wf
  | .union s => s.wf
  | .exception s => s.wf
  | .service s => s.wf

/-- thrift.rs:60-75 `package` is recomputed from the first `namespace rs`. -/
def File.wf (f : File) : Bool :=
  f.items.all Item.wf && (match f.package, packageOf f.items with
    | none, none => true
    | some a, some b => a = b
    | _, _ => false)

end Pilota.Idl
